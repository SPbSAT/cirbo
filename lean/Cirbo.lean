import Cirbo.Basic
import Cirbo.Generated.OpTables
import Cirbo.Spec.Bool
import Cirbo.Spec.WF
import Cirbo.Model.Ops
import Cirbo.Model.Val3
import Cirbo.Proofs.Ops
import Cirbo.Proofs.Val
import Cirbo.Model.TopSort
import Cirbo.Proofs.TopSort
import Cirbo.Model.Dict
import Cirbo.Model.Eval
import Cirbo.Model.Checkers
import Cirbo.Proofs.Wfs
import Cirbo.Proofs.Graph
import Cirbo.Proofs.Eval
import Cirbo.Proofs.EvalLazy
import Cirbo.Proofs.EvalCor
import Cirbo.Model.Traverse
import Cirbo.Proofs.OpenNode
import Cirbo.Proofs.Traverse
import Cirbo.Generated.TseytinTemplates
import Cirbo.Spec.Cnf
import Cirbo.Model.Tseytin
import Cirbo.Proofs.BoolVec
import Cirbo.Proofs.Lists
import Cirbo.Proofs.DictLemmas
import Cirbo.Proofs.TseytinTemplates
import Cirbo.Proofs.Tseytin
import Cirbo.Model.BitIO
import Cirbo.Proofs.BitIO
import Cirbo.Proofs.DictIO
import Cirbo.Model.Mutate
import Cirbo.Generated.CodecTables
import Cirbo.Model.Codec
import Cirbo.Model.Func
import Cirbo.Proofs.Func
import Cirbo.Model.Bench
import Cirbo.Proofs.Bench
import Cirbo.Model.Mutate2
import Cirbo.Model.Wrappers
import Cirbo.Proofs.Convert
import Cirbo.Proofs.Mutate
import Cirbo.Proofs.Rewrite
import Cirbo.Proofs.Frame
import Cirbo.Model.Miter
import Cirbo.Proofs.Connect
import Cirbo.Model.Passes
import Cirbo.Proofs.Dfs
import Cirbo.Proofs.Passes
import Cirbo.Proofs.PassOrder
import Cirbo.Proofs.PassRrg
import Cirbo.Generated.GenTables
import Cirbo.Model.Gen
import Cirbo.Proofs.Gen
import Cirbo.Proofs.GenQueue
import Cirbo.Proofs.SumR
import Cirbo.Proofs.GenSum
import Cirbo.Proofs.GenWeighted
import Cirbo.Proofs.GenBasis
import Cirbo.Model.Gen2
import Cirbo.Proofs.GenArith
import Cirbo.Model.Gen3
import Cirbo.Proofs.GenMul
import Cirbo.Proofs.GenDadda
import Cirbo.Proofs.GenPow2
import Cirbo.Proofs.GenKara
import Cirbo.Proofs.GenSquare
import Cirbo.Proofs.GenWallace
import Cirbo.Proofs.GenDiv
import Cirbo.Proofs.GenSqrt
import Cirbo.Model.Synth
import Cirbo.Proofs.Synth
import Cirbo.Model.SynthCircuit
import Cirbo.Proofs.SynthCircuit
import Cirbo.Generated.SynthTables
import Cirbo.Model.Norm
import Cirbo.Proofs.Norm
import Cirbo.Proofs.SortBy
import Cirbo.Proofs.Denorm
import Cirbo.Model.DbLookup
import Cirbo.Proofs.DbLookup
import Cirbo.Proofs.DbLookupC
import Cirbo.Model.Pattern
import Cirbo.Proofs.Pattern
import Cirbo.Model.ConeTable
import Cirbo.Proofs.ConeTable
import Cirbo.Proofs.GenLevels
import Cirbo.Proofs.RemoveGate
import Cirbo.Proofs.PassMuo
import Cirbo.Proofs.PassMdg
import Cirbo.Proofs.PassPipe
import Cirbo.Proofs.EvalProj
import Cirbo.Proofs.GatesTT
import Cirbo.Proofs.PassMeg
import Cirbo.Proofs.TrTerm
import Cirbo.Proofs.RrgIdem
import Cirbo.Proofs.MuoPost
import Cirbo.Proofs.MdgPost
import Cirbo.Proofs.MegPost
import Cirbo.Proofs.CycleCheck
import Cirbo.Proofs.LazyTerm
import Cirbo.Proofs.LazyShape
import Cirbo.Proofs.ConnRun
import Cirbo.Proofs.ConnInv
import Cirbo.Proofs.ConnFull
import Cirbo.Proofs.ConnRight
import Cirbo.Proofs.MiterFull
import Cirbo.Proofs.MoreOps
import Cirbo.Proofs.ConnWfs
import Cirbo.Proofs.FoldR
import Cirbo.Proofs.ReplaceA
import Cirbo.Proofs.ReplaceB
import Cirbo.Proofs.ReplaceWfs
import Cirbo.Proofs.ReplaceSem
import Cirbo.Proofs.Histories
import Cirbo.Proofs.BlockExtract
import Cirbo.Proofs.ConnTotal
import Cirbo.Proofs.BenchDoc
import Cirbo.Proofs.BenchStmts
import Cirbo.Proofs.BenchPieces
import Cirbo.Proofs.BenchLines
import Cirbo.Proofs.BenchPrinted
import Cirbo.Proofs.Rename
import Cirbo.Proofs.FuncSym
import Cirbo.Proofs.BenchWfs
import Cirbo.Proofs.EnumGates
import Cirbo.Proofs.CodecFields
import Cirbo.Proofs.CodecRT
import Cirbo.Proofs.FuncIdx
import Cirbo.Proofs.FuncDefine
import Cirbo.Proofs.FuncInt
import Cirbo.Proofs.GenCost
import Cirbo.Proofs.GenCostSimple
import Cirbo.Proofs.GenCostW
import Cirbo.Proofs.GenCostX
import Cirbo.Proofs.GenShape
import Cirbo.Proofs.GenMulWidth
import Cirbo.Generated.DocBounds
import Cirbo.Proofs.MiterTotal
import Cirbo.Proofs.GenTotal
import Cirbo.Proofs.GenContract
import Cirbo.Proofs.GenTotalSum
import Cirbo.Proofs.GenTotalWeighted
import Cirbo.Proofs.GenTotalW2
import Cirbo.Proofs.GenTotalArith
import Cirbo.Proofs.GenTotalDivSqrt
import Cirbo.Proofs.GenWalk
import Cirbo.Proofs.GenCostWitness
import Cirbo.Proofs.GenTotalMul1
import Cirbo.Proofs.GenTotalMul2
import Cirbo.Proofs.GenTotalWallace
import Cirbo.Proofs.CodecTotal
import Cirbo.Proofs.BenchTotal
import Cirbo.Proofs.ExtractTotal
import Cirbo.Proofs.ConeReach
