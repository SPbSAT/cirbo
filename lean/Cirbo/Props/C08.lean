import Cirbo.Proofs.GenMul
import Cirbo.Proofs.GenLevels
import Cirbo.Proofs.GenDadda
import Cirbo.Proofs.GenKara
import Cirbo.Proofs.GenSquare
import Cirbo.Proofs.GenWallace
import Cirbo.Proofs.GenMulWidth
import Cirbo.Proofs.GenTotalMul2
import Cirbo.Proofs.GenTotalWallace
/-!
# C08 — Multiplier and squarer generators compute exact products

-- OBLIGATION: c08_generators_only_add_fresh_gates
-- OBLIGATION: c08_partial_products
-- OBLIGATION: c08_mul_alter
-- OBLIGATION: c08_mul_default_partial
-- OBLIGATION: c08_mul_default
-- OBLIGATION: c08_weighted_levels_positional
-- OBLIGATION: c08_mul_dadda
-- OBLIGATION: c08_mul_karatsuba
-- OBLIGATION: c08_mul_karatsuba_pow2
-- OBLIGATION: c08_mul_pow2_m1
-- OBLIGATION: c08_square
-- OBLIGATION: c08_square_pow2_m1
-- OBLIGATION: c08_mul_wallace
-- OBLIGATION: c08_mul_default_width
-- OBLIGATION: c08_mul_wallace_width
-- OBLIGATION: c08_generators_return
-- PARTIAL: proved: the frame theorem for every mode (all are Prog programs), the partial-product matrix (sum_i 2^i*row_i = a*b), add_mul_alter = a*b exactly (positional), add_mul (DEFAULT) = a*b exactly (positional: on gapless weights the weighted sum returns the levels 0,1,2,... in order); and its result width n+m (n+m-1 when one operand has one bit) — c08_mul_default_width: the XAIG weighted loop outputs exactly the levels its level profile predicts (Proofs/GenShape.lean, exact per-level shape from the cost analysis) and for the partial-product profile the carries stay between 1 and the previous level's height (Proofs/GenMulWidth.lean); add_mul_dadda = a*b exactly with its result width (all reduction stages, any operand widths, both endiannesses). both Karatsuba variants (add_mul_karatsuba_with_efficient_sum = MulMode.KARATSUBA, and add_mul_karatsuba over add_mul_pow2_m1) = a*b exactly with their result width, by induction over the recursion (every threshold, operands of different widths, zero padding, the subtraction never borrows); add_mul_pow2_m1 = a*b exactly with its width (column-loop invariant over add_sum_pow2_m1, anti-diagonal re-summation of the partial-product matrix). both squarers (add_square_pow2_m1: the AND triangle built by the nested loops, the square as a sum over anti-diagonals; add_square: induction over the recursive split x = a + 2^mid*b) = x^2 exactly on 2n bits. add_mul_wallace = a*b exactly (Proofs/GenWallace.lean: the matrix with placeholder strings stands for Σ 2^col·(non-placeholder bits); every round keeps that number modulo 2^(n+m) — per-cell accounting over groups of three rows, carries out of the top column dropped; the two remaining rows are read as numbers with the gap logic; every label a run draws is "new_…", hence different from the placeholder — a second semantics SemF carries this along the same path). The result widths of DEFAULT (c08_mul_default_width) and Wallace (c08_mul_wallace_width: a non-empty column stays non-empty through the rounds and ends in row 0; the final adder then returns >= n+m bits) are proved as well. Totality is proved too (c08_generators_return, Proofs/GenTotalMul1/Mul2/Wallace): on operands of width >= 1 that are gates of the host circuit every multiplier and squarer returns — the fuel of the Karatsuba recursion, of the Dadda stages and of the Wallace rounds suffices, no column that is read is empty, no label clashes — or stops because the 128-bit space of random labels is exhausted. What remains by correspondence only: the tie between the model programs and the Python generators.
-/
namespace Cirbo

theorem c08_generators_only_add_fresh_gates {α} (p : Prog α) {st st' : GSt} {a : α}
    (h : p.run st = .ok (a, st')) (hw : WFS st.c) : GenFrame st.c st'.c := run_frame p h hw

/-- the partial-product matrix used by every mode: row `i` is `b_i · a`, so `Σ 2^i·row_i = a·b` -/
theorem c08_partial_products {st st' : GSt} {a b : List Label} {rows : List (List Label)}
    (h : (ppRows a b []).run st = .ok (rows, st')) (hw : WFS st.c)
    (ha : ∀ l ∈ a, l ∈ st.c.labels) (hb : ∀ l ∈ b, l ∈ st.c.labels) {bb v : Label → Bool} (hv : IsValB st.c bb v) :
    rows.length = b.length ∧ (∀ r ∈ rows, r.length = a.length) ∧
    ∃ v', IsValB st'.c bb v' ∧ (∀ l ∈ st.c.labels, v' l = v l) ∧ rowsVal v' rows = valLE v a * valLE v b := by
  obtain ⟨v', h1, h2, h3⟩ := run_total h hw hv
  obtain ⟨rows', e1, e2, e3, e4, _⟩ := sem_ppRows _ _ _ h3
  simp only [List.nil_append] at e1; subst e1
  exact ⟨e2, e3, v', h1, h2, e4.trans (mul_on_host false h2 ha hb)⟩

/-- **`add_mul_alter`** on arbitrary host gates: the result is exactly `a·b` -/
theorem c08_mul_alter {st st' : GSt} {x y out : List Label} {be : Bool}
    (h : (addMulAlter x y be).run st = .ok (out, st')) (hw : WFS st.c)
    (hx : ∀ l ∈ x, l ∈ st.c.labels) (hy : ∀ l ∈ y, l ∈ st.c.labels) {b v : Label → Bool} (hv : IsValB st.c b v) :
    ∃ v', IsValB st'.c b v' ∧ (∀ l ∈ st.c.labels, v' l = v l) ∧
      valLE v' (revIf out be) = valLE v (revIf x be) * valLE v (revIf y be) := by
  obtain ⟨v', h1, h2, h3, -⟩ := run_product h hw hx hy hv (fun _ h3 => ⟨sem_addMulAlter h3, trivial⟩)
  exact ⟨v', h1, h2, h3⟩

/-- **`add_mul` (DEFAULT)**: the returned bits carry strictly increasing levels whose weighted sum
is `a·b` -/
theorem c08_mul_default_partial {st st' : GSt} {x y out : List Label} {be : Bool}
    (h : (addMul x y be).run st = .ok (out, st')) (hw : WFS st.c)
    (hx : ∀ l ∈ x, l ∈ st.c.labels) (hy : ∀ l ∈ y, l ∈ st.c.labels) {b v : Label → Bool} (hv : IsValB st.c b v) :
    ∃ v', IsValB st'.c b v' ∧ (∀ l ∈ st.c.labels, v' l = v l) ∧
      ∃ lv : List (Nat × Label), revIf out be = lv.map (·.2) ∧ (lv.map (·.1)).Pairwise (· < ·) ∧
        wsum v' lv = valLE v (revIf x be) * valLE v (revIf y be) := by
  obtain ⟨v', h1, h2, h3⟩ := run_total h hw hv
  obtain ⟨lv, e1, e2, e3⟩ := sem_addMul_weighted h3
  exact ⟨v', h1, h2, lv, e1, e2, e3.trans (mul_on_host be h2 hx hy)⟩

/-- on weights without gaps (as the partial products have) `add_sum_n_weighted_bits` returns level `k`
at position `k` -/
theorem c08_weighted_levels_positional {v : Label → Bool} {ins out : List (Nat × Label)} {basis : BasisArg}
    (h : Sem (addSumWeighted ins basis) v out) (hg : Gapless 0 (ins.map (·.1))) :
    out.map (·.1) = List.range out.length := sem_addSumWeighted_levels h hg

/-- **`add_mul` (DEFAULT)** on arbitrary host gates: read in the requested endianness the returned
bits are exactly `a·b` -/
theorem c08_mul_default {st st' : GSt} {x y out : List Label} {be : Bool}
    (h : (addMul x y be).run st = .ok (out, st')) (hw : WFS st.c) (hx1 : 1 ≤ x.length)
    (hx : ∀ l ∈ x, l ∈ st.c.labels) (hy : ∀ l ∈ y, l ∈ st.c.labels) {b v : Label → Bool} (hv : IsValB st.c b v) :
    ∃ v', IsValB st'.c b v' ∧ (∀ l ∈ st.c.labels, v' l = v l) ∧
      valLE v' (revIf out be) = valLE v (revIf x be) * valLE v (revIf y be) := by
  obtain ⟨v', h1, h2, h3, -⟩ := run_product h hw hx hy hv (fun _ h3 => ⟨sem_addMul h3 hx1, trivial⟩)
  exact ⟨v', h1, h2, h3⟩

/-- **`add_mul_dadda`** on arbitrary host gates (any widths, either endianness): the result is exactly
`a·b`, on `n+m` bits (`n+m-1` when one operand has a single bit) -/
theorem c08_mul_dadda {st st' : GSt} {x y out : List Label} {be : Bool}
    (h : (addMulDadda x y be).run st = .ok (out, st')) (hw : WFS st.c)
    (hx : ∀ l ∈ x, l ∈ st.c.labels) (hy : ∀ l ∈ y, l ∈ st.c.labels) {b v : Label → Bool} (hv : IsValB st.c b v) :
    ∃ v', IsValB st'.c b v' ∧ (∀ l ∈ st.c.labels, v' l = v l) ∧
      valLE v' (revIf out be) = valLE v (revIf x be) * valLE v (revIf y be) ∧
      out.length = if (x.length == 1 || y.length == 1) then x.length + y.length - 1 else x.length + y.length :=
  run_product h hw hx hy hv (fun _ h3 => sem_addMulDadda h3)

/-- **`add_mul_karatsuba_with_efficient_sum` (MulMode.KARATSUBA)** on arbitrary host gates (any
widths, not both empty; either endianness): the result is exactly `a·b`, on `n+m` bits (`n+m-1`
when one operand has a single bit) -/
theorem c08_mul_karatsuba {st st' : GSt} {x y out : List Label} {be : Bool}
    (h : (addMulKaratsubaEff x y be).run st = .ok (out, st')) (hw : WFS st.c) (hne : 1 ≤ max x.length y.length)
    (hx : ∀ l ∈ x, l ∈ st.c.labels) (hy : ∀ l ∈ y, l ∈ st.c.labels) {b v : Label → Bool} (hv : IsValB st.c b v) :
    ∃ v', IsValB st'.c b v' ∧ (∀ l ∈ st.c.labels, v' l = v l) ∧
      valLE v' (revIf out be) = valLE v (revIf x be) * valLE v (revIf y be) ∧
      out.length = x.length + y.length - (if x.length == 1 || y.length == 1 then 1 else 0) :=
  run_product h hw hx hy hv (fun _ h3 => sem_addMulKaratsubaEff h3 hne)

/-- **`add_mul_karatsuba`** (base multiplier `add_mul_pow2_m1`), same statement -/
theorem c08_mul_karatsuba_pow2 {st st' : GSt} {x y out : List Label} {be : Bool}
    (h : (addMulKaratsuba x y be).run st = .ok (out, st')) (hw : WFS st.c) (hne : 1 ≤ max x.length y.length)
    (hx : ∀ l ∈ x, l ∈ st.c.labels) (hy : ∀ l ∈ y, l ∈ st.c.labels) {b v : Label → Bool} (hv : IsValB st.c b v) :
    ∃ v', IsValB st'.c b v' ∧ (∀ l ∈ st.c.labels, v' l = v l) ∧
      valLE v' (revIf out be) = valLE v (revIf x be) * valLE v (revIf y be) ∧
      out.length = x.length + y.length - (if x.length == 1 || y.length == 1 then 1 else 0) :=
  run_product h hw hx hy hv (fun _ h3 => sem_addMulKaratsuba h3 hne)

/-- **`add_mul_pow2_m1`** on arbitrary host gates, any widths, either endianness: exactly `a·b` -/
theorem c08_mul_pow2_m1 {st st' : GSt} {x y out : List Label} {be : Bool}
    (h : (addMulPow2M1 x y be).run st = .ok (out, st')) (hw : WFS st.c)
    (hx : ∀ l ∈ x, l ∈ st.c.labels) (hy : ∀ l ∈ y, l ∈ st.c.labels) {b v : Label → Bool} (hv : IsValB st.c b v) :
    ∃ v', IsValB st'.c b v' ∧ (∀ l ∈ st.c.labels, v' l = v l) ∧
      valLE v' (revIf out be) = valLE v (revIf x be) * valLE v (revIf y be) ∧
      out.length = (if x.length = 1 then y.length else if y.length = 1 then x.length else x.length + y.length) :=
  run_product h hw hx hy hv (fun _ h3 => sem_addMulPow2M1 h3)

/-- **`add_square`** on arbitrary host gates, any width, either endianness: exactly `x²`, on `2n`
bits (one bit for a one-bit operand) -/
theorem c08_square {st st' : GSt} {x out : List Label} {be : Bool}
    (h : (addSquare x be).run st = .ok (out, st')) (hw : WFS st.c)
    (hx : ∀ l ∈ x, l ∈ st.c.labels) {b v : Label → Bool} (hv : IsValB st.c b v) :
    ∃ v', IsValB st'.c b v' ∧ (∀ l ∈ st.c.labels, v' l = v l) ∧
      valLE v' (revIf out be) = valLE v (revIf x be) * valLE v (revIf x be) ∧
      out.length = (if x.length = 1 then 1 else 2 * x.length) :=
  run_product h hw hx hx hv (fun _ h3 => sem_addSquare h3)

/-- **`add_square_pow2_m1`**, same statement -/
theorem c08_square_pow2_m1 {st st' : GSt} {x out : List Label} {be : Bool}
    (h : (addSquarePow2M1 x be).run st = .ok (out, st')) (hw : WFS st.c)
    (hx : ∀ l ∈ x, l ∈ st.c.labels) {b v : Label → Bool} (hv : IsValB st.c b v) :
    ∃ v', IsValB st'.c b v' ∧ (∀ l ∈ st.c.labels, v' l = v l) ∧
      valLE v' (revIf out be) = valLE v (revIf x be) * valLE v (revIf x be) ∧
      out.length = (if x.length = 1 then 1 else 2 * x.length) :=
  run_product h hw hx hx hv (fun _ h3 => sem_addSquarePow2M1 h3)

/-- **`add_mul_wallace`** on arbitrary host gates, any widths, either endianness: exactly `a·b`.
(No assumption on the operand labels: only the partial products, which are fresh gates, are ever
compared with the placeholder string.) -/
theorem c08_mul_wallace {st st' : GSt} {x y out : List Label} {be : Bool}
    (h : (addMulWallace x y be).run st = .ok (out, st')) (hw : WFS st.c)
    (hx : ∀ l ∈ x, l ∈ st.c.labels) (hy : ∀ l ∈ y, l ∈ st.c.labels) {b v : Label → Bool} (hv : IsValB st.c b v) :
    ∃ v', IsValB st'.c b v' ∧ (∀ l ∈ st.c.labels, v' l = v l) ∧
      valLE v' (revIf out be) = valLE v (revIf x be) * valLE v (revIf y be) := by
  obtain ⟨v', h1, h2, h3⟩ := run_totalF h hw hv
  exact ⟨v', h1, h2, (semF_addMulWallace (fun _ => Drawn.ne_PH) h3).1.trans (mul_on_host be h2 hx hy)⟩

#print axioms c08_generators_only_add_fresh_gates
#print axioms c08_partial_products
#print axioms c08_mul_alter
#print axioms c08_mul_default_partial
#print axioms c08_mul_default
#print axioms c08_weighted_levels_positional
#print axioms c08_mul_dadda
#print axioms c08_mul_karatsuba
#print axioms c08_mul_karatsuba_pow2
#print axioms c08_mul_pow2_m1
#print axioms c08_square
#print axioms c08_square_pow2_m1

/-- **the result width of `add_mul` (DEFAULT)**: `n + m` bits, `n + m − 1` when one operand has a single
bit, for all widths ≥ 1, either endianness, operands any host gates -/
theorem c08_mul_default_width {st st' : GSt} {x y out : List Label} {be : Bool}
    (h : (addMul x y be).run st = .ok (out, st')) (hx : 1 ≤ x.length) (hy : 1 ≤ y.length) :
    out.length = if x.length = 1 ∨ y.length = 1 then x.length + y.length - 1 else x.length + y.length := by
  obtain ⟨n, hc, _⟩ := run_cost _ h
  exact shape_addMul hc hx hy

/-- **the result width of `add_mul_wallace`**: `n + m` bits, `n + m − 1` when one operand has a single bit
(on any host that has a valuation): a non-empty column of the matrix stays non-empty through every
round, after the last round (always on three rows) its bit is in row 0, and the final shifted adder over
the two rows then returns at least `n + m` bits, which are cut to `n + m` -/
theorem c08_mul_wallace_width {st st' : GSt} {x y out : List Label} {be : Bool}
    (h : (addMulWallace x y be).run st = .ok (out, st')) (hw : WFS st.c) {b v : Label → Bool} (hv : IsValB st.c b v)
    (hx : 1 ≤ x.length) (hy : 1 ≤ y.length) :
    out.length = if x.length = 1 ∨ y.length = 1 then x.length + y.length - 1 else x.length + y.length := by
  obtain ⟨v', _, _, h3⟩ := run_totalF h hw hv
  exact (semF_addMulWallace (fun _ => Drawn.ne_PH) h3).2 hx hy

#print axioms c08_mul_wallace
#print axioms c08_mul_default_width
#print axioms c08_mul_wallace_width

/-- **every multiplier and squarer returns on valid arguments** (operands of width ≥ 1 whose bits are gates of the
host circuit, either endianness, any two widths) — or stops because the 128-bit space of random labels is
exhausted.  With the result widths where the totality proofs carry them. -/
theorem c08_generators_return (st : GSt) :
    (∀ a b be, (∀ l ∈ a, l ∈ st.c.labels) → (∀ l ∈ b, l ∈ st.c.labels) → a ≠ [] → b ≠ [] →
      Returns (addMul a b be) st (fun _ => True) ∧ Returns (addMulAlter a b be) st (fun r => r ≠ []) ∧
      Returns (addMulPow2M1 a b be) st (fun r => r.length =
        if a.length = 1 then b.length else if b.length = 1 then a.length else a.length + b.length) ∧
      Returns (addMulKaratsuba a b be) st (fun r => r.length = a.length + b.length - (if a.length == 1 || b.length == 1 then 1 else 0)) ∧
      Returns (addMulKaratsubaEff a b be) st (fun r => r.length = a.length + b.length - (if a.length == 1 || b.length == 1 then 1 else 0)) ∧
      Returns (addMulDadda a b be) st (fun r => r.length =
        if (a.length == 1 || b.length == 1) then a.length + b.length - 1 else a.length + b.length) ∧
      Returns (addMulWallace a b be) st (fun r => r.length =
        if a.length = 1 ∨ b.length = 1 then a.length + b.length - 1 else a.length + b.length)) ∧
    (∀ x be, (∀ l ∈ x, l ∈ st.c.labels) → x ≠ [] →
      Returns (addSquare x be) st (fun r => r ≠ []) ∧
      Returns (addSquarePow2M1 x be) st (fun r => r.length = if x.length = 1 then 1 else 2 * x.length)) := by
  constructor
  · intro a b be ha hb hna hnb
    have h1 : 1 ≤ a.length := List.length_pos_iff.mpr hna
    have h2 : 1 ≤ b.length := List.length_pos_iff.mpr hnb
    exact ⟨((yields_addMul be h1 h2).shape fun _ _ => trivial).returns (by lmem),
      ((yields_addMulAlter be h1 h2).shape fun _ => List.length_pos_iff.mp).returns (by lmem),
      (yields_addMulPow2M1 be h1 h2).returns (by lmem),
      (yields_karaTop karaBase_mulPow2M1 be (by omega)).returns (by lmem),
      (yields_karaTop karaBase_lastStep be (by omega)).returns (by lmem),
      (yields_addMulDadda be h1 h2).returns (by lmem),
      (yields_addMulWallace be h1 h2).returns (by lmem)⟩
  · intro x be hx hne
    have h1 := List.length_pos_iff.mpr hne
    exact ⟨((yields_addSquare be h1).shape fun _ => List.length_pos_iff.mp).returns hx,
      (yields_addSquarePow2M1 be h1).returns hx⟩

#print axioms c08_generators_return

end Cirbo
