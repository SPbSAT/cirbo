import Cirbo.Proofs.GenWeighted
import Cirbo.Proofs.GenBasis
import Cirbo.Proofs.GenPow2
import Cirbo.Proofs.GenCostX
import Cirbo.Generated.DocBounds
import Cirbo.Proofs.GenTotalW2
import Cirbo.Proofs.GenWalk
/-!
# C07 — Summation generators compute exact sums within the promised basis

-- OBLIGATION: c07_generators_only_add_fresh_gates
-- OBLIGATION: c07_tt_table_is_correct
-- OBLIGATION: c07_sum_n_bits
-- OBLIGATION: c07_sum_n_bits_easy
-- OBLIGATION: c07_sum_two_numbers
-- OBLIGATION: c07_sum_two_numbers_with_shift
-- OBLIGATION: c07_weighted_sum
-- OBLIGATION: c07_weighted_sum_naive
-- OBLIGATION: c07_aig_basis_sum_n_bits
-- OBLIGATION: c07_aig_basis_weighted
-- OBLIGATION: c07_sum_pow2_m1
-- OBLIGATION: c07_gate_count_sum_n_bits
-- OBLIGATION: c07_gate_count_sum_n_bits_easy
-- OBLIGATION: c07_gate_count_weighted_naive
-- OBLIGATION: c07_gate_count_weighted_partial
-- OBLIGATION: c07_documented_bounds_hold
-- OBLIGATION: c07_generators_return
-- THOROUGH-WITNESS: Cirbo.Proofs.GenCostWitness Cirbo.weighted_xaig_documented_bound_fails
-- PARTIAL: gate counts: the documented bounds are proved for add_sum_n_bits (4.5n-2m in XAIG, 7n-3m in AIG), add_sum_n_bits_easy (5n), add_sum_n_weighted_bits_naive (5n-3m, 7n-3m) and add_sum_n_weighted_bits in AIG (7n-3m) — in each case a slightly stronger bound, by a cost semantics of generator programs (Cost, run_cost) and potential arguments. For add_sum_n_weighted_bits in XAIG the documented 4.5n-2m is FALSE (open known finding; Proofs/GenCostWitness.lean exhibits a run of the model with n=35, m=13 and 132 gates (the program's path is kernel-evaluated, Proofs/GenWalk.lean transfers it to the run; the harness exhibits it on the code): the theorem proved is 4.5n-1.5m (c07_gate_count_weighted_partial). add_sum_pow2_m1 documents no bound. Termination and totality are proved (c07_generators_return, Proofs/GenTotal*.lean): on valid arguments every summation generator returns — the fuel of every loop suffices, no block gets a list of the wrong length, no label clashes — or stops because the 128-bit space of random labels is exhausted. XAIG membership is immediate (every type of the regenerated table is a binary gate type: ttType_ok); weights are naturals in the model.
-/
namespace Cirbo

/-- every generator is a `Prog`; running any `Prog` on a host satisfying the C02 invariant keeps the
invariant, the inputs and the blocks, appends only non-INPUT gates of accepted arity, appends
outputs only through `mark_as_output`, and every valuation of the host extends to the result under
the same input assignment — i.e. **pre-existing gates keep their function**. -/
theorem c07_generators_only_add_fresh_gates {α} (p : Prog α) {st st' : GSt} {a : α}
    (h : p.run st = .ok (a, st')) (hw : WFS st.c) : GenFrame st.c st'.c := run_frame p h hw

/-- the regenerated `binary_tt_to_type` table: each 4-bit string denotes a binary gate type whose
Boolean function is that truth table -/
theorem c07_tt_table_is_correct {a b c d : Bool} {ty : GateType} (h : Gen.ttType a b c d = some ty) (x y : Bool) :
    tyOk ty 2 = true ∧ bfun ty [x, y] = some (ttApply (a, b, c, d) x y) := ⟨ttType_ok h, ttType_sem h x y⟩

/-- **`add_sum_n_bits`** on arbitrary gates of a host, any basis spelling, both endiannesses: the
host keeps its function and the returned bits encode the number of true operand bits. -/
theorem c07_sum_n_bits {st st' : GSt} {ins out : List Label} {basis : BasisArg} {be : Bool}
    (h : (addSumNBits ins basis be).run st = .ok (out, st')) (hw : WFS st.c) (hin : ∀ l ∈ ins, l ∈ st.c.labels)
    {b v : Label → Bool} (hv : IsValB st.c b v) :
    ∃ v', IsValB st'.c b v' ∧ (∀ l ∈ st.c.labels, v' l = v l) ∧ valLE v' (revIf out be) = cnt v ins := by
  obtain ⟨v', h1, h2, h3⟩ := run_total h hw hv
  exact ⟨v', h1, h2, by rw [sem_addSumNBits h3, cnt_congr (fun l hl => h2 l (hin l hl))]⟩

theorem c07_sum_n_bits_easy {st st' : GSt} {ins out : List Label} {be : Bool}
    (h : (addSumNBitsEasy ins be).run st = .ok (out, st')) (hw : WFS st.c) (hin : ∀ l ∈ ins, l ∈ st.c.labels)
    {b v : Label → Bool} (hv : IsValB st.c b v) :
    ∃ v', IsValB st'.c b v' ∧ (∀ l ∈ st.c.labels, v' l = v l) ∧ valLE v' (revIf out be) = cnt v ins := by
  obtain ⟨v', h1, h2, h3⟩ := run_total h hw hv
  exact ⟨v', h1, h2, by rw [sem_addSumNBitsEasy h3, cnt_congr (fun l hl => h2 l (hin l hl))]⟩

/-- **`add_sum_two_numbers`**: the result is `a + b` (numbers read in the requested endianness) -/
theorem c07_sum_two_numbers {st st' : GSt} {x y out : List Label} {be : Bool}
    (h : (addSumTwoNumbers x y be).run st = .ok (out, st')) (hw : WFS st.c)
    (hx : ∀ l ∈ x, l ∈ st.c.labels) (hy : ∀ l ∈ y, l ∈ st.c.labels)
    {b v : Label → Bool} (hv : IsValB st.c b v) :
    ∃ v', IsValB st'.c b v' ∧ (∀ l ∈ st.c.labels, v' l = v l) ∧
      valLE v' (revIf out be) = valLE v (revIf x be) + valLE v (revIf y be) := by
  obtain ⟨v', h1, h2, h3⟩ := run_total h hw hv
  refine ⟨v', h1, h2, ?_⟩
  rw [(sem_addSumTwoNumbers h3).1, valLE_revIf_congr be h2 hx, valLE_revIf_congr be h2 hy]

/-- **`add_sum_two_numbers_with_shift`** for every shift (also beyond `len(a)`): `a + b·2^shift` -/
theorem c07_sum_two_numbers_with_shift {st st' : GSt} {x y out : List Label} {be : Bool} {shift : Nat}
    (h : (addSumTwoNumbersWithShift shift x y be).run st = .ok (out, st')) (hw : WFS st.c)
    (hx : ∀ l ∈ x, l ∈ st.c.labels) (hy : ∀ l ∈ y, l ∈ st.c.labels)
    {b v : Label → Bool} (hv : IsValB st.c b v) :
    ∃ v', IsValB st'.c b v' ∧ (∀ l ∈ st.c.labels, v' l = v l) ∧
      valLE v' (revIf out be) = valLE v (revIf x be) + 2 ^ shift * valLE v (revIf y be) := by
  obtain ⟨v', h1, h2, h3⟩ := run_total h hw hv
  refine ⟨v', h1, h2, ?_⟩
  rw [(sem_addSumTwoNumbersWithShift h3).1, valLE_revIf_congr be h2 hx, valLE_revIf_congr be h2 hy]

/-- **`add_sum_n_weighted_bits`**: `Σ out·2^level = Σ in·2^weight` with pairwise distinct (strictly
increasing) output levels, for every weight vector, basis spelling and host -/
theorem c07_weighted_sum {st st' : GSt} {ins out : List (Nat × Label)} {basis : BasisArg}
    (h : (addSumWeighted ins basis).run st = .ok (out, st')) (hw : WFS st.c)
    (hin : ∀ p ∈ ins, p.2 ∈ st.c.labels) {b v : Label → Bool} (hv : IsValB st.c b v) :
    (out.map (·.1)).Pairwise (· < ·) ∧
    ∃ v', IsValB st'.c b v' ∧ (∀ l ∈ st.c.labels, v' l = v l) ∧ wsum v' out = wsum v ins := by
  obtain ⟨v', h1, h2, h3⟩ := run_total h hw hv
  obtain ⟨e, d⟩ := sem_addSumWeighted h3
  exact ⟨d, v', h1, h2, by rw [e, wsum_congr (fun p hp => h2 _ (hin p hp))]⟩

theorem c07_weighted_sum_naive {st st' : GSt} {ins out : List (Nat × Label)} {basis : BasisArg}
    (h : (addSumWeightedNaive ins basis).run st = .ok (out, st')) (hw : WFS st.c)
    (hin : ∀ p ∈ ins, p.2 ∈ st.c.labels) {b v : Label → Bool} (hv : IsValB st.c b v) :
    (out.map (·.1)).Pairwise (· < ·) ∧
    ∃ v', IsValB st'.c b v' ∧ (∀ l ∈ st.c.labels, v' l = v l) ∧ wsum v' out = wsum v ins := by
  obtain ⟨v', h1, h2, h3⟩ := run_total h hw hv
  obtain ⟨e, d⟩ := sem_addSumWeightedNaive h3
  exact ⟨d, v', h1, h2, by rw [e, wsum_congr (fun p hp => h2 _ (hin p hp))]⟩

/-- with the AIG basis — enum member or any spelling of the string — no XOR/NXOR gate is added -/
theorem c07_aig_basis_sum_n_bits {st st' : GSt} {ins out : List Label} {basis : BasisArg} {be : Bool}
    (hb : basis.resolve = .ok .aig) (h : (addSumNBits ins basis be).run st = .ok (out, st')) :
    ∃ new, st'.c.gates = st.c.gates ++ new ∧ ∀ g ∈ new, g.ty ≠ .XOR ∧ g.ty ≠ .NXOR :=
  run_emits (emits_addSumNBits_aig hb) h

theorem c07_aig_basis_weighted {st st' : GSt} {ins out : List (Nat × Label)} {basis : BasisArg}
    (hb : basis.resolve = .ok .aig) :
    ((addSumWeighted ins basis).run st = .ok (out, st') →
      ∃ new, st'.c.gates = st.c.gates ++ new ∧ ∀ g ∈ new, g.ty ≠ .XOR ∧ g.ty ≠ .NXOR) ∧
    ((addSumWeightedNaive ins basis).run st = .ok (out, st') →
      ∃ new, st'.c.gates = st.c.gates ++ new ∧ ∀ g ∈ new, g.ty ≠ .XOR ∧ g.ty ≠ .NXOR) :=
  ⟨fun h => run_emits (emits_addSumWeighted_aig hb).1 h, fun h => run_emits (emits_addSumWeighted_aig hb).2 h⟩

/-! Non-vacuity: a run that succeeds, on a host built through the C02 operations -/
def c07Host : R Circuit := runOps Circuit.empty [.addInputs ["a", "b", "c", "d", "e"]]
/-- the path of that program, followed with the counter alone (`Proofs/GenWalk.lean`): 3 result bits, 17 labels
drawn, 17 gates added -/
theorem c07_walk_sum_n_bits : ((addSumNBits ["a", "b", "c", "d", "e"] (.str "aig") false).walk 0 []).map
    (fun x => (x.1.length, x.2)) = some (3, 17, 17) := by decide +kernel
def c07HostC : Circuit := ⟨["a", "b", "c", "d", "e"].map (⟨·, .INPUT, []⟩), ["a", "b", "c", "d", "e"], [], [], []⟩
/-- the totality theorem says the run returns, `run_of_walk` that it takes the path of the walk; evaluating the
run itself makes the kernel scan the circuit for every label, at three times the cost -/
example : ((c07Host >>= fun c => (addSumNBits ["a", "b", "c", "d", "e"] (.str "aig") false).run ⟨c, 0⟩).toOption.map
    fun r => (r.1.length, r.2.c.gates.length)) = some (3, 22) := by
  obtain ⟨⟨r, ctr', n⟩, hw, he⟩ := Option.map_eq_some_iff.mp c07_walk_sum_n_bits
  obtain ⟨hr, rfl, rfl⟩ : r.length = 3 ∧ ctr' = 17 ∧ n = 17 := by simpa using he
  have hok := yields_addSumNBits (ins := ["a", "b", "c", "d", "e"]) (basis := .str "aig") (b := .aig) false rfl
    ⟨c07HostC, 0⟩ [] _ (Inv.nil _) (kn_labels _) (by decide)
  obtain ⟨c', hrun, hlen⟩ := run_eq_of_walk (host := c07Host) rfl hok hw (by omega) (by decide)
  rw [hrun]
  simp only [Except.toOption, Option.map_some, hr, hlen]
  rfl
example : ((c07Host >>= fun c => (addSumWeighted [(0, "a"), (0, "b"), (1, "c"), (1, "d"), (3, "e")] (.enum .xaig)).run ⟨c, 0⟩).toOption.map
    fun r => r.1.map (·.1)) = some [0, 1, 2, 3] := by decide +kernel

/-- **`add_sum_pow2_m1`** on arbitrary gates of a host (any basis spelling, both endiannesses): the
returned columns — column `j` holds bits of weight `2^j` — carry exactly the number of true operand
bits, and the weight-1 column is a single bit. -/
theorem c07_sum_pow2_m1 {st st' : GSt} {ins : List Label} {out : List (List Label)} {basis : BasisArg} {be : Bool}
    (h : (addSumPow2M1 ins be basis).run st = .ok (out, st')) (hw : WFS st.c) (hin : ∀ l ∈ ins, l ∈ st.c.labels)
    {b v : Label → Bool} (hv : IsValB st.c b v) :
    ∃ v', IsValB st'.c b v' ∧ (∀ l ∈ st.c.labels, v' l = v l) ∧ colsVal v' out = cnt v ins ∧
      ∃ z rest, out = [z] :: rest := by
  obtain ⟨v', h1, h2, h3⟩ := run_total h hw hv
  obtain ⟨e1, e2⟩ := sem_addSumPow2M1 h3
  exact ⟨v', h1, h2, by rw [e1, cnt_congr (fun l hl => h2 l (hin l hl))], e2⟩

/-- **`add_sum_n_bits` stays within its documented bounds**: on any host, with `n` operands and `m`
result bits, the call adds at most `4.5·n − 2·m` gates in XAIG (`2·new + 4·m ≤ 9·n`) and at most
`7·n − 3·m` in AIG, however the basis is spelled -/
theorem c07_gate_count_sum_n_bits {st st' : GSt} {ins out : List Label} {basis : BasisArg} {be : Bool}
    (h : (addSumNBits ins basis be).run st = .ok (out, st')) :
    ∃ new b, st'.c.gates.length = st.c.gates.length + new ∧ basis.resolve = .ok b ∧
      (b = .xaig → 2 * new + 4 * out.length ≤ 9 * ins.length) ∧
      (b = .aig → new + 3 * out.length ≤ 7 * ins.length) := by
  obtain ⟨n, hc, hl⟩ := run_cost _ h
  obtain ⟨b, hb, h1, h2⟩ := cost_addSumNBits hc
  exact ⟨n, b, hl, hb, h1, h2⟩

/-- `add_sum_n_bits_easy`: at most `5·n − 3·m` gates (documented: about `5·n`) -/
theorem c07_gate_count_sum_n_bits_easy {st st' : GSt} {ins out : List Label} {be : Bool}
    (h : (addSumNBitsEasy ins be).run st = .ok (out, st')) :
    ∃ new, st'.c.gates.length = st.c.gates.length + new ∧ new + 3 * out.length ≤ 5 * ins.length := by
  obtain ⟨n, hc, hl⟩ := run_cost _ h
  exact ⟨n, hl, cost_addSumNBitsEasy hc⟩

/-- `add_sum_n_weighted_bits_naive`: at most `5·n − 3·m` gates in XAIG, as documented, at most `7·n − 4·m` in
AIG (documented `7·n − 3·m`) -/
theorem c07_gate_count_weighted_naive {st st' : GSt} {ins out : List (Nat × Label)} {basis : BasisArg}
    (h : (addSumWeightedNaive ins basis).run st = .ok (out, st')) :
    ∃ new b, st'.c.gates.length = st.c.gates.length + new ∧ basis.resolve = .ok b ∧
      (b = .xaig → new + 3 * out.length ≤ 5 * ins.length) ∧ (b = .aig → new + 4 * out.length ≤ 7 * ins.length) := by
  obtain ⟨n, hc, hl⟩ := run_cost _ h
  obtain ⟨b, hb, h1, h2⟩ := cost_addSumWeightedNaive hc
  exact ⟨n, b, hl, hb, h1, h2⟩

/-- `add_sum_n_weighted_bits`: in AIG at most `7·n − 4·m` gates (documented `7·n − 3·m`). In XAIG the
documented `4.5·n − 2·m` does not hold (`weighted_xaig_documented_bound_fails`); what holds is `4.5·n − 1.5·m`
(`2·new + 3·m ≤ 9·n`): a single bit is worth 9 half gates, a pair 16, pairing two bits, an MDFA block
and every other block are paid from that, and each level keeps at least 3 -/
theorem c07_gate_count_weighted_partial {st st' : GSt} {ins out : List (Nat × Label)} {basis : BasisArg}
    (h : (addSumWeighted ins basis).run st = .ok (out, st')) :
    ∃ new b, st'.c.gates.length = st.c.gates.length + new ∧ basis.resolve = .ok b ∧
      (b = .xaig → 2 * new + 3 * out.length ≤ 9 * ins.length) ∧ (b = .aig → new + 4 * out.length ≤ 7 * ins.length) := by
  obtain ⟨n, hc, hl⟩ := run_cost _ h
  obtain ⟨b, hb, h1, h2⟩ := cost_addSumWeighted hc
  exact ⟨n, b, hl, hb, h1, h2⟩

/-- a gate count within a documented bound "not more than `A/2·n − B/2·m`" (the pair is regenerated from
the function's docstring on every run; `none` = the docstring states no such bound) -/
def WithinDoc (doc : Option (Nat × Nat)) (new n m : Nat) : Prop := ∀ A B, doc = some (A, B) → 2 * new + B * m ≤ A * n

theorem WithinDoc.of_le {A B new n m : Nat} (h : 2 * new + B * m ≤ A * n) : WithinDoc (some (A, B)) new n m := by
  intro A' B' e
  cases e
  exact h

/-- **the bounds the docstrings state hold** — for `add_sum_n_bits` (both bases), `add_sum_n_weighted_bits_naive`
(both bases), `add_sum_n_weighted_bits` in AIG and `add_sum_n_bits_easy`, against the constants read from the
current docstrings (`Generated/DocBounds.lean`). The one documented bound that does not hold —
`add_sum_n_weighted_bits` in XAIG — is absent from this theorem (see `c07_gate_count_weighted_partial`). -/
theorem c07_documented_bounds_hold :
    (∀ {st st' : GSt} {ins out : List Label} {basis : BasisArg} {be : Bool},
      (addSumNBits ins basis be).run st = .ok (out, st') →
      ∃ new b, st'.c.gates.length = st.c.gates.length + new ∧ basis.resolve = .ok b ∧
        (b = .xaig → WithinDoc Gen.doc_add_sum_n_bits_xaig new ins.length out.length) ∧
        (b = .aig → WithinDoc Gen.doc_add_sum_n_bits_aig new ins.length out.length)) ∧
    (∀ {st st' : GSt} {ins out : List (Nat × Label)} {basis : BasisArg},
      (addSumWeightedNaive ins basis).run st = .ok (out, st') →
      ∃ new b, st'.c.gates.length = st.c.gates.length + new ∧ basis.resolve = .ok b ∧
        (b = .xaig → WithinDoc Gen.doc_add_sum_n_weighted_bits_naive_xaig new ins.length out.length) ∧
        (b = .aig → WithinDoc Gen.doc_add_sum_n_weighted_bits_naive_aig new ins.length out.length)) ∧
    (∀ {st st' : GSt} {ins out : List (Nat × Label)} {basis : BasisArg},
      (addSumWeighted ins basis).run st = .ok (out, st') →
      ∃ new b, st'.c.gates.length = st.c.gates.length + new ∧ basis.resolve = .ok b ∧
        (b = .aig → WithinDoc Gen.doc_add_sum_n_weighted_bits_aig new ins.length out.length)) ∧
    (∀ {st st' : GSt} {ins out : List Label} {be : Bool},
      (addSumNBitsEasy ins be).run st = .ok (out, st') →
      ∃ new, st'.c.gates.length = st.c.gates.length + new ∧
        ∀ A, Gen.doc_add_sum_n_bits_easy = some A → 2 * new ≤ A * ins.length) := by
  refine ⟨?_, ?_, ?_, ?_⟩
  · intro st st' ins out basis be h
    obtain ⟨new, b, hl, hb, h1, h2⟩ := c07_gate_count_sum_n_bits h
    exact ⟨new, b, hl, hb, fun e => .of_le (h1 e), fun e => .of_le (by have := h2 e; omega)⟩
  · intro st st' ins out basis h
    obtain ⟨new, b, hl, hb, h1, h2⟩ := c07_gate_count_weighted_naive h
    exact ⟨new, b, hl, hb, fun e => .of_le (by have := h1 e; omega), fun e => .of_le (by have := h2 e; omega)⟩
  · intro st st' ins out basis h
    obtain ⟨new, b, hl, hb, _, h2⟩ := c07_gate_count_weighted_partial h
    exact ⟨new, b, hl, hb, fun e => .of_le (by have := h2 e; omega)⟩
  · intro st st' ins out be h
    obtain ⟨new, hl, h1⟩ := c07_gate_count_sum_n_bits_easy h
    refine ⟨new, hl, fun A hd => ?_⟩
    obtain rfl := Option.some.inj hd
    omega

#print axioms c07_generators_only_add_fresh_gates
#print axioms c07_tt_table_is_correct
#print axioms c07_sum_n_bits
#print axioms c07_sum_n_bits_easy
#print axioms c07_sum_two_numbers
#print axioms c07_sum_two_numbers_with_shift
#print axioms c07_weighted_sum
#print axioms c07_weighted_sum_naive
#print axioms c07_aig_basis_sum_n_bits
#print axioms c07_aig_basis_weighted

#print axioms c07_sum_pow2_m1
#print axioms c07_gate_count_sum_n_bits
#print axioms c07_gate_count_sum_n_bits_easy
#print axioms c07_gate_count_weighted_naive
#print axioms c07_gate_count_weighted_partial
#print axioms c07_documented_bounds_hold

/-- **every summation generator returns on valid arguments** (operands are gates of the host circuit; a basis
name that resolves; non-empty operands where the Python code indexes them) — or stops because the 128-bit
space of random labels is exhausted, the one failure no argument can exclude.  No fuel runs out, no block is
handed a list of the wrong length, no label clashes: `Proofs/GenTotal*.lean`. -/
theorem c07_generators_return (st : GSt) :
    (∀ ins basis b be, BasisArg.resolve basis = .ok b → (∀ l ∈ ins, l ∈ st.c.labels) →
      Returns (addSumNBits ins basis be) st (fun r => r.length = sa_bitlen ins.length)) ∧
    (∀ ins be, (∀ l ∈ ins, l ∈ st.c.labels) → Returns (addSumNBitsEasy ins be) st (fun _ => True)) ∧
    (∀ a b be, (∀ l ∈ a, l ∈ st.c.labels) → (∀ l ∈ b, l ∈ st.c.labels) → a ≠ [] → b ≠ [] →
      Returns (addSumTwoNumbers a b be) st (fun r => r.length = max a.length b.length + 1)) ∧
    (∀ shift a b be, (∀ l ∈ a, l ∈ st.c.labels) → (∀ l ∈ b, l ∈ st.c.labels) → a ≠ [] → b ≠ [] →
      Returns (addSumTwoNumbersWithShift shift a b be) st (fun _ => True)) ∧
    (∀ ins basis b, BasisArg.resolve basis = .ok b → ins ≠ [] → (∀ x ∈ ins, x.2 ∈ st.c.labels) →
      Returns (addSumWeightedNaive ins basis) st (fun _ => True)) ∧
    (∀ ins basis b, BasisArg.resolve basis = .ok b → ins ≠ [] → (∀ x ∈ ins, x.2 ∈ st.c.labels) →
      Returns (addSumWeighted ins basis) st (fun _ => True)) ∧
    (∀ ins be basis b, BasisArg.resolve basis = .ok b → ins ≠ [] → (∀ l ∈ ins, l ∈ st.c.labels) →
      Returns (addSumPow2M1 ins be basis) st (fun r => r ≠ [])) := by
  have pos : ∀ {l : List Label}, l ≠ [] → 1 ≤ l.length := List.length_pos_iff.mpr
  exact ⟨fun _ _ _ be hb hi => (yields_addSumNBits be hb).returns hi,
    fun ins be hi => (yields_addSumNBitsEasy ins be).returns hi,
    fun _ _ be ha hb hna hnb => (yields_addSumTwoNumbers be (pos hna) (pos hnb)).returns (by lmem),
    fun _ _ _ be ha hb hna hnb => ((yields_addSumTwoNumbersWithShift be (fun _ => pos hna) (fun _ => pos hnb)).shape
      fun _ _ => trivial).returns (by lmem),
    fun _ _ _ hb hne hi => (yields_addSumWeightedNaive hb hne).returns (List.forall_mem_map.mpr hi),
    fun _ _ _ hb hne hi => (yields_addSumWeighted hb hne).returns (List.forall_mem_map.mpr hi),
    fun _ be _ _ hb hne hi => ((yields_addSumPow2M1 be hb hne).shape fun r h => by
      obtain ⟨z, rest, rfl, _⟩ := h.1
      exact List.cons_ne_nil _ _).returns hi⟩

#print axioms c07_generators_return

end Cirbo
