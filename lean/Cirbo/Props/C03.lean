import Cirbo.Proofs.PassPipe
/-!
# C03 — Simplification passes preserve the function, the interface and their argument

-- OBLIGATION: c03_rrg_preserves
-- OBLIGATION: c03_rrg_same_function
-- OBLIGATION: c03_rrg_keeps_inputs
-- OBLIGATION: c03_pipeline_of_rrg_preserves
-- OBLIGATION: c03_muo_preserves
-- OBLIGATION: c03_mdg_preserves
-- OBLIGATION: c03_meg_preserves
-- OBLIGATION: c03_pipelines_preserve
-- OBLIGATION: c03_cleanup_preserves
-- OBLIGATION: c03_equal_rows_mean_equal_functions
-- OBLIGATION: c03_same_function
-- OBLIGATION: c03_never_more_gates
-- OBLIGATION: c03_passes_return
-- PARTIAL: function, interface and invariant preservation is proved for all four passes (RemoveRedundantGates both modes, MergeUnaryOperators, MergeDuplicateGates, MergeEquivalentGates), for every pipeline / pipe-operator composition / apply_transformers list and for cleanup (light and heavy), on circuits satisfying the C02 invariant with accepted arities. "Never more gates" is proved for every pass, pipeline and cleanup (c03_never_more_gates). "The argument is not modified" is decided by the correspondence harness (Lean values are immutable). Every pass, pipeline and cleanup returns on such circuits (c03_passes_return), so the theorems speak about every call.
-/
namespace Cirbo

/-- `RemoveRedundantGates(allow_inputs_removal=allow)` on any circuit satisfying the C02 invariant:
the result is again such a circuit, consists of gates of the argument only (so it is never larger),
keeps the output list, and keeps of the inputs, in order, exactly those it contains (that none is dropped
unless asked to is `c03_rrg_keeps_inputs`). -/
theorem c03_rrg_preserves {allow : Bool} {c c' : Circuit} (hw : WFS c) (h : rrg allow c = .ok c') :
    WFS c' ∧ (∀ g ∈ c'.gates, g ∈ c.gates) ∧ c'.gates.length ≤ c.gates.length ∧
    c'.outputs = c.outputs ∧
    c'.inputs = c.inputs.filter (fun i => decide (i ∈ c'.labels)) := by
  have s := rrg_spec hw h
  exact ⟨s.wfs, s.sub, s.size, s.outputs, s.inputs⟩

theorem c03_rrg_keeps_inputs {c c' : Circuit} (hw : WFS c) (h : rrg false c = .ok c') :
    c'.inputs = c.inputs := (rrg_spec hw h).keepInputs rfl

/-- identical truth table: under every input assignment, the valuation of the result gives each
output position the value the valuation of the argument gives it -/
theorem c03_rrg_same_function {allow : Bool} {c c' : Circuit} (hw : WFS c) (h : rrg allow c = .ok c')
    (b : Label → Bool) (v v' : Label → Bool) (hv : IsValB c b v) (hv' : IsValB c' b v') :
    c'.outputs.map v' = c.outputs.map v :=
  (rrg_spec hw h).preserves.same_function hv hv'

/-- the same for every pipeline that consists of redundant-gate removals -/
theorem c03_pipeline_of_rrg_preserves : ∀ (ts : List Tr) {c c' : Circuit}, WFS c →
    (∀ t ∈ ts, ∃ a, t = .rrg a) → runSeq (.ok c) ts = .ok c' →
    WFS c' ∧ (∀ g ∈ c'.gates, g ∈ c.gates) ∧ c'.outputs = c.outputs ∧
    (∀ b v, IsValB c b v → IsValB c' b v) := by
  intro ts c c' hw hts h
  refine foldlR_run (step := trStepR) (fun _ _ => rfl) (ls := ts) (I := fun _ c1 => WFS c1 ∧ (∀ g ∈ c1.gates, g ∈ c.gates) ∧
    c1.outputs = c.outputs ∧ ∀ b v, IsValB c b v → IsValB c1 b v) (fun p t q c1 c2 hL hP h1 => ?_)
    ⟨hw, fun _ h => h, rfl, fun _ _ h => h⟩ h
  obtain ⟨a, rfl⟩ := hts t (by simp [hL])
  have s := rrg_spec hP.1 (show rrg a c1 = .ok c2 from h1)
  exact ⟨s.wfs, fun g hg => hP.2.1 g (s.sub g hg), s.outputs.trans hP.2.2.1, fun b v hv => s.val b v (hP.2.2.2 b v hv)⟩

/-- **MergeUnaryOperators**: invariant kept, same inputs, same number of outputs, every valuation of
the argument is a valuation of the result and gives every output position the same value -/
theorem c03_muo_preserves {c c' : Circuit} (hw : WFS c) (h : muo c = .ok c') : Preserves c c' := (muo_spec hw h).preserves

/-- **MergeDuplicateGates** -/
theorem c03_mdg_preserves {c c' : Circuit} (hw : WFS c) (h : mdg c = .ok c') : Preserves c c' := (mdg_spec hw h).preserves

/-- **MergeEquivalentGates** (gates with equal per-gate truth tables are merged) -/
theorem c03_meg_preserves {c c' : Circuit} (hw : WFS c) (har : ArOK c) (h : meg c = .ok c') : Preserves c c' :=
  (meg_spec hw har h).preserves

/-- what MergeEquivalentGates relies on: two gates whose rows of `get_gates_truth_table` coincide have
the same value under every valuation -/
theorem c03_equal_rows_mean_equal_functions {c : Circuit} (h : WFU c) {gtt : Dict (List V3)}
    (hg : gatesTruthTable c = .ok gtt) {l l' : Label} (hl : l ∈ c.labels) (hl' : l' ∈ c.labels)
    (hrow : (gtt.get? l).getD [] = (gtt.get? l').getD []) {b v : Label → Bool} (hv : IsValB c b v) : v l = v l' :=
  gtt_equal_rows_sound h hg hl hl' hrow hv

/-- **any composition** (`Transformer.transform`, `t1 | t2`, `apply_transformers` on a list, nested) -/
theorem c03_pipelines_preserve (ts : List Tr) {c c' : Circuit} (hw : WFS c) (har : ArOK c)
    (h : applyTransformers c ts = .ok c') : Preserves c c' := pipeline_preserves ts hw har h

/-- **`cleanup(circuit, use_heavy=…)`**, light and heavy -/
theorem c03_cleanup_preserves {c c' : Circuit} {heavy : Bool} (hw : WFS c) (har : ArOK c)
    (h : cleanup c heavy = .ok c') : Preserves c c' := pipeline_preserves _ hw har h

/-- `Preserves` gives the identical truth table: under any input assignment, the valuation of the
result gives each output position the value the valuation of the argument gives it -/
theorem c03_same_function {c c' : Circuit} (hp : Preserves c c') (b v v' : Label → Bool)
    (hv : IsValB c b v) (hv' : IsValB c' b v') : c'.outputs.map v' = c.outputs.map v :=
  hp.same_function hv hv'

/-- the result never contains more gates than the argument: every single pass, every pipeline
(nested compositions, implied removals) and cleanup, light and heavy -/
theorem c03_never_more_gates (ts : List Tr) {c c' : Circuit} (hw : WFS c) (har : ArOK c)
    (h : applyTransformers c ts = .ok c') : c'.gates.length ≤ c.gates.length :=
  (pipeline_preserves ts hw har h).size

/-- every pass, every pipeline (nested compositions, implied removals) and cleanup **returns** on a
well-formed circuit with accepted arities: no exception, no divergence -/
theorem c03_passes_return {c : Circuit} (hw : WFS c) (har : ArOK c) :
    (∀ a, ∃ c', rrg a c = .ok c') ∧ (∃ c', muo c = .ok c') ∧ (∃ c', mdg c = .ok c') ∧ (∃ c', meg c = .ok c') ∧
    (∀ ts, ∃ c', applyTransformers c ts = .ok c') ∧ (∀ heavy, ∃ c', cleanup c heavy = .ok c') :=
  ⟨fun _ => rrg_total hw, muo_total hw har, mdg_total hw, meg_total hw har,
   fun ts => pipeline_total ts hw har, fun _ => pipeline_total _ hw har⟩

/-! Non-vacuity: dead logic and an unused input are removed, the function is kept -/
open GateType in
def c03Example : R Circuit := runOps Circuit.empty
    [.addInputs ["a", "b", "u"], .addGate ⟨"x", AND, ["a", "b"]⟩, .addGate ⟨"d", OR, ["a", "u"]⟩,
     .setOutputs ["x", "a", "x"]]
example : ((c03Example >>= rrg true).toOption.map fun c => (c.inputs, c.outputs, c.labels)) =
    some (["a", "b"], ["x", "a", "x"], ["b", "a", "x"]) := by decide

#print axioms c03_rrg_preserves
#print axioms c03_rrg_same_function
#print axioms c03_rrg_keeps_inputs
#print axioms c03_pipeline_of_rrg_preserves
#print axioms c03_muo_preserves
#print axioms c03_mdg_preserves
#print axioms c03_meg_preserves
#print axioms c03_pipelines_preserve
#print axioms c03_cleanup_preserves
#print axioms c03_equal_rows_mean_equal_functions
#print axioms c03_same_function
#print axioms c03_never_more_gates
#print axioms c03_passes_return

end Cirbo
