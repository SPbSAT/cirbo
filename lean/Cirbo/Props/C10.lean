import Cirbo.Proofs.ExtractTotal
import Cirbo.Proofs.Connect
import Cirbo.Proofs.ConnFull
import Cirbo.Proofs.ConnRight
import Cirbo.Proofs.BlockExtract
import Cirbo.Proofs.ConnTotal
import Cirbo.Model.Wrappers
/-!
# C10 — Circuit composition computes the documented functional composition

-- OBLIGATION: c10_frame_add_gate
-- OBLIGATION: c10_left_connection_keeps_base_function
-- OBLIGATION: c10_left_connection_computes_the_composition
-- OBLIGATION: c10_left_connection_interface_and_block
-- OBLIGATION: c10_wrappers_are_connections
-- OBLIGATION: c10_right_connection_computes_the_composition
-- OBLIGATION: c10_block_extraction_left
-- OBLIGATION: c10_block_extraction_right
-- OBLIGATION: c10_left_connection_returns
-- OBLIGATION: c10_right_connection_returns
-- OBLIGATION: c10_block_extraction_left_returns
-- OBLIGATION: c10_block_extraction_right_returns
-- PARTIAL: proved for every left connection (connect_circuit(right_connect=False), connect_left, extend_circuit, add_circuit): (1) only gates are added and every base gate keeps its value under every assignment; (2) the attached gates compute the attached circuit's function of the values at the connectors (a renaming of the attached circuit's labels — connectors to the base gates they were identified with, other gates to their prefixed copies — turns every valuation of the result into a valuation of the attached circuit). (3) the exact inputs/outputs lists of the result (kept base interface minus connectors, then the attached circuit's unconnected inputs/outputs, renamed, in order), the block recording the attached circuit (its inputs/outputs are the attached circuit's, renamed) and the survival of older blocks (c10_left_connection_interface_and_block). The right direction (connect_circuit(right_connect=True), connect_right, connect_inputs, extend_circuit(right_connect=True)) is proved in the same form (c10_right_connection_computes_the_composition): the fed base inputs become the connector gates (same label, the connector's type and renamed operands), every other base gate is kept, so every valuation of the result satisfies the base circuit's gate equations and — read through the renaming — the attached circuit's; with the exact inputs/outputs lists, the recorded block and the survival of older blocks. Re-extraction (c10_block_extraction_left/right): `get_block(name).into_circuit()` is modelled (Model/Wrappers.lean intoCircuit, compared with the code on every run) and proved to return, whenever it returns, a circuit with the attached circuit's renamed inputs and outputs in which every valuation is, through the renaming, a valuation of the attached circuit (the block lists exactly the images of the attached circuit's non-INPUT gates; for the right direction this needed the fix recorded in known_findings.json). That `into_circuit` does return is proved as well (c10_block_extraction_left_returns / _right_returns). Total correctness of the connections themselves (c10_left_connection_returns / c10_right_connection_returns): on circuits satisfying the invariant, with connectors of the documented kind and fresh copy labels / block names (the only documented reasons for an error), `connect_circuit` returns. All of it is modelled one-to-one (Model/Mutate2.lean connStep/connFinish) and compared with the code field by field (both directions, wrappers, name/prefix options, repeated composition); the implementation's result is checked against the composed evaluation of the two operands on all assignments, against the documented interface, checkWFU and block extraction.
-/
namespace Cirbo
open GateType Circuit

/-- frame lemma: `add_gate`/`emplace_gate` gives the new gate a value and changes no other -/
theorem c10_frame_add_gate {c cur cur' : Circuit} {g : Gate} {b v b' v' : Label → Bool}
    (hext : Extends c cur b v b' v') (hadd : cur.addGate g = .ok cur')
    (har : if g.ty = INPUT then True else arityOk g.ty g.ops.length = true) (bnew : Bool) :
    ∃ b'' v'', Extends c cur' b v b'' v'' ∧ (∀ l ∈ cur.labels, v'' l = v' l) ∧
      (∀ l, l ≠ g.label → b'' l = b' l) ∧ b'' g.label = bnew := addGate_frame hext hadd har bnew

theorem c10_left_connection_keeps_base_function {c other c' : Circuit} {thisC otherC : List Label}
    {name : Label} {addP : Bool} (h : c.connectCircuit other thisC otherC false name addP = .ok c')
    (hcl : ∀ g ∈ c.gates, ∀ o ∈ g.ops, o ∈ c.labels)
    (har : ∀ g ∈ other.gates, if g.ty = INPUT then True else arityOk g.ty g.ops.length = true)
    {b v : Label → Bool} (hv : IsValB c b v) :
    ∃ b' v', IsValB c' b' v' ∧ (∀ l ∈ c.labels, v' l = v l) ∧ (∀ l ∈ c.labels, b' l = b l) ∧
      (∀ l ∈ c.labels, l ∈ c'.labels) := connect_left_frame h hcl har hv

/-- the documented functional composition: reading the result through the renaming, the attached
copy is a valuation of `other` whose inputs take the values of the connectors -/
theorem c10_left_connection_computes_the_composition {c other c' : Circuit} {thisC otherC : List Label}
    {name : Label} {addP : Bool} (hwo : WFG other)
    (h : c.connectCircuit other thisC otherC false name addP = .ok c') :
    ∃ φ : Label → Label,
      (∀ b v, IsValB c' b v → IsValB other (v ∘ φ) (v ∘ φ)) ∧
      (∀ l x, Dict.get? ((otherC.zip thisC).foldl (fun m p => Dict.set m p.1 p.2) ([] : Dict Label)) l = some x → φ l = x) ∧
      (∀ g ∈ other.gates, g.ty ≠ INPUT → φ g.label = (if name != "" && addP then name ++ "@" else "") ++ g.label) :=
  connect_left_semantics hwo h

/-- **left connection, in full**: one renaming `φ` of the attached circuit's labels — connectors to the
base gates they were identified with (`otherC.map φ = thisC`), every other gate to its prefixed copy —
describes the whole result: the attached gates compute the attached circuit's function, the base
gates are kept, the output list is the base outputs minus the connected ones followed by the attached
circuit's unconnected outputs renamed, the input list is the base inputs (those still inputs) followed
by the attached circuit's unconnected inputs renamed, the named block lists the attached circuit's
inputs and outputs renamed, and every older block is still found under its name. -/
theorem c10_left_connection_interface_and_block {c other c' : Circuit} {thisC otherC : List Label} {name : Label}
    {addP : Bool} (hwo : WFG other) (h : c.connectCircuit other thisC otherC false name addP = .ok c') :
    ∃ φ : Label → Label,
      (∀ b v, IsValB c' b v → IsValB other (v ∘ φ) (v ∘ φ)) ∧
      otherC.map φ = thisC ∧
      (∀ g ∈ other.gates, g.label ∉ otherC → φ g.label = connPre name addP ++ g.label) ∧
      (∃ extra, c'.gates = c.gates ++ extra) ∧
      (∀ g ∈ other.gates, g.label ∉ otherC → (⟨φ g.label, g.ty, g.ops.map φ⟩ : Gate) ∈ c'.gates) ∧
      (c.labels.Nodup → c'.labels.Nodup) ∧
      c'.outputs = c.outputs.filter (fun o => !thisC.contains o) ++ (other.outputs.filter (fun o => !otherC.contains o)).map φ ∧
      c'.inputs = c.inputs.filter (fun i => ((c'.find? i).map (·.ty)) == some INPUT) ++
        (other.inputs.filter (fun i => !otherC.contains i)).map φ ∧
      (name ≠ "" → ∃ fb, c'.getBlock name = .ok ⟨name, other.inputs.map φ, fb, other.outputs.map φ⟩) ∧
      (∀ n b, n ≠ name → c.getBlock n = .ok b → c'.getBlock n = .ok b) :=
  connect_left_full hwo h

/-- the five wrappers are `connect_circuit` with the arguments their documentation states; in
particular `connect_left`, `add_circuit` and `extend_circuit(right_connect=False)` are left connections,
so the three theorems above apply to them; an explicit (even empty) connector list given to
`extend_circuit` is used as given, only `None` is replaced by the default -/
theorem c10_wrappers_are_connections (c other : Circuit) (thisC otherC : List Label) (name : Label) (addP right : Bool) :
    c.connectLeft other thisC name addP = c.connectCircuit other thisC other.inputs false name addP ∧
    c.connectRight other otherC name addP = c.connectCircuit other c.inputs otherC true name addP ∧
    c.connectInputs other name addP = c.connectCircuit other c.inputs other.inputs true name addP ∧
    c.addCircuit other name addP = c.connectCircuit other [] [] false name addP ∧
    c.extendCircuit other (some thisC) (some otherC) right name addP = c.connectCircuit other thisC otherC right name addP ∧
    c.extendCircuit other none none false name addP = c.connectCircuit other c.outputs other.inputs false name addP ∧
    c.extendCircuit other none none true name addP = c.connectCircuit other c.inputs other.outputs true name addP :=
  ⟨rfl, rfl, rfl, rfl, rfl, rfl, rfl⟩

/-- **right direction**: chosen base inputs are fed by gates of `other`. There is a renaming `φ` of
`other`'s labels (connector ↦ the base input it feeds, any other gate ↦ its prefixed copy) such that
every valuation `v` of the result is, through `φ`, a valuation of `other`, and satisfies every gate
equation of the base (all base gates except the fed inputs are kept): the result computes the
composition. The outputs are the base's minus `this_connectors` followed by `other`'s unconnected
ones, the inputs are the base inputs that are still inputs followed by `other`'s unconnected ones;
the named block records `other`'s interface; older blocks survive; and every listed pair is identified:
the i-th listed gate of `other` is, read through `φ`, the i-th listed base input (a gate of `other` listed
twice is refused). -/
theorem c10_right_connection_computes_the_composition {c other c' : Circuit} {thisC otherC : List Label}
    {name : Label} {addP : Bool} (hwo : WFG other) (hndc : c.labels.Nodup)
    (h : c.connectCircuit other thisC otherC true name addP = .ok c') :
    ∃ φ : Label → Label,
      (∀ b v, IsValB c' b v → IsValB other (v ∘ φ) (v ∘ φ)) ∧
      (∀ b v, IsValB c' b v → IsValB c v v) ∧
      (∀ l x, Dict.get? (connMapping thisC otherC) l = some x → φ l = x) ∧
      (∀ g ∈ other.gates, Dict.contains (connMapping thisC otherC) g.label = false → φ g.label = connPre name addP ++ g.label) ∧
      (∀ g ∈ c.gates, g.label ∉ thisC → g ∈ c'.gates) ∧
      c'.outputs = c.outputs.filter (fun o => !thisC.contains o) ++ (other.outputs.filter (fun o => !otherC.contains o)).map φ ∧
      c'.inputs = c.inputs.filter (fun i => ((c'.find? i).map (·.ty)) == some INPUT) ++
        (other.inputs.filter (fun i => !otherC.contains i)).map φ ∧
      (name ≠ "" → ∃ fb, c'.getBlock name = .ok ⟨name, other.inputs.map φ, fb, other.outputs.map φ⟩) ∧
      (∀ n b, n ≠ name → c.getBlock n = .ok b → c'.getBlock n = .ok b) ∧
      otherC.map φ = thisC := by
  obtain ⟨φ, h1, h2, h3, h4, h5, h6, h7, h8, h9⟩ := connect_right_semantics hwo hndc h
  obtain ⟨_, _, _, hndo, _, hlen, _⟩ := connectCircuit_ok_iff.mp h
  exact ⟨φ, h1, h2, h3, h4, h5, h6, h7, h8, h9, map_connectors hndo hlen h3⟩

/-- **when a block name is given, extracting that block gives back the attached circuit's function**
(left direction) -/
theorem c10_block_extraction_left {c other c' E : Circuit} {thisC otherC : List Label} {name : Label} {addP : Bool}
    (hwo : WFG other) (hndc : c.labels.Nodup)
    (h : c.connectCircuit other thisC otherC false name addP = .ok c') (hn : name ≠ "")
    (hE : c'.blockIntoCircuit name = .ok E) :
    ∃ φ : Label → Label,
      (∀ l x, Dict.get? (connMapping thisC otherC) l = some x → φ l = x) ∧
      (∀ g ∈ other.gates, g.label ∉ otherC → φ g.label = connPre name addP ++ g.label) ∧
      (∀ b v, IsValB E b v → IsValB other (v ∘ φ) (v ∘ φ)) ∧
      E.inputs = other.inputs.map φ ∧ E.outputs = other.outputs.map φ :=
  ⟨_, fun _ _ => connRen_mapped, fun _ _ hn' => connRen_copy (connMapping_not_mem hn'), (connect_records hwo hndc h hn).sem hE⟩

/-- the same for the right direction -/
theorem c10_block_extraction_right {c other c' E : Circuit} {thisC otherC : List Label} {name : Label} {addP : Bool}
    (hw : WFS c) (hwo : WFS other)
    (h : c.connectCircuit other thisC otherC true name addP = .ok c') (hn : name ≠ "")
    (hE : c'.blockIntoCircuit name = .ok E) :
    ∃ φ : Label → Label,
      (∀ l x, Dict.get? (connMapping thisC otherC) l = some x → φ l = x) ∧
      (∀ g ∈ other.gates, Dict.contains (connMapping thisC otherC) g.label = false → φ g.label = connPre name addP ++ g.label) ∧
      (∀ b v, IsValB E b v → IsValB other (v ∘ φ) (v ∘ φ)) ∧
      E.inputs = other.inputs.map φ ∧ E.outputs = other.outputs.map φ :=
  ⟨_, fun _ _ => connRen_mapped, fun _ _ => connRen_copy, (connect_records hwo.toWFG hw.nodup h hn).sem hE⟩

/-- **a left connection returns** — the theorems above are not vacuous: if both circuits satisfy the
invariant, the base has no block called `name`, `this_connectors` exist, `other_connectors` are distinct
INPUT gates of the attached circuit (as many), the prefixed copies' labels are not taken in the base,
and the attached circuit's (prefixed) block names are new and distinct, `connect_circuit` does not raise -/
theorem c10_left_connection_returns {c other : Circuit} {thisC otherC : List Label} {name : Label} {addP : Bool}
    (hw : WFS c) (hwo : WFS other)
    (hblk : c.blocks.any (fun b => b.name == name) = false)
    (hthis : ∀ l ∈ thisC, l ∈ c.labels)
    (hoth : ∀ l ∈ otherC, (other.find? l).map (·.ty) = some INPUT)
    (hndo : otherC.Nodup) (hlen : thisC.length = otherC.length)
    (hfresh : ∀ g ∈ other.gates, g.label ∉ otherC → connPre name addP ++ g.label ∉ c.labels)
    (hbn : ∀ b ∈ other.blocks, c.blocks.any (fun x => x.name == connPre name addP ++ b.name) = false)
    (hbd : (other.blocks.map (·.name)).Nodup)
    (hbo : ∀ b ∈ other.blocks, ∀ l ∈ b.outputs, l ∈ other.labels) :
    ∃ c', c.connectCircuit other thisC otherC false name addP = .ok c' :=
  connect_total hw hwo hblk hthis (fun l hl => by
      obtain ⟨g, hg, rfl, _⟩ := gate_of_find_ty (hoth l hl)
      exact mem_labels_of_mem hg) hndo nofun hlen hoth hfresh hbn hbd hbo

/-- **a right connection returns**: `this_connectors` distinct INPUT gates of the base, as many existing
gates of the attached circuit, fresh copy labels and block names -/
theorem c10_right_connection_returns {c other : Circuit} {thisC otherC : List Label} {name : Label} {addP : Bool}
    (hw : WFS c) (hwo : WFS other)
    (hblk : c.blocks.any (fun b => b.name == name) = false)
    (hthisI : ∀ l ∈ thisC, (c.find? l).map (·.ty) = some INPUT)
    (hothL : ∀ l ∈ otherC, l ∈ other.labels)
    (hndt : thisC.Nodup) (hndo : otherC.Nodup) (hlen : thisC.length = otherC.length)
    (hfresh : ∀ g ∈ other.gates, g.label ∉ otherC → connPre name addP ++ g.label ∉ c.labels)
    (hbn : ∀ b ∈ other.blocks, c.blocks.any (fun x => x.name == connPre name addP ++ b.name) = false)
    (hbd : (other.blocks.map (·.name)).Nodup)
    (hbo : ∀ b ∈ other.blocks, ∀ l ∈ b.outputs, l ∈ other.labels) :
    ∃ c', c.connectCircuit other thisC otherC true name addP = .ok c' :=
  connect_total hw hwo hblk (fun l hl => by
      obtain ⟨g, hg, rfl, _⟩ := gate_of_find_ty (hthisI l hl)
      exact mem_labels_of_mem hg) hothL hndo (fun _ => hndt) hlen hthisI hfresh hbn hbd hbo

#print axioms c10_frame_add_gate
#print axioms c10_left_connection_keeps_base_function
#print axioms c10_left_connection_computes_the_composition

#print axioms c10_left_connection_interface_and_block
#print axioms c10_wrappers_are_connections
#print axioms c10_right_connection_computes_the_composition
#print axioms c10_block_extraction_left
#print axioms c10_block_extraction_right
#print axioms c10_left_connection_returns
#print axioms c10_right_connection_returns

/-- **re-extraction returns**: after a named left connection `get_block(name).into_circuit()` returns, and the result
is the attached circuit up to the renaming (total form of `c10_block_extraction_left`) -/
theorem c10_block_extraction_left_returns {c other c' : Circuit} {thisC otherC : List Label} {name : Label} {addP : Bool}
    (hw : WFS c) (hwo : WFS other)
    (h : c.connectCircuit other thisC otherC false name addP = .ok c') (hname : name ≠ "") :
    ∃ E, c'.blockIntoCircuit name = .ok E ∧ ∃ φ : Label → Label,
      (∀ l x, Dict.get? (connMapping thisC otherC) l = some x → φ l = x) ∧
      (∀ g ∈ other.gates, g.label ∉ otherC → φ g.label = connPre name addP ++ g.label) ∧
      (∀ b v, IsValB E b v → IsValB other (v ∘ φ) (v ∘ φ)) ∧
      E.inputs = other.inputs.map φ ∧ E.outputs = other.outputs.map φ :=
  et_block_extraction_left_total hw hwo h hname

/-- … and after a named right connection -/
theorem c10_block_extraction_right_returns {c other c' : Circuit} {thisC otherC : List Label} {name : Label} {addP : Bool}
    (hw : WFS c) (hwo : WFS other)
    (h : c.connectCircuit other thisC otherC true name addP = .ok c') (hname : name ≠ "") :
    ∃ E, c'.blockIntoCircuit name = .ok E ∧ ∃ φ : Label → Label,
      (∀ l x, Dict.get? (connMapping thisC otherC) l = some x → φ l = x) ∧
      (∀ g ∈ other.gates, Dict.contains (connMapping thisC otherC) g.label = false → φ g.label = connPre name addP ++ g.label) ∧
      (∀ b v, IsValB E b v → IsValB other (v ∘ φ) (v ∘ φ)) ∧
      E.inputs = other.inputs.map φ ∧ E.outputs = other.outputs.map φ :=
  et_block_extraction_right_total hw hwo h hname

#print axioms c10_block_extraction_left_returns
#print axioms c10_block_extraction_right_returns

end Cirbo