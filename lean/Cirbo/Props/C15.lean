import Cirbo.Proofs.EvalCor
import Cirbo.Proofs.LazyTerm
import Cirbo.Model.Checkers
import Cirbo.Proofs.LazyShape
import Cirbo.Proofs.Mutate
/-!
# C15 — Evaluation under partial assignments is sound and monotone

Model objects:
`evalFull` = `Circuit.evaluate_full_circuit`, `evalLazy` = `Circuit.evaluate_circuit`
(`evaluate_circuit_outputs` is its projection on the outputs), over the operator tables
regenerated from `operators.py` (`Cirbo.Gen.op*`).

-- OBLIGATION: c15_op_mono
-- OBLIGATION: c15_op_sound
-- OBLIGATION: c15_sound_full
-- OBLIGATION: c15_mono_full
-- OBLIGATION: c15_total_full
-- OBLIGATION: c15_sound_lazy
-- OBLIGATION: c15_mono_lazy_outputs
-- OBLIGATION: c15_total_lazy_outputs
-- OBLIGATION: c15_lazy_returns
-- OBLIGATION: c15_lazy_terminates
-- OBLIGATION: c15_mono_lazy_every_gate
-- OBLIGATION: c15_total_lazy_evaluated_gates
-- PARTIAL: every clause is proved on the model for both evaluators, for every gate (the demand-driven evaluator visits the same gates under both assignments: its stack only looks at which labels are defined, c15_mono_lazy_every_gate). What remains by correspondence only: the tie between the model's evaluators and the Python methods (compared on every run, incl. assignments with non-input keys, which the theorems exclude by hypothesis).
-/
namespace Cirbo
open GateType V3

/-- pointwise refinement of assignment dictionaries (missing = Undefined) -/
def AsgLe (a a' : Asg) : Prop := ∀ l, asgFun a l ≤ asgFun a' l

/-- Operator level, every gate type and every arity: refining the arguments refines the result. -/
theorem c15_op_mono (ty : GateType) (xs xs' : List V3) (h : All2 (· ≤ ·) xs xs') :
    OLe (applyOp ty xs) (applyOp ty xs') := applyOp_mono ty xs xs' h

/-- Operator level: a defined result is the Boolean function's value on every completion. -/
theorem c15_op_sound (ty : GateType) (xs : List V3) (bs : List Bool)
    (h : All2 (· ≤ ·) xs (bs.map ofBool)) : OLe (applyOp ty xs) ((bfun ty bs).map ofBool) :=
  applyOp_sound ty xs bs h

/-- **Soundness, whole-circuit evaluation**: any value reported for any gate under a partial
assignment `asg` is below (i.e. Undefined or equal to) the gate's Boolean value under every
completion `b` of `asg`. -/
theorem c15_sound_full {c : Circuit} (h : WFU c) (asg : Asg) (b vB : Label → Bool)
    (hab : ∀ l, asgFun asg l ≤ ofBool (b l)) (hB : IsValB c b vB)
    {d : Asg} (hd : evalFull c asg = .ok d) :
    ∀ g ∈ c.gates, ∀ x, d.get? g.label = some x → x ≤ ofBool (vB g.label) := by
  obtain ⟨d', hd', hv, _⟩ := evalFull_spec h asg
  rw [hd] at hd'; cases hd'
  intro g hg x hx
  have := val3_sound h.toWF hab hv hB g hg
  simpa [valOf, hx] using this

/-- **Monotonicity, whole-circuit evaluation**: defining more inputs never changes an already
defined result, when both runs return (that they do is `c15_total_full`). -/
theorem c15_mono_full {c : Circuit} (h : WFU c) (asg asg' : Asg) (hle : AsgLe asg asg')
    {d d' : Asg} (hd : evalFull c asg = .ok d) (hd' : evalFull c asg' = .ok d') :
    ∀ g ∈ c.gates, valOf d g.label ≤ valOf d' g.label := by
  obtain ⟨e, he, hv, _⟩ := evalFull_spec h asg
  obtain ⟨e', he', hv', _⟩ := evalFull_spec h asg'
  rw [hd] at he; cases he
  rw [hd'] at he'; cases he'
  exact val3_mono h.toWF hle hv hv'

/-- **Totality, whole-circuit evaluation**: the call never raises on a well-formed circuit, and
under a total assignment no gate is Undefined. -/
theorem c15_total_full {c : Circuit} (h : WFU c) (b : Label → Bool) :
    ∃ d, evalFull c (asgOfBools c b) = .ok d ∧
      ∀ g ∈ c.gates, ∃ x, d.get? g.label = some x ∧ x ≠ U := by
  obtain ⟨d, hd, hv, hall, _⟩ := evalFull_spec h (asgOfBools c b)
  refine ⟨d, hd, ?_⟩
  have hv' := isVal3_asgOfBools h hv
  exact fun g hg => ⟨_, get?_eq_some_valOf (hall g hg), val3_total_defined h.toWF hv' g hg⟩

/-- **Soundness, demand-driven evaluation** (`evaluate_circuit`, hence
`evaluate_circuit_outputs`): every reported value of every gate is below the Boolean value
under every completion. -/
theorem c15_sound_lazy {c : Circuit} (h : WFU c) (asg : Asg) (outs : Option (List Label))
    (hasg : ∀ g ∈ c.gates, g.ty ≠ INPUT → asg.get? g.label = none)
    (houts : ∀ o ∈ outs.getD c.outputs, o ∈ c.labels)
    (b vB : Label → Bool) (hab : ∀ l, asgFun asg l ≤ ofBool (b l)) (hB : IsValB c b vB)
    {d : Asg} (hd : evalLazy c asg outs = .ok d) :
    ∀ g ∈ c.gates, ∀ x, d.get? g.label = some x → x ≤ ofBool (vB g.label) := by
  obtain ⟨v, hv⟩ := val3_exists h asg
  obtain ⟨h1, _⟩ := evalLazy_sound h.toWF asg outs hasg houts hv hd
  intro g hg x hx
  rcases h1 g hg with h' | h'
  · rw [hx] at h'; cases h'
    exact val3_sound h.toWF hab hv hB g hg
  · rw [hx] at h'; cases h'; exact Or.inl rfl

/-- **Totality, demand-driven evaluation, at the requested outputs**: under a total assignment
no requested output is Undefined. -/
theorem c15_total_lazy_outputs {c : Circuit} (h : WFU c) (b : Label → Bool)
    (outs : Option (List Label)) (houts : ∀ o ∈ outs.getD c.outputs, o ∈ c.labels)
    {d : Asg} (hd : evalLazy c (asgOfBools c b) outs = .ok d) :
    ∀ o ∈ outs.getD c.outputs, ∃ x, d.get? o = some x ∧ x ≠ U := by
  obtain ⟨v, hv, hv'⟩ := val3_exists_bool h b
  have hasg := asgOfBools_get?_gate h b
  obtain ⟨_, h2⟩ := evalLazy_sound h.toWF _ outs hasg houts hv hd
  intro o ho
  obtain ⟨g, hg, hgl⟩ := gate_of_label (houts o ho)
  refine ⟨_, h2 o ho, ?_⟩
  have := val3_total_defined h.toWF hv' g hg
  rwa [hgl] at this

/-- **The demand-driven evaluator returns**: on a well-formed circuit, for every partial assignment to
inputs (Undefined inputs included) and every list of existing requested outputs, the explicit-stack loop
terminates within its step budget and raises nothing. -/
theorem c15_lazy_returns {c : Circuit} (h : WFU c) (asg : Asg) (outs : Option (List Label))
    (hasg : ∀ g ∈ c.gates, g.ty ≠ INPUT → asg.get? g.label = none)
    (houts : ∀ o ∈ outs.getD c.outputs, o ∈ c.labels) : ∃ d, evalLazy c asg outs = .ok d := by
  obtain ⟨v, hv⟩ := val3_exists h asg
  obtain ⟨_, d, _, hd, _⟩ := evalLazy_spec h.toWF asg outs hasg houts hv rfl
  exact ⟨d, hd⟩

/-- the step budget of the lazy evaluation is never the reason for an error, whatever the assignment and the request,
on any acyclic circuit with distinct labels -/
theorem c15_lazy_terminates {c : Circuit} (hnd : c.labels.Nodup)
    (hrank : ∃ r : Label → Nat, ∀ g ∈ c.gates, ∀ o ∈ g.ops, r o < r g.label)
    (asg : Asg) (outs : Option (List Label)) : evalLazy c asg outs ≠ .error "fuel" := by
  obtain ⟨r, hrk⟩ := hrank
  have key := lazyLoop_terminates hrk (funded_init hnd
    ((outs.getD c.outputs).filter (fun o => !c.inputs.contains o)) (initAsg c asg))
  unfold evalLazy
  simp only
  split
  · rename_i e he
    intro h
    simp only [Except.error.injEq] at h
    subst h
    exact key he
  · simp

/-- **Monotonicity, demand-driven evaluation, at every gate**: the evaluator visits the same gates
under `asg` and under a more defined `asg'` (which gates are visited depends only on which labels
are defined, never on the values), so the value reported for *any* gate under `asg` is below the one
reported under `asg'` — an already defined result never changes. -/
theorem c15_mono_lazy_every_gate {c : Circuit} (h : WFU c) (asg asg' : Asg) (outs : Option (List Label))
    (hasg : ∀ g ∈ c.gates, g.ty ≠ INPUT → asg.get? g.label = none)
    (hasg' : ∀ g ∈ c.gates, g.ty ≠ INPUT → asg'.get? g.label = none)
    (houts : ∀ o ∈ outs.getD c.outputs, o ∈ c.labels) (hle : AsgLe asg asg')
    {d d' : Asg} (hd : evalLazy c asg outs = .ok d) (hd' : evalLazy c asg' outs = .ok d') :
    ∀ g ∈ c.gates, valOf d g.label ≤ valOf d' g.label := by
  obtain ⟨v, hv⟩ := val3_exists h asg
  obtain ⟨v', hv'⟩ := val3_exists h asg'
  exact evalLazy_mono_all h.toWF asg asg' outs hasg hasg' houts hv hv' hle hd hd'

/-- **Monotonicity, demand-driven evaluation, at the requested outputs.** -/
theorem c15_mono_lazy_outputs {c : Circuit} (h : WFU c) (asg asg' : Asg) (outs : Option (List Label))
    (hasg : ∀ g ∈ c.gates, g.ty ≠ INPUT → asg.get? g.label = none)
    (hasg' : ∀ g ∈ c.gates, g.ty ≠ INPUT → asg'.get? g.label = none)
    (houts : ∀ o ∈ outs.getD c.outputs, o ∈ c.labels) (hle : AsgLe asg asg')
    {d d' : Asg} (hd : evalLazy c asg outs = .ok d) (hd' : evalLazy c asg' outs = .ok d') :
    ∀ o ∈ outs.getD c.outputs, valOf d o ≤ valOf d' o := by
  intro o ho
  obtain ⟨g, hg, rfl⟩ := gate_of_label (houts o ho)
  exact c15_mono_lazy_every_gate h asg asg' outs hasg hasg' houts hle hd hd' g hg

/-- **Totality, demand-driven evaluation, at every evaluated gate**: the returned dictionary is the
dictionary `d1` of the gates the evaluator visited, completed with `Undefined` for the others; under
a total assignment no visited gate is Undefined. -/
theorem c15_total_lazy_evaluated_gates {c : Circuit} (h : WFU c) (b : Label → Bool)
    (outs : Option (List Label)) (houts : ∀ o ∈ outs.getD c.outputs, o ∈ c.labels)
    {d : Asg} (hd : evalLazy c (asgOfBools c b) outs = .ok d) :
    ∃ d1 : Asg, (∀ l, d.get? l = if l ∈ c.labels then some ((d1.get? l).getD V3.U) else d1.get? l) ∧
      ∀ g ∈ c.gates, ∀ x, d1.get? g.label = some x → x ≠ U := by
  obtain ⟨v, hv, hv'⟩ := val3_exists_bool h b
  have hasg := asgOfBools_get?_gate h b
  obtain ⟨d1, _, _, hd', hget, hev, _⟩ := evalLazy_spec h.toWF _ outs hasg houts hv rfl
  cases hd.symm.trans hd'
  refine ⟨d1, hget, ?_⟩
  intro g hg x hx
  rw [hev _ (mem_labels_of_mem hg) x hx]
  exact val3_total_defined h.toWF hv' g hg

/-! Non-vacuity: the hypotheses are satisfiable (a concrete `WFU` circuit), and the evaluators
return on a circuit with sharing, a repeated operand and a 3-ary gate. -/
def exTiny : Circuit :=
  { gates := [⟨"a", INPUT, []⟩, ⟨"n", NOT, ["a"]⟩], inputs := ["a"], outputs := ["n"],
    users := [("a", ["n"])], blocks := [] }

/-- built by the mutators from the empty circuit, which keep the invariant -/
theorem exTiny_wfu : WFU exTiny :=
  WFU.ofWFS (runOps_wfs [.addGate ⟨"a", INPUT, []⟩, .addGate ⟨"n", NOT, ["a"]⟩, .markAsOutput "n"]
    wfs_empty (by simp [MOp.valid]) (c' := exTiny) rfl) (by simp [ArOK, exTiny, arityOk])

example : ∃ d, evalFull exTiny [("a", T)] = .ok d ∧ valOf d "n" = F := ⟨_, rfl, by decide⟩

def exC : Circuit :=
  { gates := [⟨"a", INPUT, []⟩, ⟨"b", INPUT, []⟩, ⟨"x", XOR, ["a", "b", "a"]⟩, ⟨"y", GT, ["x", "x"]⟩,
              ⟨"z", NOR, ["y", "b"]⟩],
    inputs := ["a", "b"], outputs := ["z", "a"],
    users := [("a", ["x", "x"]), ("b", ["x", "z"]), ("x", ["y", "y"]), ("y", ["z"])], blocks := [] }

example : checkWFU exC = "ok" := by decide
example : (evalFull exC [("a", T)]).toOption = some [("a", T), ("b", U), ("x", U), ("y", U), ("z", U)] := by decide
example : (evalFull exC [("b", T)]).toOption = some [("b", T), ("a", U), ("x", U), ("y", U), ("z", F)] := by decide
example : (evalLazy exC [("b", T)] none).toOption = some [("b", T), ("a", U), ("x", U), ("y", U), ("z", F)] := by decide

#print axioms c15_op_mono
#print axioms c15_op_sound
#print axioms c15_sound_full
#print axioms c15_mono_full
#print axioms c15_total_full
#print axioms c15_sound_lazy
#print axioms c15_mono_lazy_outputs
#print axioms c15_total_lazy_outputs
#print axioms c15_lazy_returns
#print axioms c15_lazy_terminates
#print axioms c15_mono_lazy_every_gate
#print axioms c15_total_lazy_evaluated_gates

end Cirbo
