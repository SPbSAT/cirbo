import Cirbo.Generated.TseytinTemplates
import Cirbo.Proofs.Tseytin
import Cirbo.Proofs.EvalCor
/-!
# C05 — The circuit-to-CNF reduction is exact

-- OBLIGATION: c05_generated_templates_are_the_model
-- OBLIGATION: c05_template_exact
-- OBLIGATION: c05_tseytin_exact
-- OBLIGATION: c05_sat_query
-- OBLIGATION: c05_tseytin_returns
-- PARTIAL: every clause is proved on the model, incl. that the transformation returns on well-formed circuits (the recursion depth never exceeds the number of gates: c05_tseytin_returns; CPython's own recursion limit of 1000 frames is not modelled). The SAT solver is a parameter assumed sound and complete.
-/
namespace Cirbo
open GateType

/-- what the translator obtained by running `tseytin_transformation` on one-gate circuits (every
gate type, 0..4 operands) is the model's template -/
theorem c05_generated_templates_are_the_model (ty : GateType) (k : Nat) (hk : k ≤ 4) (hty : ty ≠ INPUT) :
    Gen.tsTemplate ty k
      = tsTemplate ty (Int.ofNat (k + 1)) ((List.range k).map (fun i => Int.ofNat (i + 1))) := by
  have : k = 0 ∨ k = 1 ∨ k = 2 ∨ k = 3 ∨ k = 4 := by omega
  rcases this with rfl | rfl | rfl | rfl | rfl <;> cases ty <;> first | exact absurd rfl hty | rfl

/-- every clause template, at **every** accepted arity, says exactly "the gate literal carries
`bfun` of the operand literals" (this is also C01's clause for the CNF templates) -/
theorem c05_template_exact (ty : GateType) (top : Int) (lits : List Int) (ht : top ≠ 0)
    (h : ∀ l ∈ lits, l ≠ 0) (hty : ty ≠ INPUT) (har : arityOk ty lits.length = true) :
    ∃ cls, tsTemplate ty top lits = some cls ∧
      ∀ σ, cnfSat σ cls = true ↔ bfun ty (lits.map (litVal σ)) = some (litVal σ top) :=
  tsTemplate_exact ty top lits ht h hty har

/-- **The reduction is exact** for every well-formed circuit, every selection of output indices
and every total input assignment `b` (with denotation `vB`): (1) input i is variable i+1;
(2) an assignment that gives the input variables the values `b` satisfies the CNF iff it gives
every encoded gate its evaluated value and all selected outputs evaluate to True;
(3) CNF ∧ input assignment is satisfiable iff all selected outputs evaluate to True. -/
theorem c05_tseytin_exact {c : Circuit} (h : WF c) (outs : Option (List Nat)) {cnf : Cnf}
    {lits : Dict Nat} (ht : tseytin c outs = .ok (cnf, lits)) (b vB : Label → Bool)
    (hB : IsValB c b vB) :
    (∀ j (hj : j < c.inputs.length), lits.get? c.inputs[j] = some (j + 1)) ∧
    (∀ σ, (∀ i ∈ c.inputs, σ (litD lits i) = b i) →
      (cnfSat σ cnf = true ↔
        (∀ g ∈ c.gates, (lits.get? g.label).isSome = true → σ (litD lits g.label) = vB g.label) ∧
        (∀ i ∈ outs.getD (List.range c.outputs.length), ∀ o, c.outputs[i]? = some o → vB o = true))) ∧
    ((∃ σ, (∀ i ∈ c.inputs, σ (litD lits i) = b i) ∧ cnfSat σ cnf = true) ↔
      (∀ i ∈ outs.getD (List.range c.outputs.length), ∀ o, c.outputs[i]? = some o → vB o = true)) :=
  tseytin_exact h outs ht b vB hB

/-- **Circuit satisfiability query** with any sound and complete solver: the CNF of all outputs is
satisfiable iff some input assignment makes all outputs True, and every model of the CNF projects
(variables 1..n ↦ inputs) onto such an assignment. -/
theorem c05_sat_query {c : Circuit} (h : WFU c) {cnf : Cnf} {lits : Dict Nat}
    (ht : tseytin c none = .ok (cnf, lits)) :
    ((∃ σ, cnfSat σ cnf = true) ↔
      ∃ b vB, IsValB c b vB ∧ ∀ o ∈ c.outputs, vB o = true) ∧
    (∀ σ, cnfSat σ cnf = true → ∀ vB, IsValB c (fun i => σ (litD lits i)) vB →
      ∀ o ∈ c.outputs, vB o = true) := by
  have hall : ∀ (vB : Label → Bool),
      (∀ i ∈ (none : Option (List Nat)).getD (List.range c.outputs.length), ∀ o, c.outputs[i]? = some o → vB o = true)
        ↔ ∀ o ∈ c.outputs, vB o = true := by
    intro vB
    simp only [Option.getD_none, List.mem_range]
    constructor
    · intro hh o ho
      obtain ⟨i, e⟩ := List.mem_iff_getElem?.mp ho
      exact hh i (List.getElem?_eq_some_iff.mp e).1 o e
    · exact fun hh i _ o ho => hh o (List.mem_of_getElem? ho)
  have hproj : ∀ σ, cnfSat σ cnf = true → ∀ vB, IsValB c (fun i => σ (litD lits i)) vB →
      ∀ o ∈ c.outputs, vB o = true := by
    intro σ hs vB hB
    obtain ⟨_, h2, _⟩ := tseytin_exact h.toWF none ht (fun i => σ (litD lits i)) vB hB
    exact (hall vB).mp ((h2 σ (fun i _ => rfl)).mp hs).2
  refine ⟨⟨?_, ?_⟩, hproj⟩
  · rintro ⟨σ, hs⟩
    obtain ⟨vB, hB⟩ := valB_exists h (fun i => σ (litD lits i))
    exact ⟨_, vB, hB, hproj σ hs vB hB⟩
  · rintro ⟨b, vB, hB, ho⟩
    obtain ⟨_, _, h3⟩ := tseytin_exact h.toWF none ht b vB hB
    obtain ⟨σ, _, hs⟩ := h3.mpr ((hall vB).mpr ho)
    exact ⟨σ, hs⟩

/-! Non-vacuity: a run of the model on a circuit with a 3-ary XOR and a repeated operand. -/
def exTs : Circuit :=
  { gates := [⟨"a", INPUT, []⟩, ⟨"b", INPUT, []⟩, ⟨"x", XOR, ["a", "b", "a"]⟩, ⟨"y", NOR, ["x", "b"]⟩],
    inputs := ["a", "b"], outputs := ["y"], users := [("a", ["x", "x"]), ("b", ["x", "y"]), ("x", ["y"])],
    blocks := [] }
example : (tseytin exTs none).toOption.map (·.2) = some [("a", 1), ("b", 2), ("x", 3), ("y", 4)] := by decide
example : (tseytin exTs none).toOption.map (·.1.length) = some 12 := by decide

/-- **the transformation returns** on every well-formed circuit and every selection of existing
output indices: no `GateDoesntExistError`, no `IndexError` from a template, and the recursion never
goes deeper than the number of gates -/
theorem c05_tseytin_returns {c : Circuit} (h : WF c) (outs : Option (List Nat))
    (hidx : ∀ l, outs = some l → ∀ i ∈ l, i < c.outputs.length) :
    ∃ cnf lits, tseytin c outs = .ok (cnf, lits) := by
  rcases tseytin_outcome h outs with ⟨cnf, lits, _, _, ht, _⟩ | ⟨_, i, hi, hle⟩
  · exact ⟨cnf, lits, ht⟩
  · cases outs with
    | none => exact absurd (List.mem_range.mp hi) (Nat.not_lt.mpr hle)
    | some l => exact absurd (hidx l rfl i hi) (Nat.not_lt.mpr hle)

#print axioms c05_generated_templates_are_the_model
#print axioms c05_template_exact
#print axioms c05_tseytin_exact
#print axioms c05_sat_query

#print axioms c05_tseytin_returns

end Cirbo
