import Cirbo.Proofs.CodecRT
import Cirbo.Proofs.DictIO
/-!
# C16 — The database codec never silently changes a circuit

-- OBLIGATION: c16_number_roundtrip
-- OBLIGATION: c16_number_too_large
-- OBLIGATION: c16_dict_roundtrip
-- OBLIGATION: c16_dict_truncated
-- OBLIGATION: c16_dict_trailing
-- OBLIGATION: c16_enumeration_order
-- OBLIGATION: c16_circuit_roundtrip
-- OBLIGATION: c16_circuit_roundtrip_same_function
-- OBLIGATION: c16_encode_succeeds_on_conforming
-- OBLIGATION: c16_encode_errors
-- PARTIAL: the circuit-level round trip is proved for every well-formed circuit the encoder accepts (whatever its gate storage order). Which circuits the encoder accepts is a theorem too (c16_encode_succeeds_on_conforming: exactly the well-formed circuits over the format's gate types and arities, word size < 256; c16_encode_errors: otherwise a codec error); that malformed byte strings are rejected with the documented errors is decided by the correspondence (the model is compared byte for byte with the code on every run).
-/
namespace Cirbo

/-- **Bit level**: a number below `2^w` written with `w` bits anywhere in a stream (after any
prefix, before any suffix, across byte boundaries, with the final padding) is read back exactly
and the reader advances by `w` bits. -/
theorem c16_number_roundtrip (pre post : List Bool) (k w : Nat) (h : k < 2 ^ w) :
    writeNumber k w = some (numBits k w) ∧
    readNumber (packBytes (pre ++ numBits k w ++ post)) pre.length w = some (k, pre.length + w) :=
  ⟨writeNumber_some k w h, readNumber_roundtrip pre post k w h⟩

/-- a number that does not fit is rejected (`BitIOError`), never truncated -/
theorem c16_number_too_large (k w : Nat) (h : 2 ^ w ≤ k) : writeNumber k w = none :=
  writeNumber_none k w h

/-- **Dictionary level**: every dictionary with distinct keys (arbitrary byte strings — the UTF-8
encodings of the string keys — and byte values) that the writer accepts is read back exactly -/
theorem c16_dict_roundtrip (d : BDict) (h : keysNodup d) {bs : List Nat} (hw : writeDict d = some bs) :
    readDict bs = some d := by
  obtain ⟨hdr, body, rfl, h1, h2, hr⟩ := writeDict_some hw
  have := hr []
  rw [List.append_nil] at this
  simp [readDict, takeExact_append hdr _ 8 h2, h1, this, dictOfEntries_nodup d h]

/-- every strict prefix of a written dictionary is rejected (`BinaryDictIOError`) -/
theorem c16_dict_truncated (d : BDict) {bs : List Nat} (hw : writeDict d = some bs) (m : Nat)
    (hm : m < bs.length) : readDict (bs.take m) = none := by
  obtain ⟨hdr, body, rfl, h1, h2, hr⟩ := writeDict_some hw
  have hfull := hr []
  rw [List.append_nil] at hfull
  unfold readDict
  by_cases hm8 : m < 8
  · have : takeExact ((hdr ++ body).take m) 8 = none := by
      unfold takeExact; simp [List.length_take]; omega
    simp [this]
  · have hsplit : (hdr ++ body).take m = hdr ++ body.take (m - 8) := by
      rw [List.take_append, h2, List.take_of_length_le (by omega)]
    rw [hsplit, takeExact_append hdr _ 8 h2]
    simp only [Option.bind_eq_bind, Option.bind_some, h1]
    cases hr' : readEntries d.length (body.take (m - 8)) with
    | none => rfl
    | some x =>
      -- reading a strict prefix would, on the whole body, leave the missing part unread
      obtain ⟨es, rest⟩ := x
      have hmono := readEntries_mono _ _ (body.drop (m - 8)) _ _ hr'
      rw [List.take_append_drop, hfull, Option.some.injEq, Prod.mk.injEq] at hmono
      have hlen := congrArg List.length hmono.2
      simp [List.length_drop] at hlen hm
      omega

/-- trailing data after a written dictionary is rejected -/
theorem c16_dict_trailing (d : BDict) {bs : List Nat} (hw : writeDict d = some bs) (x : Nat) (t : List Nat) :
    readDict (bs ++ x :: t) = none := by
  obtain ⟨hdr, body, rfl, h1, h2, hr⟩ := writeDict_some hw
  rw [List.append_assoc]
  simp [readDict, takeExact_append hdr _ 8 h2, h1, hr (x :: t)]

/-- `_enumerate_gates` on a well-formed circuit, whatever its internal gate order: every gate exactly
once, the inputs first in input order, every gate after all of its operands (its step budget is
never exhausted). -/
theorem c16_enumeration_order {c : Circuit} (hw : WFS c) : EnumOK c (enumerateGates c) :=
  enumerateGates_wfs hw

/-- **Circuit level**: for every well-formed circuit the encoder accepts, decoding the produced bytes
succeeds and returns the same circuit with every label `l` replaced by `gate_<position of l in the
dependency-order enumeration>`: the gates in enumeration order with renamed operands, the inputs and
the outputs renamed position by position (the enumeration is a bijection onto the labels). -/
theorem c16_circuit_roundtrip {c : Circuit} (hw : WFS c) {bytes : List Nat} (he : encodeCircuit c = .ok bytes) :
    ∃ D, decodeCircuit bytes = .ok D ∧
      D.gates = ((enumerateGates c).filterMap c.find?).map (renC (enumerateGates c)) ∧
      D.inputs = c.inputs.map (fun l => gateLabel ((enumerateGates c).idxOf l)) ∧
      D.outputs = c.outputs.map (fun l => gateLabel ((enumerateGates c).idxOf l)) ∧
      (enumerateGates c).Nodup ∧ (∀ l, l ∈ enumerateGates c ↔ l ∈ c.labels) :=
  codec_roundtrip hw he

/-- hence the decoded circuit has as many inputs and outputs and computes the same function -/
theorem c16_circuit_roundtrip_same_function {c : Circuit} (hw : WFS c) {bytes : List Nat}
    (he : encodeCircuit c = .ok bytes) :
    ∃ D, decodeCircuit bytes = .ok D ∧ D.inputs.length = c.inputs.length ∧ D.outputs.length = c.outputs.length ∧
      ∀ b v, IsValB c b v → ∃ b' v', IsValB D b' v' ∧ D.inputs.map b' = c.inputs.map b ∧ D.outputs.map v' = c.outputs.map v := by
  obtain ⟨D, hD, -, iD, oD, -⟩ := codec_roundtrip hw he
  obtain ⟨f, hf, hsem⟩ := codec_roundtrip_refines hw he hD
  exact ⟨D, hD, by simp [iD], by simp [oD], fun b v hv =>
    let ⟨v', h1, h2⟩ := hsem b v hv
    ⟨b ∘ f, v', h1, by simp [← hf], h2⟩⟩

/-! Non-vacuity -/
example : writeDict [([0xc3, 0xa9], [1, 2, 3]), ([], [])] =
    some [0,0,0,0,0,0,0,2, 0,2,0xc3,0xa9, 0,3,1,2,3, 0,0, 0,0] := by decide
example : keysNodup [([0xc3, 0xa9], [1, 2, 3]), ([], [])] := by unfold keysNodup; decide

#print axioms c16_number_roundtrip
#print axioms c16_number_too_large
#print axioms c16_dict_roundtrip
#print axioms c16_dict_truncated
#print axioms c16_dict_trailing
#print axioms c16_enumeration_order
#print axioms c16_circuit_roundtrip
#print axioms c16_circuit_roundtrip_same_function

/-- **encoding and decoding succeed on every circuit that uses only the gate types and arities the format defines**,
whatever the storage order or the input count (the one size condition: the word size fits the one-byte header, i.e.
fewer than 2^255 inputs, outputs and gates: `ct_wordSize_small`) — and it is an equivalence: a well-formed circuit is encoded exactly when it
conforms -/
theorem c16_encode_succeeds_on_conforming {c : Circuit} (hw : WFS c)
    (hconf : ∀ g ∈ c.gates, g.ty ≠ GateType.INPUT → (Gen.codecTypeId g.ty).isSome ∧ g.ops.length = Gen.codecArity g.ty)
    (hws : wordSize c < 256) :
    (∃ bytes D, encodeCircuit c = .ok bytes ∧ decodeCircuit bytes = .ok D) ∧
    ((∃ bytes, encodeCircuit c = .ok bytes) ↔
      ((∀ g ∈ c.gates, g.ty ≠ GateType.INPUT → (Gen.codecTypeId g.ty).isSome ∧ g.ops.length = Gen.codecArity g.ty) ∧ wordSize c < 256)) := by
  obtain ⟨bytes, D, h1, h2, _⟩ := ct_roundtrip_total hw hconf hws
  exact ⟨⟨bytes, D, h1, h2⟩, ct_encode_ok_iff hw⟩

/-- and when the encoder refuses a well-formed circuit it raises a database-codec error, nothing else -/
theorem c16_encode_errors {c : Circuit} (hw : WFS c) {e : String} (h : encodeCircuit c = .error e) :
    e = "CircuitEncodingError" ∨ e = "BitIOError" := ct_encode_error_range hw h

#print axioms c16_encode_succeeds_on_conforming
#print axioms c16_encode_errors

end Cirbo
