import Cirbo.Proofs.GenArith
import Cirbo.Proofs.GenDiv
import Cirbo.Proofs.GenSqrt
import Cirbo.Proofs.GenTotalDivSqrt
/-!
# C09 — Subtraction, comparison and gadget generators are exact

-- OBLIGATION: c09_generators_only_add_fresh_gates
-- OBLIGATION: c09_sub_two_numbers
-- OBLIGATION: c09_subtract_with_compare
-- OBLIGATION: c09_equal
-- OBLIGATION: c09_plus_one
-- OBLIGATION: c09_if_then_else
-- OBLIGATION: c09_pairwise_xor
-- OBLIGATION: c09_pairwise_if_then_else
-- OBLIGATION: c09_outputs_only_when_asked
-- OBLIGATION: c09_div_mod
-- OBLIGATION: c09_sqrt
-- OBLIGATION: c09_generators_return
-- PARTIAL: every clause is proved on the model (add_div_mod: restoring-division invariant a = Q*2^i*b + rem, rem < b*2^i through the descending loop, OR-prefixes of the divisor, zero-divisor masking; add_sqrt: digit-by-digit invariant c = rho*4^j, x = a - rho^2*4^j, a < (rho+1)^2*4^j, no overflow of the trial subtrahend). add_equal is proved for width >= 1 (width 0 is outside the stated domain: every other generator rejects it). Totality is proved too (c09_generators_return, Proofs/GenTotal*.lean): on valid arguments every generator of this property returns — no shape error, no clashing label, no mark of a non-gate — or stops because the 128-bit space of random labels is exhausted; one necessary extra condition for add_pairwise_if_then_else with caller-given result labels (no given label is one the generator draws later; ca_pairIte_collision exhibits the failing run). What remains by correspondence only: the tie between the model programs and the Python generators (gate for gate on every run). Proofs/GenSqrt.lean uses Mathlib's `ring` tactic (no extra axioms).
-/
namespace Cirbo

/-- the frame theorem of C07 covers every generator of this property too (they are `Prog`s):
only fresh non-INPUT gates, inputs/blocks kept, existing gates keep their function -/
theorem c09_generators_only_add_fresh_gates {α} (p : Prog α) {st st' : GSt} {a : α}
    (h : p.run st = .ok (a, st')) (hw : WFS st.c) : GenFrame st.c st'.c := run_frame p h hw

/-- **`add_sub_two_numbers`**: `|res| = |a|` and, with `b' = b mod 2^|a|`, `a + 2^|a|·k = b' + res`
for a borrow `k ≤ 1` — i.e. `res = (a − b) mod 2^|a|` -/
theorem c09_sub_two_numbers {st st' : GSt} {x y out : List Label} {be : Bool}
    (h : (addSubTwoNumbers x y be).run st = .ok (out, st')) (hw : WFS st.c)
    (hx : ∀ l ∈ x, l ∈ st.c.labels) (hy : ∀ l ∈ y, l ∈ st.c.labels)
    {b v : Label → Bool} (hv : IsValB st.c b v) :
    out.length = x.length ∧
    ∃ v', IsValB st'.c b v' ∧ (∀ l ∈ st.c.labels, v' l = v l) ∧
      ∃ k, k ≤ 1 ∧ valLE v (revIf x be) + 2 ^ x.length * k =
        valLE v ((revIf y be).take x.length) + valLE v' (revIf out be) := by
  obtain ⟨v', h1, h2, h3⟩ := run_total h hw hv
  obtain ⟨e1, k, hk, e2⟩ := sem_addSubTwoNumbers h3
  refine ⟨e1, v', h1, h2, k, hk, ?_⟩
  rw [← valLE_revIf_congr be h2 hx,
    ← valLE_congr (v := v) (v' := v') (fun l hl => h2 l (hy l (mem_revIf.mp (List.mem_of_mem_take hl))))]
  exact e2

/-- **`add_subtract_with_compare`**: with `w = max(|a|,|b|)`: `a + 2^w·borrow = b + res`, and the
returned flag is True exactly when `a < b` -/
theorem c09_subtract_with_compare {st st' : GSt} {x y out : List Label} {bal : Label} {be : Bool}
    (h : (addSubtractWithCompare x y be).run st = .ok ((out, bal), st')) (hw : WFS st.c)
    (hx : ∀ l ∈ x, l ∈ st.c.labels) (hy : ∀ l ∈ y, l ∈ st.c.labels)
    {b v : Label → Bool} (hv : IsValB st.c b v) :
    out.length = max x.length y.length ∧
    ∃ v', IsValB st'.c b v' ∧ (∀ l ∈ st.c.labels, v' l = v l) ∧
      valLE v (revIf x be) + 2 ^ (max x.length y.length) * bv v' bal = valLE v (revIf y be) + valLE v' (revIf out be) ∧
      (v' bal = true ↔ valLE v (revIf x be) < valLE v (revIf y be)) := by
  obtain ⟨v', h1, h2, h3⟩ := run_total h hw hv
  obtain ⟨e1, e2, e3⟩ := sem_addSubtractWithCompare h3
  rw [valLE_revIf_congr be h2 hx, valLE_revIf_congr be h2 hy] at e2 e3
  exact ⟨e1, v', h1, h2, e2, e3⟩

/-- **`add_equal`**: True exactly when the little-endian operand equals the constant — any integer constant:
never when it does not fit, never when it is negative -/
theorem c09_equal {st st' : GSt} {ins : List Label} {num : Int} {out : Label}
    (h : (addEqualZ ins num).run st = .ok (out, st')) (hw : WFS st.c) (hn : 1 ≤ ins.length)
    (hin : ∀ l ∈ ins, l ∈ st.c.labels) {b v : Label → Bool} (hv : IsValB st.c b v) :
    ∃ v', IsValB st'.c b v' ∧ (∀ l ∈ st.c.labels, v' l = v l) ∧ (v' out = true ↔ (valLE v ins : Int) = num) := by
  obtain ⟨v', h1, h2, h3⟩ := run_total h hw hv
  refine ⟨v', h1, h2, ?_⟩
  rw [← valLE_congr (v := v) (v' := v') (fun l hl => h2 l (hin l hl))]
  exact sem_addEqualZ h3 hn

/-- **`add_plus_one`**: `(x + 1) mod 2^out_len`, whatever `out_len` is -/
theorem c09_plus_one {st st' : GSt} {ins out : List Label} {rl : Option (List Label)} {ao be : Bool}
    (h : (addPlusOne ins rl ao be).run st = .ok (out, st')) (hw : WFS st.c)
    (hin : ∀ l ∈ ins, l ∈ st.c.labels) {b v : Label → Bool} (hv : IsValB st.c b v) :
    ∃ v', IsValB st'.c b v' ∧ (∀ l ∈ st.c.labels, v' l = v l) ∧
      valLE v' (revIf out be) = (valLE v (revIf ins be) + 1) % 2 ^ out.length := by
  obtain ⟨v', h1, h2, h3⟩ := run_total h hw hv
  refine ⟨v', h1, h2, ?_⟩
  rw [← valLE_revIf_congr be h2 hin]
  exact sem_addPlusOne h3

theorem c09_if_then_else {st st' : GSt} {i t e out : Label} {rl : Option Label} {ao : Bool}
    (h : (addIfThenElse i t e rl ao).run st = .ok (out, st')) (hw : WFS st.c)
    (hi : i ∈ st.c.labels) (ht : t ∈ st.c.labels) (he : e ∈ st.c.labels)
    {b v : Label → Bool} (hv : IsValB st.c b v) :
    ∃ v', IsValB st'.c b v' ∧ (∀ l ∈ st.c.labels, v' l = v l) ∧ v' out = if v i then v t else v e := by
  obtain ⟨v', h1, h2, h3⟩ := run_total h hw hv
  refine ⟨v', h1, h2, ?_⟩
  rw [← h2 i hi, ← h2 t ht, ← h2 e he]
  exact (sem_addIfThenElse h3).2

theorem c09_pairwise_xor {st st' : GSt} {xs ys out : List Label} {rl : Option (List Label)} {ao : Bool}
    (h : (addPairwiseXor xs ys rl ao).run st = .ok (out, st')) (hw : WFS st.c)
    (hx : ∀ l ∈ xs, l ∈ st.c.labels) (hy : ∀ l ∈ ys, l ∈ st.c.labels)
    {b v : Label → Bool} (hv : IsValB st.c b v) :
    out.length = xs.length ∧
    ∃ v', IsValB st'.c b v' ∧ (∀ l ∈ st.c.labels, v' l = v l) ∧
      out.map v' = List.zipWith xor (xs.map v) (ys.map v) := by
  obtain ⟨v', h1, h2, h3⟩ := run_total h hw hv
  obtain ⟨e1, e2⟩ := sem_addPairwiseXor h3
  refine ⟨e1, v', h1, h2, ?_⟩
  rw [e2, List.map_congr_left (fun l hl => h2 l (hx l hl)), List.map_congr_left (fun l hl => h2 l (hy l hl))]

theorem c09_pairwise_if_then_else {st st' : GSt} {is ts es out : List Label} {rl : Option (List Label)} {ao : Bool}
    (h : (addPairwiseIfThenElse is ts es rl ao).run st = .ok (out, st')) (hw : WFS st.c)
    (hi : ∀ l ∈ is, l ∈ st.c.labels) (ht : ∀ l ∈ ts, l ∈ st.c.labels) (he : ∀ l ∈ es, l ∈ st.c.labels)
    {b v : Label → Bool} (hv : IsValB st.c b v) :
    out.length = is.length ∧
    ∃ v', IsValB st'.c b v' ∧ (∀ l ∈ st.c.labels, v' l = v l) ∧
      out.map v' = iteSpec (is.map v) (ts.map v) (es.map v) := by
  obtain ⟨v', h1, h2, h3⟩ := run_total h hw hv
  obtain ⟨e1, e2⟩ := sem_addPairwiseIfThenElse h3
  refine ⟨e1, v', h1, h2, ?_⟩
  rw [e2, List.map_congr_left (fun l hl => h2 l (hi l hl)), List.map_congr_left (fun l hl => h2 l (ht l hl)),
    List.map_congr_left (fun l hl => h2 l (he l hl))]

/-- **outputs are marked only when asked to** (shown for `add_if_then_else`; the same shape for the
other gadgets): with `add_outputs=False` the host's outputs are unchanged -/
theorem c09_outputs_only_when_asked {st st' : GSt} {i t e out : Label} {rl : Option Label}
    (h : (addIfThenElse i t e rl false).run st = .ok (out, st')) : st'.c.outputs = st.c.outputs := by
  refine run_noMark ?_ h
  unfold addIfThenElse
  refine noMark_bind ?_ fun res => noMark_bind (noMark_freshLabels _ _ _) fun tmp => ?_
  · cases rl with
    | some l => exact .pure _
    | none => exact .fresh _ _ (fun l => .pure _)
  · split
    · exact .add _ _ _ (.add _ _ _ (.add _ _ _ (.add _ _ _ (by simp only [Bool.false_eq_true, if_false]; exact .pure _))))
    · exact .fail _

/-- **`add_div_mod`** on arbitrary host gates (equal widths, either endianness): for `b ≠ 0` the
results are `⌊a/b⌋` and `a mod b`; for `b = 0` both are `0`; both have the operands' width -/
theorem c09_div_mod {st st' : GSt} {x y q r : List Label} {be : Bool}
    (h : (addDivMod x y be).run st = .ok ((q, r), st')) (hw : WFS st.c)
    (hx : ∀ l ∈ x, l ∈ st.c.labels) (hy : ∀ l ∈ y, l ∈ st.c.labels)
    {b v : Label → Bool} (hv : IsValB st.c b v) :
    q.length = x.length ∧ r.length = x.length ∧
    ∃ v', IsValB st'.c b v' ∧ (∀ l ∈ st.c.labels, v' l = v l) ∧
      (valLE v (revIf y be) = 0 → valLE v' (revIf q be) = 0 ∧ valLE v' (revIf r be) = 0) ∧
      (0 < valLE v (revIf y be) →
        valLE v' (revIf q be) = valLE v (revIf x be) / valLE v (revIf y be) ∧
        valLE v' (revIf r be) = valLE v (revIf x be) % valLE v (revIf y be)) := by
  obtain ⟨v', h1, h2, h3⟩ := run_total h hw hv
  obtain ⟨e1, e2, e3, e4⟩ := sem_addDivMod h3
  rw [valLE_revIf_congr be h2 hx,
    valLE_revIf_congr be h2 hy] at e4
  rw [valLE_revIf_congr be h2 hy] at e3
  exact ⟨e1, e2, v', h1, h2, e3, e4⟩

/-- **`add_sqrt`** on arbitrary host gates (any width ≥ 1, either endianness): the result `R`, on
`⌈n/2⌉` bits, is the integer square root — `R² ≤ a < (R+1)²` -/
theorem c09_sqrt {st st' : GSt} {x out : List Label} {be : Bool}
    (h : (addSqrt x be).run st = .ok (out, st')) (hw : WFS st.c)
    (hx : ∀ l ∈ x, l ∈ st.c.labels) {b v : Label → Bool} (hv : IsValB st.c b v) :
    out.length = (x.length + 1) / 2 ∧
    ∃ v', IsValB st'.c b v' ∧ (∀ l ∈ st.c.labels, v' l = v l) ∧
      valLE v' (revIf out be) * valLE v' (revIf out be) ≤ valLE v (revIf x be) ∧
      valLE v (revIf x be) < (valLE v' (revIf out be) + 1) * (valLE v' (revIf out be) + 1) := by
  obtain ⟨v', h1, h2, h3⟩ := run_total h hw hv
  obtain ⟨e1, e2, e3⟩ := sem_addSqrt h3
  rw [valLE_revIf_congr be h2 hx] at e2 e3
  exact ⟨e1, v', h1, h2, e2, e3⟩

#print axioms c09_generators_only_add_fresh_gates
#print axioms c09_sub_two_numbers
#print axioms c09_subtract_with_compare
#print axioms c09_equal
#print axioms c09_plus_one
#print axioms c09_if_then_else
#print axioms c09_pairwise_xor
#print axioms c09_pairwise_if_then_else
#print axioms c09_outputs_only_when_asked
#print axioms c09_div_mod
#print axioms c09_sqrt

/-- **every generator of this property returns on valid arguments** (operands are gates of the host circuit,
widths ≥ 1, equal lengths where the code checks them; result labels given by the caller are not gates and
pairwise different) — or stops because the 128-bit space of random labels is exhausted.  For
`add_pairwise_if_then_else` with caller-given result labels one more condition is needed and is necessary: no
given label may be a label the generator draws later (`ca_NF`; with real `uuid4` labels a 122-bit collision —
`ca_pairIte_collision` is the closed run of the model that fails without it, and the Python code fails the same
way under the pinned counter). -/
theorem c09_generators_return (st : GSt) :
    (∀ x1 x2 be, x1 ∈ st.c.labels → x2 ∈ st.c.labels → Returns (addSub2 [x1, x2] be) st (fun r => r.length = 2)) ∧
    (∀ x0 x1 x2 be, x0 ∈ st.c.labels → x1 ∈ st.c.labels → x2 ∈ st.c.labels →
      Returns (addSub3 [x0, x1, x2] be) st (fun r => r.length = 2)) ∧
    (∀ a b be, (∀ l ∈ a, l ∈ st.c.labels) → (∀ l ∈ b, l ∈ st.c.labels) → a ≠ [] → b ≠ [] →
      Returns (addSubTwoNumbers a b be) st (fun r => r.length = a.length)) ∧
    (∀ a b be, (∀ l ∈ a, l ∈ st.c.labels) → (∀ l ∈ b, l ∈ st.c.labels) → a ≠ [] → b ≠ [] →
      Returns (addSubtractWithCompare a b be) st (fun r => r.1.length = max a.length b.length)) ∧
    (∀ ins (num : Int), (∀ l ∈ ins, l ∈ st.c.labels) → Returns (addEqualZ ins num) st (fun _ => True)) ∧
    (∀ ins rl ao be, (∀ l ∈ ins, l ∈ st.c.labels) → ins ≠ [] →
      (∀ g, rl = some g → g ≠ [] ∧ g.Nodup ∧ ∀ l ∈ g, l ∉ st.c.labels) →
      Returns (addPlusOne ins rl ao be) st (fun r => (∀ g, rl = some g → r = g) ∧ (rl = none → r.length = ins.length + 1))) ∧
    (∀ i t e rl ao, i ∈ st.c.labels → t ∈ st.c.labels → e ∈ st.c.labels → (∀ res, rl = some res → res ∉ st.c.labels) →
      Returns (addIfThenElse i t e rl ao) st (fun a => ∀ res, rl = some res → a = res)) ∧
    (∀ is ts es rl ao, (∀ l ∈ is, l ∈ st.c.labels) → (∀ l ∈ ts, l ∈ st.c.labels) → (∀ l ∈ es, l ∈ st.c.labels) →
      is.length = ts.length → ts.length = es.length →
      (∀ g, rl = some g → g.length = is.length ∧ g.Nodup ∧ ∀ l ∈ g, l ∉ st.c.labels ∧ ca_NF st l) →
      Returns (addPairwiseIfThenElse is ts es rl ao) st (fun r => (∀ g, rl = some g → r = g) ∧ r.length = is.length)) ∧
    (∀ xs ys rl ao, (∀ l ∈ xs, l ∈ st.c.labels) → (∀ l ∈ ys, l ∈ st.c.labels) → xs.length = ys.length →
      (∀ g, rl = some g → g.length = xs.length ∧ g.Nodup ∧ ∀ l ∈ g, l ∉ st.c.labels) →
      Returns (addPairwiseXor xs ys rl ao) st (fun r => (∀ g, rl = some g → r = g) ∧ r.length = xs.length)) ∧
    (∀ a b be, (∀ l ∈ a, l ∈ st.c.labels) → (∀ l ∈ b, l ∈ st.c.labels) → a.length = b.length → 1 ≤ a.length →
      Returns (addDivMod a b be) st (fun r => r.1.length = a.length ∧ r.2.length = a.length)) ∧
    (∀ ins be, (∀ l ∈ ins, l ∈ st.c.labels) → 1 ≤ ins.length →
      Returns (addSqrt ins be) st (fun r => r.length = (ins.length + 1) / 2)) := by
  have hk := kn_labels st
  have pos : ∀ {l : List Label}, l ≠ [] → 1 ≤ l.length := List.length_pos_iff.mpr
  exact ⟨fun x1 x2 be h1 h2 => (yields_addSub2 x1 x2 be).returns (by lmem),
    fun x0 x1 x2 be h0 h1 h2 => (yields_addSub3 x0 x1 x2 be).returns (by lmem),
    fun _ _ be ha hb hna hnb => (yields_addSubTwoNumbers be (pos hna) (pos hnb)).returns (by lmem),
    fun _ _ be ha hb hna hnb => (yields_addSubtractWithCompare be (pos hna) (pos hnb)).returns (by lmem),
    fun ins num hi => (yields_addEqualZ ins num).returns hi,
    fun _ _ ao be hi hne hrl => (ok_addPlusOne (ao := ao) (be := be) hk hi hne hrl).returns fun _ _ h => h.2,
    fun _ _ _ _ ao hi ht he hres => (ok_addIfThenElse (ao := ao) hk hi ht he hres).returns fun _ _ h => h.2,
    fun _ _ _ _ ao hi ht he h1 h2 hrl =>
      (ok_addPairwiseIfThenElse (ao := ao) hk hi ht he h1 h2 hrl).returns fun _ _ h => h.2,
    fun _ _ _ ao hx hy h1 hrl => (ok_addPairwiseXor (ao := ao) hk hx hy h1 hrl).returns fun _ _ h => h.2,
    fun _ _ be ha hb hlen hpos => (yields_addDivMod be hlen hpos).returns (by lmem),
    fun _ be hi hpos => (yields_addSqrt be hpos).returns hi⟩

#print axioms c09_generators_return

end Cirbo
