import Cirbo.Proofs.Func
import Cirbo.Proofs.FuncSym
import Cirbo.Proofs.FuncIdx
import Cirbo.Proofs.FuncDefine
import Cirbo.Proofs.FuncInt
/-!
# C12 — All function representations answer every protocol query alike and correctly

A representation is `FRep = (n, m, ev)`: `Circuit` (ev = `evaluate`, C01), `TruthTable` (ev = row
lookup at the canonical index) and `PyFunction` (ev = the callable).  The queries are modelled in
`Model/Func.lean` after the three implementations (where they differ, each variant is modelled).

-- OBLIGATION: c12_enumeration_complete
-- OBLIGATION: c12_is_constant
-- OBLIGATION: c12_is_constant_at
-- OBLIGATION: c12_equal_to_input
-- OBLIGATION: c12_equal_to_input_negation
-- OBLIGATION: c12_dependent_and_significant
-- OBLIGATION: c12_monotone_at_variants_agree_and_correct
-- OBLIGATION: c12_monotone_circuit_eq_table
-- OBLIGATION: c12_is_symmetric
-- OBLIGATION: c12_is_symmetric_at
-- OBLIGATION: c12_find_negations_to_make_symmetric
-- OBLIGATION: c12_pyfunction_is_monotone
-- OBLIGATION: c12_truth_table_order
-- OBLIGATION: c12_truth_table_equal_to_input
-- OBLIGATION: c12_define
-- OBLIGATION: c12_int_wrappers_bit_order
-- OBLIGATION: c12_find_negations_first
-- PARTIAL: every clause is proved on the model (incl. that find_negations_to_make_symmetric returns the first working vector of the itertools.product enumeration). canonical_index_to_input with size 0 returns all digits (Python's `[-0:]`), outside the wrappers' use (out_len >= 1 in the theorem). The tie between the model and the three Python representations is by correspondence (exhaustive for small shapes).
-/
namespace Cirbo
open FRep

/-- every query enumerates `itertools.product((False, True), repeat=n)`, which is exactly the set
of input vectors of length n -/
theorem c12_enumeration_complete (x : List Bool) (n : Nat) : x ∈ allInputs n ↔ x.length = n :=
  mem_allInputs x n

theorem c12_is_constant (F : FRep) :
    F.isConstant = true ↔ ∀ x y, x.length = F.n → y.length = F.n → F.ev x = F.ev y :=
  constOn_allInputs F.n F.ev

theorem c12_is_constant_at (F : FRep) (o : Nat) :
    F.isConstantAt o = true ↔ ∀ x y, x.length = F.n → y.length = F.n → F.evAt x o = F.evAt y o :=
  constOn_allInputs F.n fun x => F.evAt x o

theorem c12_equal_to_input (F : FRep) (o i : Nat) :
    F.equalInput o i = true ↔ ∀ x, x.length = F.n → F.evAt x o = x.getD i false :=
  equalInput_iff F o i

theorem c12_equal_to_input_negation (F : FRep) (o i : Nat) :
    F.equalInputNeg o i = true ↔ ∀ x, x.length = F.n → F.evAt x o = !x.getD i false :=
  equalInputNeg_iff F o i

theorem c12_dependent_and_significant (F : FRep) (o i : Nat) :
    (F.isDependent o i = true ↔
      ∃ x, x.length = F.n - 1 ∧ F.evAt (insertAt x i false) o ≠ F.evAt (insertAt x i true) o) ∧
    (i ∈ F.significant o ↔ i < F.n ∧ F.isDependent o i = true) :=
  ⟨by simp only [isDependent, List.any_eq_true, mem_allInputs, bne_iff_ne], by simp [significant]⟩

/-- the two differently written scans (`Circuit.is_monotone_at` vs `PyFunction/TruthTable.
is_monotone_at`) are the same predicate, and it is the documented one: along the canonical
enumeration the output never returns from `¬inverse` to `inverse` -/
theorem c12_monotone_at_variants_agree_and_correct (F : FRep) (o : Nat) (inv : Bool) :
    F.isMonotoneAtC o inv = F.isMonotoneAtP o inv ∧
    (F.isMonotoneAtP o inv = true ↔ SortedRow inv (F.row o)) :=
  ⟨isMonotoneAt_agree F o inv, isMonotoneAt_iff F o inv⟩

theorem c12_monotone_circuit_eq_table (F : FRep) (inv : Bool) :
    F.isMonotoneC inv = F.isMonotoneT inv ∧
    (F.isMonotoneT inv = true ↔ ∀ o, o < F.m → SortedRow inv (F.row o)) :=
  ⟨isMonotone_agree F inv, isMonotoneT_iff F inv⟩

/-- `is_symmetric`: the function's value depends only on the number of True inputs (uses: the
`itertools.combinations` enumeration lists exactly the index sets of the vectors of each weight) -/
theorem c12_is_symmetric (F : FRep) :
    F.isSymmetric = true ↔ ∀ x y : List Bool, x.length = F.n → y.length = F.n → weight x = weight y → F.ev x = F.ev y :=
  symOn_nil_iff F id

theorem c12_is_symmetric_at (F : FRep) (o : Nat) :
    F.isSymmetricAt o = true ↔ ∀ x y : List Bool, x.length = F.n → y.length = F.n → weight x = weight y →
      F.evAt x o = F.evAt y o := by
  simp only [isSymmetricAt, symOn_nil_iff, List.cons.injEq, and_true, evAt]

/-- `find_negations_to_make_symmetric`: a returned vector `neg` (one bit per input) makes the chosen
outputs symmetric in the inputs flipped by `neg`; `None` means no vector does -/
theorem c12_find_negations_to_make_symmetric (F : FRep) (outs : List Nat) :
    (∀ neg, F.findNegations outs = some neg → neg.length = F.n ∧
      ∀ y1 y2 : List Bool, y1.length = F.n → y2.length = F.n → weight y1 = weight y2 →
        outs.map (fun o => F.evAt (xorNeg F.n neg y1) o) = outs.map (fun o => F.evAt (xorNeg F.n neg y2) o)) ∧
    (F.findNegations outs = none → ∀ neg : List Bool, neg.length = F.n →
      ¬ ∀ y1 y2 : List Bool, y1.length = F.n → y2.length = F.n → weight y1 = weight y2 →
        outs.map (fun o => F.evAt (xorNeg F.n neg y1) o) = outs.map (fun o => F.evAt (xorNeg F.n neg y2) o)) := by
  unfold findNegations
  constructor
  · intro neg h
    have hp := List.find?_some h
    exact ⟨(mem_allInputs neg _).mp (List.mem_of_find?_eq_some h), (symOn_iff F neg _).mp hp⟩
  · intro h neg hl hall
    exact List.find?_eq_none.mp h neg ((mem_allInputs neg _).mpr hl) ((symOn_iff F neg _).mpr hall)

/-- `PyFunction.is_monotone` (consecutive whole-vector comparison) is the per-output definition, hence
equal to `TruthTable.is_monotone` and `Circuit.is_monotone`, for every function with `m` outputs -/
theorem c12_pyfunction_is_monotone (F : FRep) (inv : Bool) (hlen : ∀ x, (F.ev x).length = F.m) :
    (F.isMonotoneP inv = true ↔ ∀ o, o < F.m → SortedRow inv (F.row o)) ∧
    F.isMonotoneP inv = F.isMonotoneT inv ∧ F.isMonotoneP inv = F.isMonotoneC inv :=
  ⟨isMonotoneP_iff F inv hlen, isMonotoneP_eq_T F inv hlen,
   (isMonotoneP_eq_T F inv hlen).trans (isMonotone_agree F inv).symm⟩

/-- `get_truth_table` ordering: the enumeration of all inputs is binary counting, so column `k` of
output `o` is the value at the input vector whose bits are the binary digits of `k`, first input most
significant; every vector has such an index -/
theorem c12_truth_table_order (F : FRep) (o k : Nat) (hk : k < 2 ^ F.n) :
    (F.row o)[k]? = some (F.evAt (bitsBE F.n k) o) ∧ (F.row o).length = 2 ^ F.n ∧
    ∀ x : List Bool, x.length = F.n → ∃ j, j < 2 ^ F.n ∧ bitsBE F.n j = x :=
  ⟨by simp [row, allInputs_get F.n k hk], by simp [row, allInputs_length], fun x hx => exists_index F.n x hx⟩

/-- `TruthTable.is_output_equal_to_input(_negation)` — index arithmetic on the stored row — is the generic
definition and agrees with the Circuit / PyFunction implementation -/
theorem c12_truth_table_equal_to_input (F : FRep) (o i : Nat) (hi : i < F.n) (negate : Bool) :
    (F.equalInputT o i negate = true ↔ ∀ x, x.length = F.n → F.evAt x o = xor negate (x.getD i false)) ∧
    F.equalInputT o i false = F.equalInput o i ∧ F.equalInputT o i true = F.equalInputNeg o i :=
  ⟨equalInputT_iff F o i hi negate, Bool.eq_iff_iff.mpr (by simp [equalInputT_iff F o i hi, equalInput_iff]),
   Bool.eq_iff_iff.mpr (by simp [equalInputT_iff F o i hi, equalInputNeg_iff])⟩

/-! Non-vacuity: a concrete function (x0 AND NOT x1, and x1) through the table representation -/
def exF : FRep := FRep.ofTable 2 [[false, false, true, false], [false, true, false, true]]
example : exF.isConstant = false ∧ exF.equalInput 1 1 = true ∧ exF.isDependent 0 1 = true ∧
    exF.isMonotoneAtP 0 false = false ∧ exF.isMonotoneAtC 1 false = false ∧ exF.significant 1 = [1] := by
  decide

#print axioms c12_enumeration_complete
#print axioms c12_is_constant
#print axioms c12_is_constant_at
#print axioms c12_equal_to_input
#print axioms c12_equal_to_input_negation
#print axioms c12_dependent_and_significant
#print axioms c12_monotone_at_variants_agree_and_correct
#print axioms c12_monotone_circuit_eq_table
#print axioms c12_is_symmetric
#print axioms c12_is_symmetric_at
#print axioms c12_find_negations_to_make_symmetric
#print axioms c12_pyfunction_is_monotone
#print axioms c12_truth_table_order
#print axioms c12_truth_table_equal_to_input

/-- **completing a partially defined model** (`define`): wherever the model is defined the completed
table has the model's value — whatever the definition lists for that position —, the shape is kept,
and a don't-care entry takes the value the definition gives for it (it stays a don't-care only if the
definition has no item for it; `PyFunctionModel` raises `KeyError` lazily in that case) -/
theorem c12_define (model : List (List (Option Bool))) (defn : List ((List Bool × Nat) × Bool)) :
    (∀ o i b, FRep.entryT model o i = some b → FRep.entryT (FRep.defineTable model defn) o i = some b) ∧
    (FRep.defineTable model defn).length = model.length ∧
    (∀ o, ((FRep.defineTable model defn).getD o []).length = (model.getD o []).length) ∧
    (∀ o i b, o < model.length → i < (model.getD o []).length → FRep.entryT model o i = none →
      (∀ d ∈ defn, d.1.2 = o → FRep.canonicalIndex d.1.1 = i → d.2 = b) →
      (∃ d ∈ defn, d.1.2 = o ∧ FRep.canonicalIndex d.1.1 = i) →
      FRep.entryT (FRep.defineTable model defn) o i = some b) :=
  ⟨fun o i b h => by rw [FRep.entry_defineTable, h]; rfl,
    (FRep.defineTable_shape defn model).1, (FRep.defineTable_shape defn model).2,
    fun o i b ho hi hn hall ⟨d, hd, hm⟩ => by
      rw [FRep.entry_defineTable, hn, if_pos ⟨ho, hi⟩]
      cases hf : defn.find? (fun d => d.1.2 = o ∧ FRep.canonicalIndex d.1.1 = i) with
      | none => exact absurd hm (by simpa using List.find?_eq_none.mp hf d hd)
      | some d0 =>
        have h0 : d0.1.2 = o ∧ FRep.canonicalIndex d0.1.1 = i := by simpa using List.find?_some hf
        exact congrArg some (hall d0 (List.mem_of_find?_eq_some hf) h0.1 h0.2)⟩

/-- non-vacuity: an over-specified definition does not overwrite a defined entry -/
example : FRep.defineTable [[some false, none]] [(([false], 0), true), (([true], 0), true)] = [[some false, some true]] := by
  decide

/-- **integer-function wrappers honour the stated bit order**: `from_int_unary_func` /
`from_int_binary_func` return `out_len ≥ 1` bits which, read big-endian when `big_endian` and
little-endian otherwise, are `f(operands read in the same order) mod 2^out_len`; the binary wrapper's
operands are the two halves of the argument vector. (`canonical_index_to_input` goes through Python's
`bin()` digit string: `Nat.toDigits 2`.) -/
theorem c12_int_wrappers_bit_order (inLen outLen : Nat) (be : Bool) (args : List Bool) (ho : 1 ≤ outLen) :
    (∀ f : Nat → Nat,
      ((FRep.fromIntUnary f inLen outLen be).ev args).length = outLen ∧
      FRep.canonicalIndex (if be then (FRep.fromIntUnary f inLen outLen be).ev args
          else ((FRep.fromIntUnary f inLen outLen be).ev args).reverse) =
        f (FRep.canonicalIndex (if be then args else args.reverse)) % 2 ^ outLen) ∧
    (∀ f : Nat → Nat → Nat,
      ((FRep.fromIntBinary f inLen outLen be).ev args).length = outLen ∧
      FRep.canonicalIndex (if be then (FRep.fromIntBinary f inLen outLen be).ev args
          else ((FRep.fromIntBinary f inLen outLen be).ev args).reverse) =
        f (FRep.canonicalIndex (if be then args.take inLen else (args.take inLen).reverse))
          (FRep.canonicalIndex (if be then args.drop inLen else (args.drop inLen).reverse)) % 2 ^ outLen) :=
  ⟨fun f => by cases be <;> simpa [FRep.fromIntUnary] using FRep.indexToInput_spec _ _ ho,
   fun f => by cases be <;> simpa [FRep.fromIntBinary] using FRep.indexToInput_spec _ _ ho⟩

/-- the vector returned by `find_negations_to_make_symmetric` is the first one, in the enumeration
order of `itertools.product((False, True), repeat=n)`, that makes the selected outputs symmetric -/
theorem c12_find_negations_first (F : FRep) (outs : List Nat) (neg : List Bool)
    (h : F.findNegations outs = some neg) :
    ∃ before after, allInputs F.n = before ++ neg :: after ∧
      F.symOn neg (fun v => outs.map (fun o => v.getD o false)) = true ∧
      ∀ x ∈ before, F.symOn x (fun v => outs.map (fun o => v.getD o false)) = false := by
  unfold FRep.findNegations at h
  obtain ⟨h1, as, bs, h2, h3⟩ := List.find?_eq_some_iff_append.mp h
  exact ⟨as, bs, h2, h1, fun x hx => by simpa using h3 x hx⟩

#print axioms c12_find_negations_first
#print axioms c12_int_wrappers_bit_order
#print axioms c12_define

end Cirbo
