import Cirbo.Proofs.Traverse
import Cirbo.Proofs.Dfs
import Cirbo.Proofs.TrTerm
import Cirbo.Proofs.CycleCheck
/-!
# C20 — Traversals visit exactly the reachable gates in a valid order

-- OBLIGATION: c20_top_sort_inputs_first
-- OBLIGATION: c20_top_sort_outputs_first
-- OBLIGATION: c20_traverse_reach_exact
-- OBLIGATION: c20_dfs_exits_exact
-- OBLIGATION: c20_dfs_exits_post_order
-- OBLIGATION: c20_dfs_inverse_exits_post_order
-- OBLIGATION: c20_dfs_enter_before_exit
-- OBLIGATION: c20_cycle_check_silent_iff_acyclic
-- OBLIGATION: c20_cycle_check_raises_when_cycle_reachable
-- OBLIGATION: c20_traversal_terminates
-- OBLIGATION: c20_traverse_never_raises
-- PARTIAL: every clause is proved on the model; BFS has no hook-order clause. What remains by correspondence only: the tie between the model's event log and the hooks the Python generator actually calls (compared event by event on every run).
-/
namespace Cirbo

/-- `top_sort(inverse=True)` on a well-formed circuit: never raises, every gate exactly once, each
after all of its operands. -/
theorem c20_top_sort_inputs_first {c : Circuit} (h : WFU c) :
    ∃ order, c.topSort true = .ok order ∧ order.Perm c.labels ∧
      ∀ pre l post, order = pre ++ l :: post → ∀ g ∈ c.gates, g.label = l → ∀ o ∈ g.ops, o ∈ pre :=
  topSort_inv_spec h.toWFG

/-- `top_sort(inverse=False)`: every gate exactly once, each after all of its users — hence before
all of its operands. -/
theorem c20_top_sort_outputs_first {c : Circuit} (h : WFU c) :
    ∃ order, c.topSort false = .ok order ∧ order.Perm c.labels ∧
      (∀ pre l post, order = pre ++ l :: post → ∀ u ∈ c.usersOf l, u ∈ pre) ∧
      (∀ pre l post, order = pre ++ l :: post → ∀ g ∈ c.gates, g.label = l → ∀ o ∈ g.ops, o ∈ post) := by
  obtain ⟨order, h1, h2, h3⟩ := topSort_dir_spec h.toWFG
  refine ⟨order, h1, h2, h3, ?_⟩
  rintro pre l post rfl g hg rfl o ho
  obtain ⟨r, hr⟩ := h.rank
  -- `o` stands somewhere in the order, and not before its user `l`
  exact OpsFirst.later h3 (h2.nodup_iff.mpr h.nodup) (h2.mem_iff.mpr (h.closed g hg o ho))
    ((mem_users_iff h.usersC hg o).mpr ho) fun e => Nat.lt_irrefl _ (e ▸ hr g hg o ho)

/-- DFS and BFS from any start list, in either direction, with or without `topsort_unvisited`
(whenever the call returns): exactly the reachable gates are yielded, each once, and the unvisited
hook receives exactly the unreached gates in storage resp. topological order. -/
theorem c20_traverse_reach_exact {c : Circuit} (bfs inverse : Bool) (start : Option (List Label))
    (tsu ab : Bool) {log : List Ev} (hne : c.gates ≠ [])
    (h : traverse c bfs inverse start tsu ab = .ok log) :
    let next := if inverse then c.usersOf else c.opsOf
    let q0 := start.getD (if inverse then c.inputs else c.outputs)
    (yields log).Nodup ∧ (∀ l, l ∈ yields log ↔ Reach next q0 l) ∧
    ∃ order, (if tsu then c.topSort true = .ok order else order = c.labels) ∧
      ∃ (unreached : Label → Bool), (∀ l, unreached l = true ↔ ¬ Reach next q0 l) ∧
        unvisiteds log = order.filter unreached :=
  traverse_reach_exact bfs inverse start tsu ab hne h

/-- DFS hooks are balanced: whenever the depth-first traversal returns, the exit hook received
exactly the reachable gates, each once — the same gates that were yielded (entered). -/
theorem c20_dfs_exits_exact {c : Circuit} (inverse : Bool) (start : Option (List Label)) (tsu ab : Bool)
    {log : List Ev} (hne : c.gates ≠ []) (h : traverse c false inverse start tsu ab = .ok log) :
    let next := if inverse then c.usersOf else c.opsOf
    let q0 := start.getD (if inverse then c.inputs else c.outputs)
    (exits log).Nodup ∧ (∀ l, l ∈ exits log ↔ Reach next q0 l) ∧ (∀ l, l ∈ exits log ↔ l ∈ yields log) :=
  dfs_exits_exact inverse start tsu ab hne h

/-- Exit hooks fire in post-order: in a depth-first traversal from the outputs (or any start list)
of a circuit with distinct labels and no cycle, every gate exits after all of its operands. -/
theorem c20_dfs_exits_post_order {c : Circuit} (hnd : c.labels.Nodup)
    (hrank : ∃ r : Label → Nat, ∀ g ∈ c.gates, ∀ o ∈ g.ops, r o < r g.label)
    (start : Option (List Label)) (tsu ab : Bool) {log : List Ev}
    (h : traverse c false false start tsu ab = .ok log) :
    ∀ e1 l e2, exits log = e1 ++ l :: e2 → ∀ x ∈ c.opsOf l, x ∈ e1 :=
  dfs_operands_first hrank start tsu ab h

/-- Post-order of the inverse depth-first traversal (`inverse=True`) of a well-formed circuit: every gate
exits after all of its users. -/
theorem c20_dfs_inverse_exits_post_order {c : Circuit} (hw : WFU c)
    (start : Option (List Label)) (tsu ab : Bool) {log : List Ev}
    (h : traverse c false true start tsu ab = .ok log) :
    ∀ e1 l e2, exits log = e1 ++ l :: e2 → ∀ x ∈ c.usersOf l, x ∈ e1 := by
  obtain ⟨r, hr⟩ := usersOf_rank hw.toWFG
  exact dfs_postorder (c := c) true start tsu ab (r := r) (fun l _ => hr l) h

/-- Enter hooks precede exit hooks: in the hook log of any depth-first traversal (any circuit, any
start, either direction) each exit of a gate comes after its enter. -/
theorem c20_dfs_enter_before_exit {c : Circuit} (inverse : Bool) (start : Option (List Label)) (tsu ab : Bool)
    {log : List Ev} (h : traverse c false inverse start tsu ab = .ok log) :
    ∀ pre l post, log = pre ++ Ev.exit l :: post → Ev.enter l ∈ pre := by
  obtain ⟨-, rfl⟩ | ⟨s, M, -, -, -, -, en, rfl⟩ := dfs_final h
  · intro pre l post he; simp at he
  intro pre l post he
  rw [List.append_assoc] at he
  rcases split_append_exit he with ⟨post', hp⟩ | ⟨hm, -⟩
  · exact en.before pre l post' hp
  · simp at hm

/-- The cycle check is silent exactly on circuits with no cycle reachable from the outputs
(`AcyclicFromOutputs`: a rank strictly decreasing along operands on the reachable part): if there is
no such cycle it does not raise `CircuitValidationError`, and if it returns normally there is none. -/
theorem c20_cycle_check_silent_iff_acyclic (c : Circuit) :
    (AcyclicFromOutputs c → hasCycleCheck c ≠ .ok true) ∧ (hasCycleCheck c = .ok false → AcyclicFromOutputs c) :=
  ⟨cycleCheckFrom_acyclic none, cycleCheckFrom_false none⟩

/-- The cycle check raises when a cycle is reachable from the outputs: with distinct labels and every reachable label
naming a gate (otherwise `GateDoesntExistError` is raised first), a circuit that is not
`AcyclicFromOutputs` makes the check raise `CircuitValidationError`. -/
theorem c20_cycle_check_raises_when_cycle_reachable {c : Circuit} (hnd : c.labels.Nodup)
    (hcl : ∀ l, Reach c.opsOf c.outputs l → c.hasGate l = true) (hcyc : ¬ AcyclicFromOutputs c) :
    hasCycleCheck c = .ok true :=
  cycleCheckFrom_cyclic none hcl hcyc

/-- non-vacuity: a two-gate cycle behind an output raises, the same gates unreachable do not -/
example : (hasCycleCheck ⟨[⟨"a", .NOT, ["b"]⟩, ⟨"b", .NOT, ["a"]⟩, ⟨"x", .INPUT, []⟩], ["x"], ["a"], [], []⟩).toOption = some true := by
  decide
example : (hasCycleCheck ⟨[⟨"a", .NOT, ["b"]⟩, ⟨"b", .NOT, ["a"]⟩, ⟨"x", .INPUT, []⟩], ["x"], ["x"], [], []⟩).toOption = some false := by
  decide

/-- The traversal loop terminates: on any circuit with distinct labels (cyclic or not, dangling
operands or not), any start list, direction and hook set, the loop's step budget — which the proof
shows is a strict upper bound on `queue length + Σ_{unvisited}(1 + successors)` — is never exhausted. -/
theorem c20_traversal_terminates (c : Circuit) (hnd : c.labels.Nodup) (bfs inverse : Bool)
    (start : Option (List Label)) (tsu ab : Bool) :
    traverse c bfs inverse start tsu ab ≠ .error "fuel" :=
  traverse_terminates c bfs inverse start tsu ab

/-- On a well-formed circuit DFS and BFS return (no exception, no divergence) from the default start
or any list of existing gates, in either direction, with either choice for `topsort_unvisited`; so
the "whenever the call returns" of the two exactness theorems is always met. -/
theorem c20_traverse_never_raises {c : Circuit} (h : WFU c) (bfs inverse : Bool)
    (start : Option (List Label)) (hstart : ∀ q, start = some q → ∀ x ∈ q, x ∈ c.labels) (tsu : Bool) :
    ∃ log, traverse c bfs inverse start tsu false = .ok log := by
  refine traverse_ok_of_closed bfs inverse start tsu ?_ ?_ fun hc => ?_
  · cases inverse
    · exact opsOf_closed h.nodup h.closed
    · exact h.usersL
  · intro x hx
    cases start with
    | some q => exact hstart q rfl x hx
    | none =>
      cases inverse
      · exact h.outputsOK x hx
      · obtain ⟨g, hg, rfl, _⟩ := (h.inputsOK x).mp hx
        exact mem_labels_of_mem hg
  · obtain ⟨order, ho, _⟩ := topSort_inv_spec h.toWFG
    rw [ho] at hc; cases hc

#print axioms c20_dfs_exits_post_order
#print axioms c20_dfs_inverse_exits_post_order
#print axioms c20_dfs_enter_before_exit
#print axioms c20_cycle_check_silent_iff_acyclic
#print axioms c20_cycle_check_raises_when_cycle_reachable
#print axioms c20_traversal_terminates
#print axioms c20_traverse_never_raises
#print axioms c20_top_sort_inputs_first
#print axioms c20_top_sort_outputs_first
#print axioms c20_traverse_reach_exact
#print axioms c20_dfs_exits_exact

end Cirbo
