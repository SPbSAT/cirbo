import Cirbo.Proofs.Pattern
import Cirbo.Proofs.Synth
import Cirbo.Proofs.ReplaceSem
import Cirbo.Proofs.ConeTable
import Cirbo.Proofs.ConeReach
import Cirbo.Proofs.GatesTT
/-!
# C04 — SAT-based subcircuit minimisation returns an equivalent, not larger circuit

-- OBLIGATION: c04_leaf_patterns
-- OBLIGATION: c04_eval_pattern_is_bitwise_evaluation
-- OBLIGATION: c04_synthesised_cone_agrees
-- OBLIGATION: c04_improvement_steps_preserve_function
-- OBLIGATION: c04_cone_simulation_computes_the_cone
-- OBLIGATION: c04_eval_dont_cares_collects_every_leaf_vector
-- OBLIGATION: c04_dont_care_table_defined_where_reached
-- OBLIGATION: c04_dont_care_table_sound
-- OBLIGATION: c04_synthesised_cone_slice_agrees
-- PARTIAL: proved: (1) the splice loop, abstractly — ANY finite sequence of accepted improvements (each a replace_subcircuit by a subcircuit that agrees with the cone it replaces on every value combination that occurs) leaves the circuit well formed, with the same inputs position by position and the same output values on every input assignment (c04_improvement_steps_preserve_function, through the C19 theorem for replace_subcircuit); (2) the pattern primitives (leaf patterns enumerate all leaf assignments; eval_pattern is the gate's Boolean function bit by bit, for every supported type incl. n-ary gates); (3) the cone pipeline that produces such improvements, modelled in Model/ConeTable.lean and compared with the code on every cone of every run: the simulation loop of _get_subcircuits gives every leaf and cone gate the pattern whose bit at the row of the leaf vector is the gate's value, for EVERY valuation of the circuit (c04_cone_simulation_computes_the_cone); _eval_dont_cares collects the leaf vector of every valuation (c04_eval_dont_cares_collects_every_leaf_vector, through C01's theorem about the per-gate truth tables); evaluate_truth_table_with_dont_cares is defined exactly at the rows whose assignment string was collected and there carries the output pattern's bit (c04_dont_care_table_defined_where_reached); hence ANY circuit that implements that table — in particular the circuit exact synthesis builds from any satisfying assignment of its encoding (C06) — agrees with the cone on every valuation of the circuit under the identification of inputs and outputs the driver uses, i.e. meets the hypothesis of (1) (c04_dont_care_table_sound, c04_synthesised_cone_slice_agrees: soundness of the don't-care extraction, end to end for one cone). NOT proved (decided on every run by the search over the real minimize_subcircuits with admissible cut families, all bases and parameter settings, truth-table / interface / size comparison and enable_validation): that the cut enumerator's cones are closed under their leaves (a hypothesis of (3), audited on every cone of every run), the selection of cuts (nested-cut removal), the trivial-output shortcut (in-place merging of equal patterns), the relabelling before the splice (_rename_subcircuit_gates) and the driver loop over node states. The algorithm depends on Python set iteration order; the driver is not modelled as a whole.
-/
namespace Cirbo
open Pattern Synth

/-- `_generate_inputs_tt(size)`: bit `i` of leaf `j`'s pattern is bit `j` of `i` — the patterns
enumerate every assignment of the leaves, each exactly once -/
theorem c04_leaf_patterns (size j i : Nat) (hi : i < 2 ^ size) :
    (leafPattern size j).testBit i = i.testBit j ∧ leafPattern size j < 2 ^ (2 ^ size) :=
  leafPattern_testBit size j i hi

/-- `eval_pattern`: for every supported gate type at an accepted arity, bit `i` of the result is the
gate's Boolean function of bit `i` of its operands' patterns; so simulating a cone gate by gate in
topological order gives every gate its value under every leaf assignment -/
theorem c04_eval_pattern_is_bitwise_evaluation (k : Nat) (ty : GateType) (ops : List Nat) (p : Nat)
    (h : evalPattern k ty ops = .ok p) (hops : ∀ x ∈ ops, x < 2 ^ (2 ^ k)) (har : arityOk ty ops.length = true) :
    p < 2 ^ (2 ^ k) ∧ ∀ i, i < 2 ^ k → bfun ty (bitsAt ops i) = some (p.testBit i) :=
  evalPattern_sound k ty ops p h hops har

/-- the replacement cone: whatever exact synthesis returns for the table with don't-cares has the
requested number of gates of the basis and agrees with every defined entry (C06 soundness) -/
theorem c04_synthesised_cone_agrees (sp : Spec) (σ : SVar → Bool) (hc : sp.cons = []) (h : sat σ (encode sp)) :
    SolOk sp (decode sp σ) := encode_sound sp σ (by rw [hc]; intro c hc'; cases hc') h

/-! Non-vacuity: the two leaf patterns for two leaves are 0b1010 and 0b1100; AND gives 0b1000 -/
example : genInputsTT 2 = [10, 12] := by decide
example : (evalPattern 2 .AND [10, 12]).toOption = some 8 ∧ (evalPattern 2 .NAND [10, 12, 12]).toOption = some 7 := by decide

#print axioms c04_leaf_patterns
#print axioms c04_eval_pattern_is_bitwise_evaluation
/-- **the improvement loop preserves the function.** `Steps c ss c'`: the improvements `ss` were applied one
after the other by `replace_subcircuit`, each replacement well formed with valid arities and agreeing
with the cone it replaces (`SliceAgrees`: on every valuation of the current circuit, fed the values at
the cone's leaves it produces the values at the cone's outputs; no cone output is a circuit input).
Then the final circuit is well formed and `Refines` the original: the same inputs position by position
(up to relabelling) and, for every valuation of the original, a valuation of the result under the
corresponding assignment with the same output values — the same truth table, the same number and order
of inputs and outputs. The splices of `minimize_subcircuits` are such steps (cut choice, synthesis and its failures only decide
WHICH are taken; the harness records every splice of every run, checks these hypotheses on it and
compares it with this model). The driver's other kind of step — merging, in place, a cone output whose
pattern equals a leaf's or another output's — is not covered by this theorem. -/
theorem c04_improvement_steps_preserve_function {c c' : Circuit} {ss : List Step} (hw : WFS c)
    (h : Steps c ss c') : WFS c' ∧ Refines c c' := by
  induction h with
  | nil => exact ⟨hw, Refines.refl _⟩
  | cons hok hrep _ ih =>
    obtain ⟨h1, -, h3, h4, h5, h6⟩ := hok
    obtain ⟨w1, r1⟩ := replaceSubcircuit_sem hw h1 h3 h4 h5 h6 hrep
    obtain ⟨w2, r2⟩ := ih w1
    exact ⟨w2, r1.trans r2⟩

#print axioms c04_synthesised_cone_agrees
#print axioms c04_improvement_steps_preserve_function

open Cone

/-- **the simulation loop of `_get_subcircuits` computes the cone.** `leaves` is `inputs_lst` (leaf `j`
gets `_generate_inputs_tt(n)[j]`), `nodes` the cone in topological order. If the cone is closed (every
operand of a simulated gate is a leaf or an earlier node — what a cut guarantees, audited on every cone
of every run) and the loop finishes, then for EVERY valuation `v` of the circuit, bit number
`lsbRow (leaves.map v)` of the pattern of every leaf and node is that gate's value under `v` -/
theorem c04_cone_simulation_computes_the_cone {c : Circuit} {leaves nodes : List Label} {tt : List (Label × Nat)}
    {b v : Label → Bool} (har : ∀ g ∈ c.gates, g.ty ≠ GateType.INPUT → arityOk g.ty g.ops.length = true)
    (hcl : Cone.Closed c leaves [] nodes) (h : simulate c leaves nodes = .ok tt) (hv : IsValB c b v) :
    ∀ l, l ∈ leaves ∨ l ∈ nodes → ttGet tt l < 2 ^ (2 ^ leaves.length) ∧
      (ttGet tt l).testBit (lsbRow (leaves.map v)) = v l := simulate_sound har hcl h hv

/-- **`_eval_dont_cares` collects every leaf vector that occurs** (through C01's theorem about the
per-gate truth tables): the strings it stores for a cone contain the leaf vector of every valuation -/
theorem c04_eval_dont_cares_collects_every_leaf_vector {c : Circuit} (h : WFU c) {gtt : Dict (List V3)}
    (hg : gatesTruthTable c = .ok gtt) {ins : List Label} (hins : ∀ l ∈ ins, l ∈ c.labels) :
    ReachComplete c ins (inputsTT ins.length (occOf gtt (2 ^ c.inputs.length) ins)) := by
  intro b v hv
  obtain ⟨V, hrows, -, hV⟩ := gtt_valuations h hg
  -- the column of the table at the number of `b`'s input vector
  obtain ⟨i, hi, hget⟩ := List.getElem_of_mem ((mem_allInputs (c.inputs.map b) c.inputs.length).mpr (by simp))
  refine mem_inputsTT.mpr ⟨List.mem_map.mpr ⟨i, List.mem_range.mpr (FRep.allInputs_length _ ▸ hi), ?_⟩, by simp⟩
  apply List.map_congr_left
  intro l hl
  obtain ⟨g, hgm, rfl⟩ := gate_of_label (hins l hl)
  rw [hrows _ (hins _ hl), hV b v hv g hgm]
  simp only [List.getD, List.getElem?_map, List.getElem?_eq_getElem hi, hget, Option.map_some, Option.getD_some]
  cases V (c.inputs.map b) g.label <;> rfl

/-- the table is defined exactly at the rows whose assignment string was collected, and a defined
entry is the output pattern's bit -/
theorem c04_dont_care_table_defined_where_reached (n : Nat) (outPats : List Nat) (reach : List (List Bool)) (j r : Nat)
    (hj : j < outPats.length) (hr : r < 2 ^ n) :
    entry (ttDC n outPats reach) j r = if msbBits n r ∈ reach then some (outPats[j].testBit r) else none :=
  ttDC_entry n outPats reach j r hj hr

/-- **the don't-care extraction is sound**: ANY circuit that implements the table with don't-cares
(`Implements`: what C06 proves about the circuit exact synthesis returns) agrees with the cone on every
valuation of the circuit, under the identification of inputs and outputs `minimize_subcircuits` uses
(replacement input `k` ↔ `subcircuit.inputs[k] = inputs_lst[n-1-k]`, output `j` ↔ cone output `j`) —
that is, it meets the `SliceAgrees` hypothesis of `c04_improvement_steps_preserve_function` -/
theorem c04_dont_care_table_sound {c sub : Circuit} {leaves nodes outs : List Label} {tt : List (Label × Nat)}
    {reach : List (List Bool)}
    (har : ∀ g ∈ c.gates, g.ty ≠ GateType.INPUT → arityOk g.ty g.ops.length = true)
    (hcl : Cone.Closed c leaves [] nodes) (hsim : simulate c leaves nodes = .ok tt)
    (houts : ∀ o ∈ outs, o ∈ leaves ∨ o ∈ nodes)
    (hreach : ReachComplete c leaves.reverse reach)
    (hin : ∀ l, l ∈ sub.inputs → ∃ g ∈ sub.gates, g.label = l ∧ g.ty = GateType.INPUT)
    (himpl : Implements sub leaves.length (ttDC leaves.length (outs.map (ttGet tt)) reach)) :
    SliceAgrees c sub (leaves.reverse.zip sub.inputs) (outs.zip sub.outputs) :=
  dc_table_slice_agrees har hcl hsim houts hreach hin himpl

/-- **end to end for one cone**: the circuit built from ANY satisfying assignment of the encoding of
the cone's table with don't-cares (computed by the simulation and `_eval_dont_cares` on a well-formed
circuit) agrees with the cone on every valuation of the circuit -/
theorem c04_synthesised_cone_slice_agrees {c sub : Circuit} {leaves nodes outs : List Label} {tt : List (Label × Nat)}
    {gtt : Dict (List V3)} {sp : Spec} {σ : SVar → Bool}
    (hw : WFU c) (hcl : Cone.Closed c leaves [] nodes) (hsim : simulate c leaves nodes = .ok tt)
    (houts : ∀ o ∈ outs, o ∈ leaves ∨ o ∈ nodes) (hleaves : ∀ l ∈ leaves, l ∈ c.labels)
    (hg : gatesTruthTable c = .ok gtt)
    (hn : sp.n = leaves.length) (hm : sp.m = outs.length) (hc : sp.cons = [])
    (htab : ∀ j t, j < sp.m → t < 2 ^ sp.n → sp.table j t =
      entry (ttDC leaves.length (outs.map (ttGet tt))
        (inputsTT leaves.length (occOf gtt (2 ^ c.inputs.length) leaves.reverse))) j t)
    (hsat : sat σ (encode sp)) (hsub : solToCircuit sp (decode sp σ) = .ok sub)
    (hin : ∀ l, l ∈ sub.inputs → ∃ g ∈ sub.gates, g.label = l ∧ g.ty = GateType.INPUT) :
    SliceAgrees c sub (leaves.reverse.zip sub.inputs) (outs.zip sub.outputs) := by
  have hok := c04_synthesised_cone_agrees sp σ hc hsat
  have har : ∀ g ∈ c.gates, g.ty ≠ GateType.INPUT → arityOk g.ty g.ops.length = true := by
    intro g hgm hgt
    have := hw.arity g hgm
    simpa [hgt] using this
  have hreach := c04_eval_dont_cares_collects_every_leaf_vector hw hg (ins := leaves.reverse) (by intro l hl; exact hleaves l (by simpa using hl))
  rw [List.length_reverse] at hreach
  have himpl := synthesised_implements hok hsub _ (by simp [ttDC, hm]) htab
  rw [hn] at himpl
  exact dc_table_slice_agrees har hcl hsim houts hreach hin himpl

/-! Non-vacuity: the cone {x = AND(a,b), y = NOT(x)} over leaves a, b in a circuit where b = NOT(a):
the leaf vectors 00 and 11 never occur, so rows 0 and 3 of the table are don't-cares -/
def c04Ex : Circuit :=
  ⟨[⟨"a", .INPUT, []⟩, ⟨"b", .NOT, ["a"]⟩, ⟨"x", .AND, ["a", "b"]⟩, ⟨"y", .NOT, ["x"]⟩], ["a"], ["y"], [], []⟩
example : (simulate c04Ex ["a", "b"] ["x", "y"]).toOption.map (fun tt => (ttGet tt "x", ttGet tt "y")) = some (8, 7) := by decide
example : ttDC 2 [7] [[false, true], [true, false]] = [[none, some true, some true, none]] := by decide
example : Cone.Closed c04Ex ["a", "b"] [] ["x", "y"] := by
  intro pre x post h hx g hg o ho
  rcases pre with _ | ⟨p, _ | ⟨q, _ | _⟩⟩ <;> simp at h
  · obtain ⟨rfl, _⟩ := h
    simp [c04Ex, Circuit.find?] at hg; subst hg; simp at ho; rcases ho with rfl | rfl <;> simp
  · obtain ⟨rfl, rfl, _⟩ := h
    simp [c04Ex, Circuit.find?] at hg; subst hg; simp at ho; simp [ho]

#print axioms c04_cone_simulation_computes_the_cone
#print axioms c04_eval_dont_cares_collects_every_leaf_vector
#print axioms c04_dont_care_table_defined_where_reached
#print axioms c04_dont_care_table_sound
#print axioms c04_synthesised_cone_slice_agrees

end Cirbo
