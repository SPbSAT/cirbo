import Cirbo.Proofs.Denorm
import Cirbo.Proofs.DbLookupC
/-!
# C17 — Shipped circuit databases are correct and lookups return the requested function

-- OBLIGATION: c17_normalize_denormalize_roundtrip
-- OBLIGATION: c17_normalized_outputs_start_false
-- OBLIGATION: c17_sort_is_permutation
-- OBLIGATION: c17_denormalize_circuit
-- OBLIGATION: c17_lookup_entry_correct
-- OBLIGATION: c17_dontcare_completions_exact
-- OBLIGATION: c17_dontcare_lookup
-- OBLIGATION: c17_dontcare_lookup_computes
-- OBLIGATION: c17_denormalize_returns
-- PARTIAL: proved (for every table, any number of outputs and rows): normalisation followed by denormalisation is the identity on the outputs' truth tables (negation, stable sort, duplicate removal and their inverses); and at circuit level: denormalize(circuit) leaves the inputs alone and puts the denormalised values on the outputs (reused / fresh not_<o> gates), so an entry whose stored circuit computes the normalised table yields a circuit computing the requested table in the requested output order (c17_lookup_entry_correct). The quantifier over the 2 x 349,724 shipped entries ('the stored circuit computes its key') is a finite table: it is discharged by executing the code's and the Lean model's decoder + evaluator + well-formedness checker over the entries (quick: every entry with <= 2 inputs plus a seeded sample; thorough: all), not by a kernel proof. The lookup of a table with don't-cares is proved too, for every pattern of don't-cares and any database lookup of full tables: the tables looked up are exactly the full tables of the model's shape that agree with its defined entries (c17_dontcare_completions_exact), the circuit returned is the stored circuit of one of them, no stored circuit of any of them is smaller, and nothing is returned only when none of them is stored (c17_dontcare_lookup); given that the lookup of full tables returns only circuits computing the table asked for, the circuit returned computes a table with every defined entry (c17_dontcare_lookup_computes). The order of the tables looked up and the circuit chosen are compared with get_by_raw_truth_table_model on the shipped databases by the correspondence. That denormalize never raises on a matching entry is a theorem (c17_denormalize_returns).
-/
namespace Cirbo
open Norm

/-- denormalising the normalised table gives back the table asked for, through output negation,
reordering and duplicate outputs; this is the table half of a lookup (normalise, fetch, denormalise),
the circuit half is `c17_lookup_entry_correct` -/
theorem c17_normalize_denormalize_roundtrip (tt : List Row) (info : Info) (h : normalize tt = .ok info) :
    denormRows info info.table = .ok tt := by
  obtain ⟨rows, n2, n1, n3, u, hu, hs⟩ := normalize_denorm h id []
  rw [List.map_id] at hu hs
  unfold denormRows
  rw [hu]
  simp only
  rw [hs]
  simp only
  rw [if_neg (by simp [n1, n2])]
  exact congrArg Except.ok n3

/-- every normalised output starts with `False` (so an output and its complement share one key) -/
theorem c17_normalized_outputs_start_false : ∀ (tt : List Row) (negs : List Bool) (rows : List Row),
    normalizeOutputs tt = .ok (negs, rows) → ∀ r ∈ rows, r.head? = some false :=
  fun tt negs rows h => (normalizeOutputs_spec tt negs rows h).2.2.2

/-- the recorded permutation is a permutation of the output positions -/
theorem c17_sort_is_permutation (rows : List Row) :
    ((sortOutputs rows).map (·.1)).Perm (List.range rows.length) :=
  (sortOutputs_spec rows).1

/-- **`NormalizationInfo.denormalize(circuit)`** (any recorded parameters, any well-formed circuit in which
a gate named `not_<o>` — if there is one — is the negation of `o`): the input list is untouched, the
result is well formed, and every valuation of the stored circuit extends to one of the result whose
output values are the denormalised values (`denormVec`: undo duplicate removal, undo the sort, negate)
of the stored circuit's output values -/
theorem c17_denormalize_circuit {info : Info} {c c' : Circuit} (hw : WFS c) (hn : NotOK c)
    (h : denormalizeCircuit info c = .ok c') :
    c'.inputs = c.inputs ∧ WFS c' ∧
    ∀ b v, IsValB c b v → ∃ v', IsValB c' b v' ∧ (∀ l ∈ c.labels, v' l = v l) ∧
      denormVec (v "") info (c.outputs.map v) = .ok (c'.outputs.map v') :=
  have ⟨hi, hw', _, hsem⟩ := denormalizeCircuit_sem hw hn h
  ⟨hi, hw', hsem⟩

/-- **a looked-up entry computes the requested table**: `tt` is the requested table (one row per
output), `info = normalize tt` its normalisation (whose `table` is the database key), `c` the stored
circuit. If `c` computes the key on an input assignment (column `j`), the circuit `denormalize`
returns computes column `j` of `tt` — every output, in the requested order, through negation,
reordering and duplicates — on the same inputs -/
theorem c17_lookup_entry_correct {tt : List Row} {info : Info} {c c' : Circuit} (hnorm : normalize tt = .ok info)
    (hw : WFS c) (hn : NotOK c) (hd : denormalizeCircuit info c = .ok c') (j : Nat)
    (hrows : ∀ r ∈ tt, j < r.length) {b v : Label → Bool} (hv : IsValB c b v)
    (hstored : c.outputs.map v = col j info.table) :
    ∃ v', IsValB c' b v' ∧ c'.outputs.map v' = col j tt ∧ c'.inputs = c.inputs := by
  obtain ⟨hi, _, _, hsem⟩ := denormalizeCircuit_sem hw hn hd
  obtain ⟨v', a1, _, a3⟩ := hsem b v hv
  refine ⟨v', a1, ?_, hi⟩
  -- the round trip at the level of the values in column `j`
  obtain ⟨rows, n2, n1, n3, u, hu, hs⟩ := normalize_denorm hnorm (fun r => r.getD j false) (v "")
  rw [hstored, col, denormVec_ok hu hs (by simp [n1, n2])] at a3
  rw [← Except.ok.inj a3, ← n3]
  exact negVec_col (n3 ▸ hrows)

/-- **the tables looked up for a model with don't-cares** (`none` = `DontCare`) are exactly the fully defined
tables that have the model's shape and every defined entry of the model -/
theorem c17_dontcare_completions_exact (tt : List (List TEntry)) (t : List Row) :
    t ∈ completions tt ↔
      (t.length = tt.length ∧ (∀ i, (t.getD i []).length = (tt.getD i []).length) ∧
       ∀ i j b, (tt.getD i [])[j]? = some (some b) → (t.getD i []).getD j false = b) :=
  mem_completions_iff tt t

/-- **looking up a model with don't-cares** (`get_by_raw_truth_table_model`; `lookup` = the lookup of fully
defined tables, `size` = `gates_number(exclusion_list)`): the circuit returned is the stored circuit of a full
table that agrees with every defined entry; the stored circuit of no agreeing full table is smaller; and
nothing is returned only if no agreeing full table is stored -/
theorem c17_dontcare_lookup {γ} (lookup : List Row → Option γ) (size : γ → Nat) (tt : List (List TEntry)) :
    (∀ r, lookupDC lookup size tt = some r →
      (∃ t, Agrees tt t ∧ lookup t = some r) ∧ ∀ t, Agrees tt t → ∀ c, lookup t = some c → size r ≤ size c) ∧
    (lookupDC lookup size tt = none ↔ ∀ t, Agrees tt t → lookup t = none) :=
  by simpa only [mem_completions_iff] using lookupDC_spec lookup size tt

/-- with a lookup of full tables that only returns circuits computing the table asked for
(`c17_lookup_entry_correct` + the sweep of the stored entries), the circuit returned for a model with
don't-cares computes a table that has every defined entry of the model -/
theorem c17_dontcare_lookup_computes {γ} (lookup : List Row → Option γ) (size : γ → Nat) (Computes : γ → List Row → Prop)
    (hlookup : ∀ t r, lookup t = some r → Computes r t) (tt : List (List TEntry)) (r : γ)
    (h : lookupDC lookup size tt = some r) :
    ∃ t, Computes r t ∧ t.length = tt.length ∧ (∀ i, (t.getD i []).length = (tt.getD i []).length) ∧
      ∀ i j b, (tt.getD i [])[j]? = some (some b) → (t.getD i []).getD j false = b :=
  have ⟨⟨t, ha, hl⟩, _⟩ := (c17_dontcare_lookup lookup size tt).1 r h
  ⟨t, hlookup t r hl, ha.1, ha.2.1, ha.2.2⟩

/-- **denormalisation never raises on a matching entry** and returns the requested table: `tt` the requested table,
`info` its normalisation, `c` a stored circuit with as many outputs as the key has rows -/
theorem c17_denormalize_returns {tt : List Row} {info : Info} {c : Circuit} (hnorm : normalize tt = .ok info)
    (hw : WFS c) (hn : NotOK c) (hout : c.outputs.length = info.table.length) :
    ∃ c', denormalizeCircuit info c = .ok c' ∧ WFS c' ∧ c'.inputs = c.inputs ∧
      c'.outputs.length = tt.length ∧
      ∀ j, (∀ r ∈ tt, j < r.length) → ∀ b v, IsValB c b v → c.outputs.map v = col j info.table →
        ∃ v', IsValB c' b v' ∧ c'.outputs.map v' = col j tt := by
  obtain ⟨c', hd⟩ := denormalize_total hnorm hw hn hout
  obtain ⟨hi, hw', hlen, _⟩ := denormalizeCircuit_sem hw hn hd
  obtain ⟨_, _, hnl, hml, _⟩ := normalize_shape hnorm
  refine ⟨c', hd, hw', hi, by omega, fun j hrows b v hv hstored => ?_⟩
  obtain ⟨v', a, b', _⟩ := c17_lookup_entry_correct hnorm hw hn hd j hrows hv hstored
  exact ⟨v', a, b'⟩

/-- non-vacuity: two don't-cares, four completions in the order of `itertools.product`; the smaller of the two
circuits found wins, the first of equals -/
example : completions [[some true, none], [none, some false]] =
    [[[true, false], [false, false]], [[true, false], [true, false]], [[true, true], [false, false]], [[true, true], [true, false]]] := by decide
example : lookupDC (fun t => if t = [[true, false], [true, false]] then some 5 else if t = [[true, true], [false, false]] then some 3
    else if t = [[true, true], [true, false]] then some 3 else none) (fun n => n / 2) [[some true, none], [none, some false]] = some 3 := by decide

open GateType in
/-- non-vacuity: a stored AND gate, asked for [NAND, AND, NAND] -/
example : ((normalize [[true, true, true, false], [false, false, false, true], [true, true, true, false]]).toOption.bind
    (fun info => (denormalizeCircuit info
      ⟨[⟨"0", INPUT, []⟩, ⟨"1", INPUT, []⟩, ⟨"2", AND, ["0", "1"]⟩], ["0", "1"], ["2"], [("0", ["2"]), ("1", ["2"])], []⟩).toOption.map
      (fun c => (c.outputs, c.gates.length)))) = some (["not_2", "2", "not_2"], 4) := by decide

/-! Non-vacuity: three outputs with a complement pair and a rotation of the sorted order -/
example : (normalize [[false, true, true, false], [true, false, false, true], [false, false, false, true]]).toOption.map
    (fun i => (i.negations, i.permutation, i.mapping, label i.table)) =
    some ([false, true, false], [2, 0, 1], [0, 1, 1], "0001_0110") := by decide

#print axioms c17_normalize_denormalize_roundtrip
#print axioms c17_normalized_outputs_start_false
#print axioms c17_sort_is_permutation
#print axioms c17_denormalize_circuit
#print axioms c17_lookup_entry_correct
#print axioms c17_dontcare_completions_exact
#print axioms c17_dontcare_lookup
#print axioms c17_dontcare_lookup_computes
#print axioms c17_denormalize_returns

end Cirbo
