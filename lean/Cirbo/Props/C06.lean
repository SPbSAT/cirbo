import Cirbo.Proofs.SynthCircuit
/-!
# C06 — Exact synthesis is sound and complete for the requested size and basis

-- OBLIGATION: c06_sound
-- OBLIGATION: c06_complete
-- OBLIGATION: c06_find_circuit
-- OBLIGATION: c06_tt_to_gate_type_correct
-- OBLIGATION: c06_returned_circuit_computes_the_table
-- PARTIAL: the theorems are about the Lean encoding `encode` and the decoded solution (positions, operation tables, output positions, per-row evaluation); that the code emits exactly this clause multiset and decodes a model to exactly this solution is the correspondence check (every run, incl. all constraint kinds and argument checks). Building the `Circuit` object from the decoded solution (labels "i" / "s<g>", gate types from the regenerated table, outputs marked in order) is modelled (Model/SynthCircuit.lean), compared with the code on every run and proved to compute the solution (c06_returned_circuit_computes_the_table). The time-limit path (SolverTimeOutError) and the circuit-database shortcut are outside the model (the property excludes the shortcut).
-/
namespace Cirbo
open Synth

/-- **soundness**: whatever satisfying assignment the solver returns, the decoded circuit has exactly
the requested number of gates, each reading two distinct earlier positions with an operation of the
basis, every output at a gate, agreement with every table entry that is not a don't-care, and every
imposed `fix_gate` / `forbid_wire` / normalisation constraint -/
theorem c06_sound (sp : Spec) (σ : SVar → Bool) (hwf : ∀ c ∈ sp.cons, WFCon sp c) (h : sat σ (encode sp)) :
    SolOk sp (decode sp σ) := encode_sound sp σ hwf h

/-- **completeness**: every such circuit is a satisfying assignment, and decoding it gives it back -/
theorem c06_complete (sp : Spec) (sol : Sol) (hwf : ∀ c ∈ sp.cons, WFCon sp c) (hok : SolOk sp sol) :
    sat (assignOf sp sol) (encode sp) ∧
    (∀ g ∈ internal sp, (decode sp (assignOf sp sol)).pred g = sol.pred g) ∧
    (∀ g p q, (decode sp (assignOf sp sol)).op g p q = sol.op g p q) ∧
    (∀ h, h < sp.m → (decode sp (assignOf sp sol)).out h = sol.out h) := encode_complete sp sol hwf hok

/-- with any sound and complete SAT solver: a circuit is returned only with all promised
properties, and "no solution" is reported exactly when no such circuit exists -/
theorem c06_find_circuit (solve : List Clause → Option (SVar → Bool))
    (hsound : ∀ F σ, solve F = some σ → sat σ F) (hcomplete : ∀ F, solve F = none → ∀ σ, ¬ sat σ F)
    (sp : Spec) (hwf : ∀ c ∈ sp.cons, WFCon sp c) :
    (∀ sol, findCircuit solve sp = .ok sol → SolOk sp sol) ∧
    (findCircuit solve sp = .error "NoSolutionError" ↔ ¬ ∃ sol, SolOk sp sol) := by
  unfold findCircuit
  cases hs : solve (encode sp) with
  | none =>
    refine ⟨fun _ h => (by cases h), ⟨fun _ => ?_, fun _ => rfl⟩⟩
    rintro ⟨sol, hok⟩
    exact hcomplete _ hs _ (encode_complete sp sol hwf hok).1
  | some σ =>
    have hok := encode_sound sp σ hwf (hsound _ _ hs)
    exact ⟨fun sol h => (by cases h; exact hok), fun h => (by cases h), fun hno => absurd ⟨_, hok⟩ hno⟩

/-- the regenerated `_tt_to_gate_type` table maps every operation table to a gate type computing it -/
theorem c06_tt_to_gate_type_correct {a b c d : Bool} {ty : GateType} (h : Gen.synthTtType a b c d = some ty) (x y : Bool) :
    bfun ty [x, y] = some (ttApply (a, b, c, d) x y) := (synthTtType_spec h).2 x y

/-- **end to end**: the `Circuit` object built from a solution that satisfies the promises (`SolOk`,
which by `c06_sound` every decoded satisfying assignment does) has the inputs `0 … n-1` in order, one
output per requested output, and under every valuation whose inputs carry row `t` each output has the
value the table asks for wherever the table is defined -/
theorem c06_returned_circuit_computes_the_table {sp : Spec} {sol : Sol} {c : Circuit} (hok : SolOk sp sol)
    (h : solToCircuit sp sol = .ok c) :
    c.inputs = (List.range sp.n).map toString ∧
    c.outputs = (List.range sp.m).map (fun h => "s" ++ toString (sol.out h)) ∧
    ∀ (b v : Label → Bool) (t : Nat), t < 2 ^ sp.n → IsValB c b v → (∀ i, i < sp.n → b (toString i) = inputBit sp i t) →
      ∀ hh, hh < sp.m → ∀ val, sp.table hh t = some val → v ("s" ++ toString (sol.out hh)) = val := by
  obtain ⟨h1, h2, h3⟩ := solToCircuit_spec hok.preds h
  refine ⟨h1, h2, fun b v t ht hv hb hh hhm val htab => ?_⟩
  obtain ⟨o1, o2⟩ := hok.outs hh hhm
  rw [← hok.agrees hh hhm t ht val htab, ← h3 b v t hv hb _ o2, synthLabel, if_neg (by omega)]

/-! Non-vacuity: XOR of two inputs with one gate, every operation allowed — an explicit solution
computes the requested table on a concrete spec (evaluated) -/
def c06Spec : Spec where
  n := 2
  m := 1
  N := 1
  table := fun _ t => some (t == 1 || t == 2)
  allowed := fun _ _ _ _ => true
  normalized := false
  cons := []
def c06Sol : Sol := { pred := fun _ => (0, 1), op := fun _ p q => xor p q, out := fun _ => 2 }
example : (List.range 4).all (fun t => eval c06Spec c06Sol t 2 == (t == 1 || t == 2)) = true := by decide

#print axioms c06_sound
#print axioms c06_complete
#print axioms c06_find_circuit
#print axioms c06_tt_to_gate_type_correct
#print axioms c06_returned_circuit_computes_the_table

/-- non-vacuity of the builder: the example solution yields a circuit -/
example : (solToCircuit c06Spec c06Sol).toOption.map (fun c => (c.inputs, c.outputs, c.gates.length)) = some (["0", "1"], ["s2"], 3) := by decide

end Cirbo
