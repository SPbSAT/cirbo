import Cirbo.Proofs.Rewrite
import Cirbo.Proofs.Rename
import Cirbo.Proofs.ReplaceSem
/-!
# C19 — Local rewrites keep or specialise the function exactly as documented

-- OBLIGATION: c19_replace_inputs_is_cofactor
-- OBLIGATION: c19_remove_gate
-- OBLIGATION: c19_remove_gate_rejects
-- OBLIGATION: c19_rename_references_follow
-- OBLIGATION: c19_rename_keeps_function
-- OBLIGATION: c19_rename_keeps_invariant
-- OBLIGATION: c19_rename_returns
-- OBLIGATION: c19_rename_errors
-- OBLIGATION: c19_replace_subcircuit_wellformed
-- OBLIGATION: c19_replace_subcircuit_keeps_function
-- OBLIGATION: c19_replace_subcircuit_errors
-- PARTIAL: rename_gate is total: on a well-formed circuit it returns exactly when the old label is a gate and the new one is not, and otherwise raises CircuitGateIsAbsentError / CircuitGateAlreadyExistsError for exactly that reason (c19_rename_returns, c19_rename_errors). replace_subcircuit: 'keeps the truth table and the circuit well formed whenever it returns' is proved (c19_replace_subcircuit_wellformed for ANY replacement; c19_replace_subcircuit_keeps_function for a replacement that agrees with the slice on every valuation of the circuit, under the side condition that no slice output is a circuit INPUT — without it the call can return a circuit with fewer inputs). Which errors it raises otherwise ('or raises one of the documented errors') is a theorem as well (c19_replace_subcircuit_errors: on a well-formed circuit only library errors, never a Python-internal one, and no fuel exhaustion).
-/
namespace Cirbo
open Circuit

/-- **Fixing inputs to constants yields exactly the cofactor** over the remaining inputs in their
original relative order: for every assignment `b` with t ↦ True, f ↦ False and valuation `v` of
the original, every assignment `b'` of the *remaining* inputs that agrees with `b` makes `v` a
valuation of the result; outputs are unchanged; the result is well formed. -/
theorem c19_replace_inputs_is_cofactor {c c' : Circuit} {t f : List Label} (hw : WFS c)
    (h : c.replaceInputs t f = .ok c') {b v : Label → Bool} (hv : IsValB c b v)
    (ht : ∀ l ∈ t, b l = true) (hf : ∀ l ∈ f, b l = false) :
    WFS c' ∧ c'.outputs = c.outputs ∧ (∀ x, x ∈ c'.inputs ↔ x ∈ c.inputs ∧ x ∉ t ∧ x ∉ f) ∧
    c'.inputs.Sublist c.inputs ∧
    ∀ b', (∀ x ∈ c'.inputs, b' x = b x) → IsValB c' b' v :=
  replaceInputs_cofactor hw h hv ht hf

/-- removing a gate succeeds only for an existing gate nobody uses and removes it from the gate
map, the outputs and the blocks -/
theorem c19_remove_gate {c c' : Circuit} {l : Label} (h : c.removeGate l = .ok c') :
    l ∈ c.labels ∧ c.usersOf l = [] ∧
    c'.gates = c.gates.filter (fun x => !(x.label == l)) ∧
    c'.outputs = c.outputs.filter (fun o => !(o == l)) ∧
    c'.blocks = c.blocks.filter (fun b => !(b.gates.contains l || b.inputs.contains l || b.outputs.contains l)) ∧
    (∀ x ∈ c'.inputs, x ∈ c.inputs) := by
  obtain ⟨hL, hU, h⟩ := removeGate_ok_iff.mp h
  obtain ⟨g, _, fg, fi, _, fo, fb, _⟩ := rawRemoveGate_fields h
  refine ⟨hL, hU, fg, fo, fb, fun x hx => ?_⟩
  rw [fi] at hx
  split at hx
  · exact List.mem_of_mem_erase hx
  · exact hx

theorem c19_remove_gate_rejects {c : Circuit} {l : Label} :
    (l ∉ c.labels → c.removeGate l = .error "CircuitValidationError") ∧
    (l ∈ c.labels → c.usersOf l ≠ [] → c.removeGate l = .error "GateHasUsersError") :=
  ⟨fun hl => by simp [removeGate, (hasGate_false_iff c l).mpr hl],
    fun hl hu => by simp [removeGate, (hasGate_iff c l).mpr hl, hu]⟩

/-- **Renaming a gate: every reference follows.** On a well-formed circuit, whenever `rename_gate(old, new)`
returns, the result is the circuit with `old` replaced by `new` everywhere: its gates are exactly the
gates of the argument with label and operands renamed, its labels are distinct, the input list, the
output list (every occurrence) and every block's inputs/members/outputs are the renamed lists, and the
users index is the renamed users index (`old` has no entry left). -/
theorem c19_rename_references_follow {c c' : Circuit} {old new : Label} (hw : WFS c)
    (h : c.renameGate old new = .ok c') : Renamed c c' old new ∧ old ∈ c.labels ∧ new ∉ c.labels :=
  renameGate_renamed hw h

/-- **Renaming changes no truth table**: every valuation of the argument, read through the inverse
renaming, is a valuation of the result, and the outputs get the same values position by position. -/
theorem c19_rename_keeps_function {c c' : Circuit} {old new : Label} (hw : WFS c)
    (h : c.renameGate old new = .ok c') {b v : Label → Bool} (hv : IsValB c b v) :
    IsValB c' (b ∘ rhoInv old new) (v ∘ rhoInv old new) ∧
    c'.outputs.map (v ∘ rhoInv old new) = c.outputs.map v := by
  obtain ⟨hr, _, hnew⟩ := renameGate_renamed hw h
  exact renamed_val hw hnew hr hv

/-- the result of `rename_gate` is well formed again (operands, outputs, users index, inputs, acyclicity, blocks) -/
theorem c19_rename_keeps_invariant {c c' : Circuit} {old new : Label} (hw : WFS c)
    (h : c.renameGate old new = .ok c') : WFS c' := renameGate_wfs hw h

/-- **`rename_gate` returns** on a well-formed circuit whenever the old label is a gate and the new one is not:
the bookkeeping of the users index (one entry renamed per occurrence of the gate among an operand's users)
never runs dry — the index lists the gate exactly as often as the operand occurs -/
theorem c19_rename_returns {c : Circuit} {old new : Label} (hw : WFS c) (hold : old ∈ c.labels) (hnew : new ∉ c.labels) :
    ∃ c', c.renameGate old new = .ok c' := by
  obtain ⟨h, _⟩ | ⟨_, h, _⟩ | ⟨_, _, _, c', _, he, _⟩ := renameGate_outcome hw old new
  · exact absurd hold h
  · exact absurd h hnew
  · exact ⟨c', he⟩

/-- when `rename_gate` does not return on a well-formed circuit, it raised one of its two documented errors for the documented reason -/
theorem c19_rename_errors {c : Circuit} {old new : Label} (hw : WFS c) {e : String} (h : c.renameGate old new = .error e) :
    (old ∉ c.labels ∧ e = "CircuitGateIsAbsentError") ∨
    (old ∈ c.labels ∧ new ∈ c.labels ∧ e = "CircuitGateAlreadyExistsError") := by
  obtain ⟨ho, he⟩ | ⟨ho, hn, he⟩ | ⟨_, _, _, _, _, he, _⟩ := renameGate_outcome hw old new <;> rw [he] at h <;> cases h
  · exact .inl ⟨ho, rfl⟩
  · exact .inr ⟨ho, hn, rfl⟩

/-- **`replace_subcircuit` leaves the circuit well formed** whenever it returns: for a well-formed
circuit and replacement and mappings with distinct keys (Python dicts), after the renames, the
removal of the slice, the re-insertion of the replacement's gates, the restored outputs and users
and the whole-graph cycle check, every clause of the C02 invariant holds again (operands and outputs
exist, users index = operand multiset, input list, acyclic, blocks). No equivalence of the
replacement is needed for this half. `uuid` is the fresh uuid of the temporary block (any value). -/
theorem c19_replace_subcircuit_wellformed {c sub c' : Circuit} {im om : List (Label × Label)} {uuid k' : Nat}
    (hw : WFS c) (hs : WFS sub) (hik : (im.map (·.1)).Nodup) (hok : (om.map (·.1)).Nodup)
    (h : c.replaceSubcircuit sub im om uuid = .ok (c', k')) : WFS c' :=
  replaceSubcircuit_wfs hw hs hik hok h

/-- **replacing a subcircuit by one that agrees with it leaves the truth table unchanged and the
circuit well formed.** `SliceAgrees c sub im om`: on every valuation of `c`, the replacement fed the
values at the slice inputs (`im`: circuit gate ↦ replacement input) produces the values at the slice
outputs (`om`: circuit gate ↦ replacement output) — functional equivalence under the given
correspondence, asked only on value combinations that occur. Then, whenever the call returns, the
result is well formed and there is a relabelling `f` of its inputs onto the original inputs, position
by position, under which every valuation of the original yields a valuation of the result with the
same output values, position by position — i.e. the same truth table. -/
theorem c19_replace_subcircuit_keeps_function {c sub c' : Circuit} {im om : List (Label × Label)} {uuid k' : Nat}
    (hw : WFS c) (hsu : WFU sub)
    (hsb : ∀ b ∈ sub.blocks, (∀ l ∈ b.gates, l ∈ sub.labels) ∧ (∀ l ∈ b.inputs, l ∈ sub.labels))
    (hik : (im.map (·.1)).Nodup) (hok : (om.map (·.1)).Nodup)
    (hag : SliceAgrees c sub im om) (hnoin : ∀ p ∈ om, p.1 ∉ c.inputs)
    (h : c.replaceSubcircuit sub im om uuid = .ok (c', k')) :
    WFS c' ∧ ∃ f : Label → Label, c'.inputs.map f = c.inputs ∧
      ∀ b v, IsValB c b v → ∃ v', IsValB c' (b ∘ f) v' ∧ c'.outputs.map v' = c.outputs.map v :=
  have _ := hsb -- not needed: of `sub` only the gates, inputs and users enter
  replaceSubcircuit_sem hw hsu hik hok hag hnoin h

open GateType in
/-- non-vacuity of the agreement hypothesis -/
example : SliceAgrees ⟨[⟨"a", INPUT, []⟩, ⟨"x", NOT, ["a"]⟩], ["a"], ["x"], [("a", ["x"])], []⟩
    ⟨[⟨"p", INPUT, []⟩, ⟨"r", NOT, ["p"]⟩], ["p"], ["r"], [("p", ["r"])], []⟩ [("a", "p")] [("x", "r")] := by
  intro b v bs vs hv hvs hin p hp
  simp only [List.mem_singleton] at hp; subst hp
  have h1 := hv ⟨"x", NOT, ["a"]⟩ (by simp)
  have h2 := hvs ⟨"r", NOT, ["p"]⟩ (by simp)
  have h3 := hin ("a", "p") (by simp)
  simp [bfun] at h1 h2 h3
  show vs "r" = v "x"
  rw [h3, h1] at h2
  cases hx : v "x" <;> cases hr : vs "r" <;> simp_all

open GateType in
/-- non-vacuity: a two-gate slice replaced by one gate -/
example : ((Circuit.replaceSubcircuit
    ⟨[⟨"a", INPUT, []⟩, ⟨"b", INPUT, []⟩, ⟨"x", NOT, ["a"]⟩, ⟨"y", NOR, ["x", "b"]⟩, ⟨"z", NOT, ["y"]⟩],
      ["a", "b"], ["z"], [("a", ["x"]), ("b", ["y"]), ("x", ["y"]), ("y", ["z"])], []⟩
    ⟨[⟨"p", INPUT, []⟩, ⟨"q", INPUT, []⟩, ⟨"r", GT, ["p", "q"]⟩], ["p", "q"], ["r"], [("p", ["r"]), ("q", ["r"])], []⟩
    [("a", "p"), ("b", "q")] [("y", "r")] 0).toOption.map
      (fun p => (p.1.gates.map (·.label), p.1.usersOf "r", p.2))) = some (["z", "p", "q", "r"], ["z"], 1) := by
  decide

/-- **"… or raises one of the documented errors"**: on a well-formed circuit, whenever `replace_subcircuit` does not
return it raised a library error — never a Python-internal one (KeyError, ValueError, AssertionError, IndexError), and
the model's fuel never runs out -/
theorem c19_replace_subcircuit_errors {c sub : Circuit} {im om : List (Label × Label)} {ctr : Nat} (hw : WFS c) :
    (∀ e, c.replaceSubcircuit sub im om ctr = .error e →
      e ∈ ["ReplaceSubcircuitError", "GateDoesntExistError", "CircuitGateIsAbsentError", "CircuitGateAlreadyExistsError",
           "CircuitValidationError", "CreateBlockError", "DeleteBlockError", "GateHasUsersError", "CircuitIsCyclicalError"]) ∧
    (∀ e ∈ ["Py:KeyError", "Py:ValueError", "Py:AssertionError", "Py:IndexError", "fuel"],
      c.replaceSubcircuit sub im om ctr ≠ .error e) :=
  ⟨fun _ h => (re_replaceSubcircuit_errors_core hw h).documented,
    fun e he h => re_Raised.not_internal e he (re_replaceSubcircuit_errors_core hw h)⟩

#print axioms c19_replace_inputs_is_cofactor
#print axioms c19_remove_gate
#print axioms c19_remove_gate_rejects
#print axioms c19_rename_references_follow
#print axioms c19_rename_keeps_function
#print axioms c19_rename_keeps_invariant
#print axioms c19_rename_returns
#print axioms c19_rename_errors
#print axioms c19_replace_subcircuit_wellformed
#print axioms c19_replace_subcircuit_keeps_function
#print axioms c19_replace_subcircuit_errors

end Cirbo
