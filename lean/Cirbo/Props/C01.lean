import Cirbo.Proofs.EvalCor
import Cirbo.Model.Checkers
import Cirbo.Proofs.EvalProj
import Cirbo.Proofs.LazyTerm
import Cirbo.Proofs.GatesTT
import Cirbo.Proofs.TseytinTemplates
import Cirbo.Proofs.Convert
import Cirbo.Proofs.Pattern
import Cirbo.Proofs.SynthCircuit
/-!
# C01 — Evaluation equals the denotational semantics of the gate network

-- OBLIGATION: c01_ops_every_arity
-- OBLIGATION: c01_generated_rows_are_the_model
-- OBLIGATION: c01_den_exists
-- OBLIGATION: c01_den_unique
-- OBLIGATION: c01_den_storage_order
-- OBLIGATION: c01_evaluate_full_circuit
-- OBLIGATION: c01_evaluate_circuit
-- OBLIGATION: c01_evaluate_circuit_returns
-- OBLIGATION: c01_evaluate
-- OBLIGATION: c01_evaluate_at
-- OBLIGATION: c01_truth_table
-- OBLIGATION: c01_gates_truth_table
-- OBLIGATION: c01_cnf_templates_denote_bfun
-- OBLIGATION: c01_arithmetic_gate_codes_denote_bfun
-- OBLIGATION: c01_synthesis_codes_denote_bfun
-- OBLIGATION: c01_pattern_simulation_denotes_bfun
-- OBLIGATION: c01_bench_conversion_denotes_bfun
-- PARTIAL: evaluate, evaluate_at, get_truth_table and get_gates_truth_table are proved to be the stated projections of the denotation (whenever they return). evaluate_circuit terminates and returns on every well-formed circuit (c01_evaluate_circuit_returns); the wrappers built on it are stated as whenever-they-return. The other gate-interpreting modules are tied to the same bfun by the five theorems below (CNF templates at every arity, the two regenerated truth-table code tables, pattern simulation bit by bit, every bench conversion step).
-/
namespace Cirbo
open GateType V3

/-- **One fixed Boolean function per gate type, at every arity**: the code's operator
(reduce-shaped model over the regenerated tables) on defined arguments is `bfun`, and it raises
exactly where `bfun` rejects the arity. -/
theorem c01_ops_every_arity (ty : GateType) (bs : List Bool) :
    applyOp ty (bs.map ofBool) = (bfun ty bs).map ofBool := applyOp_ofBool ty bs

/-- every row the translator obtained by *calling* `GateType.operator` (arity 0..3, all 3-valued
argument tuples) is what the reduce-shaped model computes — so the model's shape is the code's
shape wherever it was probed, in particular n-ary gates are left folds and NAND/NOR/NXOR negate
the fold. -/
theorem c01_generated_rows_are_the_model (ty : GateType) (args : List V3) (h : args.length ≤ 3) :
    genRow ty args = applyOp ty args := by
  -- the whole table at once, by `+kernel`: the elaborator's own evaluation of the lookups is several times slower
  have tbl : ∀ ty ∈ GateType.all, genRow ty [] = applyOp ty [] ∧
      ∀ a ∈ V3.all, genRow ty [a] = applyOp ty [a] ∧
      ∀ b ∈ V3.all, genRow ty [a, b] = applyOp ty [a, b] ∧
      ∀ c ∈ V3.all, genRow ty [a, b, c] = applyOp ty [a, b, c] := by
    decide +kernel
  have m (a : V3) : a ∈ V3.all := by cases a <;> decide
  obtain ⟨h0, h1⟩ := tbl ty ty.mem_all
  rcases args with _ | ⟨a, _ | ⟨b, _ | ⟨c, _ | ⟨d, r⟩⟩⟩⟩
  · exact h0
  · exact (h1 a (m a)).1
  · exact ((h1 a (m a)).2 b (m b)).1
  · exact ((h1 a (m a)).2 b (m b)).2 c (m c)
  · simp at h

/-- a circuit satisfying `WFU` has a Boolean valuation under every input assignment (the denotational
semantics exists) -/
theorem c01_den_exists {c : Circuit} (h : WFU c) (b : Label → Bool) : ∃ vB, IsValB c b vB :=
  valB_exists h b

/-- two Boolean valuations of a well-formed circuit under the same input assignment agree on its gates
(the denotational semantics is a function of the netlist and the input assignment only) -/
theorem c01_den_unique {c : Circuit} (h : WF c) {b : Label → Bool} {v v' : Label → Bool}
    (hv : IsValB c b v) (hv' : IsValB c b v') : ∀ g ∈ c.gates, v g.label = v' g.label :=
  valB_unique h hv hv'

/-- independent of gate insertion (storage) order; sharing, duplicated operands and duplicated
outputs need no lemma because `IsValB` quantifies over gates and operand lists directly -/
theorem c01_den_storage_order {c c' : Circuit} (hp : c'.gates.Perm c.gates) {b v : Label → Bool}
    (hv : IsValB c b v) : IsValB c' b v := fun g hg => hv g (hp.mem_iff.mp hg)

/-- **`evaluate_full_circuit` (hence `get_gates_truth_table`)**: on every well-formed circuit and
total input assignment the call returns, and every gate carries its denotational value. -/
theorem c01_evaluate_full_circuit {c : Circuit} (h : WFU c) (b vB : Label → Bool)
    (hB : IsValB c b vB) :
    ∃ d, evalFull c (asgOfBools c b) = .ok d ∧
      ∀ g ∈ c.gates, d.get? g.label = some (ofBool (vB g.label)) := by
  obtain ⟨d, hd, hv, hall, _⟩ := evalFull_spec h (asgOfBools c b)
  refine ⟨d, hd, ?_⟩
  have hv' := isVal3_asgOfBools h hv
  intro g hg
  rw [get?_eq_some_valOf (hall g hg), val3_total_eq_valB h.toWF hB hv' g hg]

/-- **`evaluate_circuit` (hence `evaluate_circuit_outputs`, `evaluate`, `evaluate_at`,
`get_truth_table`)**: whenever the call returns, every requested output carries its
denotational value, and no gate carries a wrong defined value. -/
theorem c01_evaluate_circuit {c : Circuit} (h : WFU c) (b vB : Label → Bool) (hB : IsValB c b vB)
    (outs : Option (List Label)) (houts : ∀ o ∈ outs.getD c.outputs, o ∈ c.labels)
    {d : Asg} (hd : evalLazy c (asgOfBools c b) outs = .ok d) :
    (∀ o ∈ outs.getD c.outputs, d.get? o = some (ofBool (vB o))) ∧
    (∀ g ∈ c.gates, d.get? g.label = some (ofBool (vB g.label)) ∨ d.get? g.label = some U) := by
  obtain ⟨v, hv, hv'⟩ := val3_exists_bool h b
  have hasg := asgOfBools_get?_gate h b
  obtain ⟨h1, h2⟩ := evalLazy_sound h.toWF _ outs hasg houts hv hd
  have heq := val3_total_eq_valB h.toWF hB hv'
  constructor
  · intro o ho
    obtain ⟨g, hg, hgl⟩ := gate_of_label (houts o ho)
    rw [h2 o ho, ← hgl, heq g hg]
  · intro g hg
    rcases h1 g hg with h' | h'
    · left; rw [h', heq g hg]
    · right; exact h'

/-- **`evaluate_circuit` returns**: on every well-formed circuit, for every total input assignment and
every list of existing requested outputs, the explicit-stack loop terminates (its step budget is never
exhausted) and no exception is raised; so the previous theorem speaks about every call. -/
theorem c01_evaluate_circuit_returns {c : Circuit} (h : WFU c) (b : Label → Bool)
    (outs : Option (List Label)) (houts : ∀ o ∈ outs.getD c.outputs, o ∈ c.labels) :
    ∃ d, evalLazy c (asgOfBools c b) outs = .ok d := by
  obtain ⟨v, hv⟩ := val3_exists h (asgOfBools c b)
  have hasg := asgOfBools_get?_gate h b
  obtain ⟨_, d, _, hd, _⟩ := evalLazy_spec h.toWF _ outs hasg houts hv rfl
  exact ⟨d, hd⟩

/-! A small circuit with a valuation, and what the full evaluation returns on it. -/
def exTiny01 : Circuit :=
  { gates := [⟨"a", INPUT, []⟩, ⟨"n", NOT, ["a"]⟩], inputs := ["a"], outputs := ["n"],
    users := [("a", ["n"])], blocks := [] }
example : IsValB exTiny01 (fun _ => true) (fun l => l == "a") := by
  intro g hg
  simp [exTiny01] at hg
  rcases hg with rfl | rfl <;> decide
example : (evalFull exTiny01 (asgOfBools exTiny01 (fun _ => true))).toOption
    = some [("a", T), ("n", F)] := by decide

/-- `evaluate(inputs)`: position by position the denotation of the outputs -/
theorem c01_evaluate {c : Circuit} (h : WF c) (vals : List V3) {r : List V3} (he : evaluate c vals = .ok r)
    {a : Asg} (ha : zipInputs c vals = .ok a) {v : Label → V3} (hv : IsVal3 c (asgFun a) v) :
    r = c.outputs.map v := Except.ok.inj (he.symm.trans (evaluate_total h ha hv))

/-- `evaluate_at(inputs, i)`: the denotation of output `i` -/
theorem c01_evaluate_at {c : Circuit} (h : WF c) (vals : List V3) (idx : Nat) {x : V3}
    (he : evaluateAt c vals idx = .ok x) {a : Asg} (ha : zipInputs c vals = .ok a) {v : Label → V3}
    (hv : IsVal3 c (asgFun a) v) : ∃ o, c.outputs[idx]? = some o ∧ x = v o := by
  cases ho : c.outputs[idx]? with
  | none => simp [evaluateAt, bind, Except.bind, ha, ho] at he
  | some o => exact ⟨o, rfl, Except.ok.inj (he.symm.trans (evaluateAt_total h ha hv ho))⟩

/-- `get_truth_table()`: row `i` = the denotation of output `i` over all input vectors in counting order -/
theorem c01_truth_table {c : Circuit} (h : WF c) (V : List V3 → Label → V3)
    (hV : ∀ vals a, zipInputs c vals = .ok a → IsVal3 c (asgFun a) (V vals))
    {tt : List (List V3)} (ht : truthTable c = .ok tt) :
    tt = transpose c.outputs.length ((allInputs c.inputs.length).map
      (fun bs => c.outputs.map (V (bs.map V3.ofBool)))) :=
  Except.ok.inj (ht.symm.trans (truthTable_total h V hV))

/-- `get_gates_truth_table()`: the row of every gate = its denotation over all input vectors in counting order -/
theorem c01_gates_truth_table {c : Circuit} (h : WFU c) {gtt : Dict (List V3)} (hg : gatesTruthTable c = .ok gtt)
    (B V : List Bool → Label → Bool)
    (hB : ∀ bs ∈ allInputs c.inputs.length, c.inputs.map (B bs) = bs ∧ IsValB c (B bs) (V bs))
    {l : Label} (hl : l ∈ c.labels) :
    (gtt.get? l).getD [] = (allInputs c.inputs.length).map (fun bs => V3.ofBool (V bs l)) := by
  obtain ⟨V', hrows, -, hV⟩ := gtt_valuations h hg
  obtain ⟨gl, hgl, rfl⟩ := gate_of_label hl
  rw [hrows _ hl]
  refine List.map_congr_left fun bs hbs => ?_
  obtain ⟨e1, e2⟩ := hB bs hbs
  rw [hV _ _ e2 gl hgl, e1]

/-- CNF templates (Tseytin), every type at every accepted arity -/
theorem c01_cnf_templates_denote_bfun (ty : GateType) (top : Int) (lits : List Int) (ht : top ≠ 0)
    (h : ∀ l ∈ lits, l ≠ 0) (hty : ty ≠ GateType.INPUT) (har : arityOk ty lits.length = true) :
    ∃ cls, tsTemplate ty top lits = some cls ∧
      ∀ σ, cnfSat σ cls = true ↔ bfun ty (lits.map (litVal σ)) = some (litVal σ top) :=
  tsTemplate_exact ty top lits ht h hty har

/-- arithmetic generators' `binary_tt_to_type` (regenerated table) -/
theorem c01_arithmetic_gate_codes_denote_bfun {a b c d : Bool} {ty : GateType} (h : Gen.ttType a b c d = some ty) (x y : Bool) :
    bfun ty [x, y] = some (ttApply (a, b, c, d) x y) := ttType_sem h x y

/-- exact synthesis' `_tt_to_gate_type` (regenerated table) -/
theorem c01_synthesis_codes_denote_bfun {a b c d : Bool} {ty : GateType} (h : Gen.synthTtType a b c d = some ty) (x y : Bool) :
    bfun ty [x, y] = some (ttApply (a, b, c, d) x y) := (Synth.synthTtType_spec h).2 x y

/-- subcircuit pattern simulation, bit by bit -/
theorem c01_pattern_simulation_denotes_bfun (k : Nat) (ty : GateType) (ops : List Nat) (p : Nat)
    (h : Pattern.evalPattern k ty ops = .ok p) (hops : ∀ x ∈ ops, x < 2 ^ (2 ^ k)) (har : arityOk ty ops.length = true) :
    p < 2 ^ (2 ^ k) ∧ ∀ i, i < 2 ^ k → bfun ty (Pattern.bitsAt ops i) = some (p.testBit i) :=
  Pattern.evalPattern_sound k ty ops p h hops har

/-- bench conversion: converting any gate (incl. comparison gates reading the same gate twice)
keeps the value of every gate -/
theorem c01_bench_conversion_denotes_bfun {c c1 : Circuit} (hnl : NL c) {g : Gate} (hg : g ∈ c.gates) {k k1 : Nat}
    {b v : Label → Bool} (hv : ValG c.gates b v) (h : c.convertGate g k = .ok (c1, k1)) :
    ∃ v1, ConvRes c c1 g b v v1 := convertGate_sem hnl hg hv h

#print axioms c01_ops_every_arity
#print axioms c01_generated_rows_are_the_model
#print axioms c01_den_exists
#print axioms c01_den_unique
#print axioms c01_den_storage_order
#print axioms c01_evaluate_full_circuit
#print axioms c01_evaluate_circuit
#print axioms c01_evaluate_circuit_returns
#print axioms c01_evaluate
#print axioms c01_evaluate_at
#print axioms c01_truth_table
#print axioms c01_gates_truth_table
#print axioms c01_cnf_templates_denote_bfun
#print axioms c01_arithmetic_gate_codes_denote_bfun
#print axioms c01_synthesis_codes_denote_bfun
#print axioms c01_pattern_simulation_denotes_bfun
#print axioms c01_bench_conversion_denotes_bfun

end Cirbo
