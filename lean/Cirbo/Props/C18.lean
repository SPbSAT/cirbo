import Cirbo.Proofs.PassPipe
import Cirbo.Proofs.MuoPost
import Cirbo.Proofs.MdgPost
import Cirbo.Proofs.MegPost
/-!
# C18 — Simplification passes achieve their stated effect; pipelines equal sequencing

-- OBLIGATION: c18_rrg_exactly_reachable
-- OBLIGATION: c18_rrg_idempotent
-- OBLIGATION: c18_pipeline_is_sequencing
-- OBLIGATION: c18_pipe_operator_is_sequencing
-- OBLIGATION: c18_cleanup_is_sequencing
-- OBLIGATION: c18_mdg_no_two_gates_with_same_signature
-- OBLIGATION: c18_meg_no_two_gates_with_same_truth_table
-- OBLIGATION: c18_muo_no_double_negation
-- OBLIGATION: c18_muo_no_buffer_operand_or_output
-- OBLIGATION: c18_reduction_only_drops_repeated_rrg
-- OBLIGATION: c18_passes_return
-- PARTIAL: every clause is proved for well-formed circuits (the C02 invariant plus accepted arities), which is what every public constructor produces, and the passes are proved to return on them (c18_passes_return); behaviour on malformed circuits is decided by the correspondence only.
-/
namespace Cirbo

/-- `RemoveRedundantGates` returns exactly the gates reachable from the outputs, plus all inputs
unless their removal was requested; every returned gate is a gate of the argument, unchanged. -/
theorem c18_rrg_exactly_reachable {allow : Bool} {c c' : Circuit} (hw : WFS c) (hne : c.gates ≠ [])
    (h : rrg allow c = .ok c') :
    (∀ g ∈ c'.gates, g ∈ c.gates) ∧
    (∀ l, l ∈ c'.labels ↔ Reach c.opsOf c.outputs l ∨ (allow = false ∧ l ∈ c.inputs)) := by
  have s := rrg_spec hw h
  exact ⟨s.sub, s.labels⟩

/-- the only difference between what `apply_transformers` runs and the plain linearisation is the
removal of a `RemoveRedundantGates` directly following an equal one -/
theorem c18_reduction_only_drops_repeated_rrg (t p : Tr) (r : List Tr) :
    reduceIdem (some p) (t :: r) =
      if sameIdem t p then reduceIdem (some p) r else t :: reduceIdem (some t) r := by
  simp [reduceIdem]

/-- applying `RemoveRedundantGates` twice equals applying it once: the second application returns
its argument unchanged (same gates in the same order, same inputs, outputs and users index) -/
theorem c18_rrg_idempotent {allow : Bool} {c c1 : Circuit} (hw : WFS c) (h : rrg allow c = .ok c1) :
    rrg allow c1 = .ok c1 :=
  rrg_idem hw h

/-- applying a list of passes (arbitrarily nested compositions, repeated idempotent passes) =
applying the constituent passes one after another, each merging pass followed by its implied
`RemoveRedundantGates()` -/
theorem c18_pipeline_is_sequencing {c : Circuit} (hw : WFS c) (har : ArOK c) (ts : List Tr) :
    applyTransformers c ts = runSeq (.ok c) (linearize.linearizeList ts) :=
  applyTransformers_eq_seq_wf hw har ts

/-- `t1 | t2` runs `t1`, then `t2` -/
theorem c18_pipe_operator_is_sequencing {c : Circuit} (hw : WFS c) (har : ArOK c) (a b : Tr) :
    applyTransformers c [a.or b] = runSeq (runSeq (.ok c) (linearize a)) (linearize b) := by
  rw [applyTransformers_eq_seq_wf hw har]
  simp only [linearize.linearizeList, List.append_nil]
  exact linearize_or a b _

/-- `cleanup` = RRG, MUO, RRG, MDG, RRG (then MEG, RRG when heavy) -/
theorem c18_cleanup_is_sequencing {c : Circuit} (hw : WFS c) (har : ArOK c) (heavy : Bool) :
    cleanup c heavy = runSeq (.ok c)
      ([.rrg false, .muo, .rrg false, .mdg, .rrg false] ++ (if heavy then [.meg, .rrg false] else [])) := by
  rw [← linearize_cleanup]
  exact applyTransformers_eq_seq_wf hw har _

/-- MergeDuplicateGates (the pass with its implied `RemoveRedundantGates()`): no two non-input gates
of the result have the same type and operands — operands compared up to order for symmetric types,
which is what `signature` (the model of `_build_signature`) does. Before the implied removal the same
holds among the gates the outputs depend on (`mdg_no_duplicates`). -/
theorem c18_mdg_no_two_gates_with_same_signature {c c' c'' : Circuit} (hw : WFS c)
    (h : mdg c = .ok c') (h2 : rrg false c' = .ok c'') :
    ∀ g1 ∈ c''.gates, ∀ g2 ∈ c''.gates, g1.ty ≠ GateType.INPUT → g2.ty ≠ GateType.INPUT →
      signature g1.ty g1.ops = signature g2.ty g2.ops → g1 = g2 :=
  mdg_rrg_no_duplicates hw h h2

/-- MergeEquivalentGates (the pass with its implied `RemoveRedundantGates()`): no two different
non-input gates of the result have the same truth table (stated denotationally: agreeing under every
valuation of the result; `get_gates_truth_table` lists exactly these values, C01). -/
theorem c18_meg_no_two_gates_with_same_truth_table {c c' c'' : Circuit} (hw : WFS c) (har : ArOK c)
    (h : meg c = .ok c') (h2 : rrg false c' = .ok c'') :
    ∀ g1 ∈ c''.gates, ∀ g2 ∈ c''.gates, g1.ty ≠ GateType.INPUT → g2.ty ≠ GateType.INPUT →
      (∀ b v, IsValB c'' b v → v g1.label = v g2.label) → g1 = g2 :=
  meg_rrg_no_equivalent hw har h h2

/-- MergeUnaryOperators (the pass with its implied `RemoveRedundantGates()`), on a circuit whose
unary gates are all negations: no negation in the result has a negation as its operand. -/
theorem c18_muo_no_double_negation {c c' c'' : Circuit} (hw : WFS c)
    (hneg : ∀ g ∈ c.gates, isIffLike g.ty = false)
    (h : muo c = .ok c') (h2 : rrg false c' = .ok c'') :
    ∀ g ∈ c''.gates, isNotLike g.ty = true → ∀ o, unaryOperand g = some o → isNotAt c'' o = false :=
  muo_rrg_no_double_neg hw hneg h h2

/-- MergeUnaryOperators on a circuit whose unary gates are all buffers: no operand of any gate and no
output of the result is a buffer — already before, and still after, the implied removal. -/
theorem c18_muo_no_buffer_operand_or_output {c c' c'' : Circuit} (hw : WFS c)
    (hbuf : ∀ g ∈ c.gates, isNotLike g.ty = false)
    (h : muo c = .ok c') (h2 : rrg false c' = .ok c'') :
    ((∀ g ∈ c'.gates, ∀ o ∈ g.ops, isIffAt c' o = false) ∧ (∀ o ∈ c'.outputs, isIffAt c' o = false)) ∧
    ((∀ g ∈ c''.gates, ∀ o ∈ g.ops, isIffAt c'' o = false) ∧ (∀ o ∈ c''.outputs, isIffAt c'' o = false)) :=
  ⟨muo_no_buffer hw hbuf h, muo_rrg_no_buffer hw hbuf h h2⟩

/-- the passes, the pipelines and cleanup return on every well-formed circuit, so the postconditions
above are statements about every call -/
theorem c18_passes_return {c : Circuit} (hw : WFS c) (har : ArOK c) :
    (∀ a, ∃ c', rrg a c = .ok c') ∧ (∃ c', muo c = .ok c') ∧ (∃ c', mdg c = .ok c') ∧ (∃ c', meg c = .ok c') ∧
    (∀ ts, ∃ c', applyTransformers c ts = .ok c') ∧ (∀ heavy, ∃ c', cleanup c heavy = .ok c') :=
  ⟨fun _ => rrg_total hw, muo_total hw har, mdg_total hw, meg_total hw har,
   fun ts => pipeline_total ts hw har, fun _ => pipeline_total _ hw har⟩

/-! Non-vacuity -/
open GateType in
def c18Example : R Circuit := runOps Circuit.empty
    [.addInputs ["a", "b", "u"], .addGate ⟨"x", AND, ["a", "b"]⟩, .addGate ⟨"d", OR, ["a", "u"]⟩,
     .setOutputs ["x"]]
example : ((c18Example >>= rrg false).toOption.map fun c => c.labels) = some ["b", "a", "x", "u"] := by decide
example : ((c18Example >>= rrg false >>= rrg false).toOption.map fun c => c.labels) = some ["b", "a", "x", "u"] := by decide

#print axioms c18_rrg_exactly_reachable
#print axioms c18_rrg_idempotent
#print axioms c18_pipeline_is_sequencing
#print axioms c18_pipe_operator_is_sequencing
#print axioms c18_cleanup_is_sequencing
#print axioms c18_mdg_no_two_gates_with_same_signature
#print axioms c18_meg_no_two_gates_with_same_truth_table
#print axioms c18_muo_no_double_negation
#print axioms c18_muo_no_buffer_operand_or_output
#print axioms c18_reduction_only_drops_repeated_rrg
#print axioms c18_passes_return

end Cirbo
