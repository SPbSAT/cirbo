import Cirbo.Proofs.BenchTotal
import Cirbo.Proofs.Convert
import Cirbo.Proofs.BenchWfs
/-!
# C14 — Conversion to the bench basis preserves the function

-- OBLIGATION: c14_convert_gate
-- OBLIGATION: c14_into_bench
-- OBLIGATION: c14_into_bench_truth_table
-- OBLIGATION: c14_into_bench_keeps_invariant
-- OBLIGATION: c14_convert_gate_keeps_invariant
-- OBLIGATION: c14_into_bench_returns
-- OBLIGATION: c14_into_bench_no_input_error
-- PARTIAL: total correctness is proved (c14_into_bench_returns: every well-formed circuit with an input, accepted arities and no gate named like one of this run's helper gates is converted; bt_intoBench_ok_iff gives the weakest conditions for the call to return: a circuit without inputs and without constants is converted as well, and only the comparison and L*/R* gates need two operands), and so is the documented GateDoesntExistError for constants in a circuit without inputs (c14_into_bench_no_input_error). "Helper gates stay inside the blocks of the rewritten gate" is proved in the form needed for the invariant (every block still names existing gates; the helper is appended to exactly the blocks that contain the rewritten gate by `addToBlocks`, which the correspondence compares field by field).
-/
namespace Cirbo
open GateType Circuit

/-- **One rewrite** (`convert_gate`): for a gate of a netlist with distinct labels, existing
operands and accepted arities — including comparison gates with identical operands such as
`GT(x, x)`, L*/R* gates, constants with any operands — if the rewrite returns, the valuation of the
original extends to the result, agreeing on every pre-existing gate; interface unchanged; the
netlist stays closed with distinct labels and accepted arities; what it creates is in the bench
basis. -/
theorem c14_convert_gate {c c1 : Circuit} (hnl : NL c) {g : Gate} (hg : g ∈ c.gates) {k k1 : Nat}
    {b v : Label → Bool} (hv : ValG c.gates b v) (h : c.convertGate g k = .ok (c1, k1)) :
    ∃ v1, ConvRes c c1 g b v v1 := convertGate_sem hnl hg hv h

/-- **`into_bench`** (iteration over a snapshot of the gate map, helper gates appended while
iterating): function of every original gate preserved, same inputs and outputs, only
INPUT/NOT/AND/OR/NAND/NOR/XOR/NXOR/buffer gates remain, netlist part of well-formedness kept. -/
theorem c14_into_bench {c c' : Circuit} {k k' : Nat} (hnl : NL c) {b v : Label → Bool}
    (hv : IsValB c b v) (h : c.intoBench k = .ok (c', k')) :
    ∃ v', IsValB c' b v' ∧ (∀ l ∈ c.labels, v' l = v l) ∧ c'.inputs = c.inputs ∧
      c'.outputs = c.outputs ∧ NL c' ∧ (∀ g ∈ c'.gates, benchTy g.ty = true) :=
  intoBench_sem hnl hv h

/-- consequently the value of every output under every input assignment — the truth table — is
unchanged (the outputs are original gates) -/
theorem c14_into_bench_truth_table {c c' : Circuit} {k k' : Nat} (hnl : NL c)
    (houts : ∀ o ∈ c.outputs, o ∈ c.labels) {b v : Label → Bool}
    (hv : IsValB c b v) (h : c.intoBench k = .ok (c', k')) :
    ∃ v', IsValB c' b v' ∧ c'.outputs.map v' = c.outputs.map v := by
  obtain ⟨v', a1, a2, _, a4, _, _⟩ := intoBench_sem hnl hv h
  refine ⟨v', a1, ?_⟩
  rw [a4]
  exact List.map_congr_left (fun o ho => a2 o (houts o ho))

/-! Non-vacuity: a run on a circuit with `GT(x, x)`, an L-gate and a constant with operands -/
def exCv : Circuit :=
  { gates := [⟨"x", INPUT, []⟩, ⟨"g", GT, ["x", "x"]⟩, ⟨"l", LNOT, ["g", "x"]⟩, ⟨"t", ALWAYS_TRUE, ["l", "g"]⟩],
    inputs := ["x"], outputs := ["t", "l"],
    users := [("x", ["g", "g", "l"]), ("g", ["l", "t"]), ("l", ["t"])], blocks := [] }
example : NL exCv := ⟨by decide, by decide, by decide⟩
example : ((exCv.intoBench 0).toOption.map (fun p => p.1.gates.map (fun g => (g.label, g.ty.name, g.ops)))) =
    some [("x", "INPUT", []), ("g", "AND", ["x", "new_gate_GT_for_g00000000000000000000000000000000"]),
      ("l", "NOT", ["g"]), ("t", "OR", ["x", "new_gate_ALWAYS_TRUE_for_t00000000000000000000000000000001"]),
      ("new_gate_GT_for_g00000000000000000000000000000000", "NOT", ["x"]),
      ("new_gate_ALWAYS_TRUE_for_t00000000000000000000000000000001", "NOT", ["x"])] := by decide

/-- **`into_bench` keeps the circuit well formed**: for every circuit satisfying the C02 invariant with
accepted arities, whenever the conversion returns, the result satisfies the invariant again — operands
and outputs exist, the users index is exactly the inverse operand multiset after the converters' manual
`_remove_user` / `_add_user` edits, the inputs are unchanged, the graph is acyclic (a rank is
constructed for every rewrite) and every block names existing gates. -/
theorem c14_into_bench_keeps_invariant {c c' : Circuit} {k k' : Nat} (hw : WFS c)
    (har : ∀ g ∈ c.gates, g.ty ≠ INPUT → arityOk g.ty g.ops.length = true)
    (h : c.intoBench k = .ok (c', k')) : WFS c' :=
  intoBench_wfs_bin hw (fun g hg => bin_exact (har g hg)) h

/-- the same for a single `convert_gate` call, and the other gates are left alone -/
theorem c14_convert_gate_keeps_invariant {c c1 : Circuit} {g : Gate} {k k1 : Nat} (hw : WFS c) (hg : g ∈ c.gates)
    (har : g.ty ≠ INPUT → arityOk g.ty g.ops.length = true) (h : c.convertGate g k = .ok (c1, k1)) :
    WFS c1 ∧ ∀ g2 ∈ c.gates, g2.label ≠ g.label → g2 ∈ c1.gates :=
  ⟨convertGate_wfs_bin hw hg (bin_exact har) h, convertGate_stay h⟩

#print axioms c14_convert_gate
#print axioms c14_into_bench
#print axioms c14_into_bench_truth_table
#print axioms c14_into_bench_keeps_invariant
#print axioms c14_convert_gate_keeps_invariant

/-- **`into_bench` converts every circuit with at least one input** (total correctness): for a well-formed circuit
with an input, accepted arities and no gate named like a helper gate this run draws (`bt_drawn`: the labels
`new_gate_<TYPE>_for_<label><uuid>` of the comparison gates and constants, in storage order), the call returns, the
result is well formed, has the same inputs and outputs, only bench types, and every valuation extends -/
theorem c14_into_bench_returns {c : Circuit} {ctr : Nat} (hw : WFS c) (hin : c.inputs ≠ [])
    (har : ∀ g ∈ c.gates, g.ty ≠ GateType.INPUT → arityOk g.ty g.ops.length = true)
    (hfr : ∀ l ∈ bt_drawn c.gates ctr, l ∉ c.labels) :
    ∃ c' ctr', c.intoBench ctr = .ok (c', ctr') ∧ WFS c' ∧
      ∀ b v, IsValB c b v → ∃ v', IsValB c' b v' ∧ (∀ l ∈ c.labels, v' l = v l) ∧ c'.inputs = c.inputs ∧
        c'.outputs = c.outputs ∧ NL c' ∧ (∀ g ∈ c'.gates, benchTy g.ty = true) :=
  bt_intoBench_total_correct hw hin har hfr

/-- the documented refusal: no input and a constant gate -/
theorem c14_into_bench_no_input_error {c : Circuit} {ctr : Nat} (hw : WFS c) (hin : c.inputs = [])
    (hconst : ∃ g ∈ c.gates, g.ty = GateType.ALWAYS_TRUE ∨ g.ty = GateType.ALWAYS_FALSE)
    (har : ∀ g ∈ c.gates, bt_isBin g.ty = true → 2 ≤ g.ops.length)
    (hfr : ∀ l ∈ bt_drawn c.gates ctr, l ∉ c.labels) :
    c.intoBench ctr = .error "GateDoesntExistError" := bt_intoBench_noInput_error hw hin hconst har hfr

#print axioms c14_into_bench_returns
#print axioms c14_into_bench_no_input_error

end Cirbo
