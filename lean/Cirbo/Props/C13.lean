import Cirbo.Proofs.Connect
import Cirbo.Model.Miter
import Cirbo.Proofs.MiterFull
import Cirbo.Proofs.MiterTotal
/-!
# C13 — A miter is true exactly where the two circuits differ

-- OBLIGATION: c13_comparison_stage
-- OBLIGATION: c13_operands_keep_their_function
-- OBLIGATION: c13_shape_error
-- OBLIGATION: c13_miter_correct
-- OBLIGATION: c13_miter_true_iff_operands_differ
-- OBLIGATION: c13_build_miter_returns
-- PARTIAL: every clause has a theorem on the model: the end-to-end theorem for well-formed operands and non-empty block names (whenever build_miter returns), the shape error, and that it DOES return on operands of equal shape with the default block names (c13_build_miter_returns: each of the three connections meets the preconditions of the left-connection totality theorem — copy labels and block names stay apart because the prefixes circuit_left@ / circuit_right@ / pairwise_xor@ differ in a fixed position, generate_pairwise_xor's labels are pairwise distinct by injectivity of the decimal representation). 'Building it leaves both operands unmodified' is decided by the correspondence (Lean values cannot alias; the harness compares the operands before and after).
-/
namespace Cirbo
open GateType Circuit

/-- the comparison stage, for any number of outputs m ≥ 1 **including m = 1**: with gates
`x_i = XOR(l_i, r_i)` and the final gate over them (OR for m ≥ 2, buffer for m = 1), the miter
output is True exactly when some pair differs -/
theorem c13_comparison_stage {c : Circuit} {b v : Label → Bool} (hv : IsValB c b v)
    (ps : List (Label × Label × Label)) (out : Label)
    (hx : ∀ p ∈ ps, (⟨p.1, XOR, [p.2.1, p.2.2]⟩ : Gate) ∈ c.gates)
    (hout : (⟨out, if ps.length = 1 then IFF else OR, ps.map (·.1)⟩ : Gate) ∈ c.gates)
    (hm : 1 ≤ ps.length) :
    v out = true ↔ ∃ p ∈ ps, v p.2.1 ≠ v p.2.2 := miter_stage hv ps out hx hout hm

/-- every composition step of the miter is a left connection, which keeps the function of every
gate already present (so the left circuit's gates, once added, keep their values while the right
circuit and the xor stage are attached) -/
theorem c13_operands_keep_their_function {c other c' : Circuit} {thisC otherC : List Label} {name : Label}
    {addP : Bool} (h : c.connectCircuit other thisC otherC false name addP = .ok c')
    (hcl : ∀ g ∈ c.gates, ∀ o ∈ g.ops, o ∈ c.labels)
    (har : ∀ g ∈ other.gates, if g.ty = INPUT then True else arityOk g.ty g.ops.length = true)
    {b v : Label → Bool} (hv : IsValB c b v) :
    ∃ b' v', IsValB c' b' v' ∧ (∀ l ∈ c.labels, v' l = v l) ∧ (∀ l ∈ c.labels, b' l = b l) ∧
      (∀ l ∈ c.labels, l ∈ c'.labels) := connect_left_frame h hcl har hv

/-- mismatched shapes are rejected with the dedicated error and nothing else -/
theorem c13_shape_error (l r : Circuit) (ln rn : Label)
    (h : l.inputs.length ≠ r.inputs.length ∨ l.outputs.length ≠ r.outputs.length) :
    buildMiter l r ln rn = .error "MiterDifferentShapesError" := by
  unfold buildMiter
  have : (l.inputs.length != r.inputs.length || l.outputs.length != r.outputs.length) = true := by
    rcases h with h | h <;> simp [h]
  simp [this]

/-- **The miter, end to end.** For well-formed operands, whenever `build_miter` returns: the result has
the left operand's inputs (renamed by `φ0`) in the left operand's order — hence as many inputs — and
the single output `big_or`; every valuation of the miter restricts (through `φ0`, `φ1`) to a valuation
of the left operand and a valuation of the right operand that receive the same input values position
by position; and, with at least one output (a single output included), `big_or` is True exactly when
the two output vectors differ. -/
theorem c13_miter_correct {left right m : Circuit} {ln rn : Label} (hwl : WFG left) (hwr : WFG right)
    (hli : ∀ i ∈ left.inputs, ∃ g ∈ left.gates, g.label = i ∧ g.ty = INPUT)
    (hln : ln ≠ "") (hrn : rn ≠ "") (h : buildMiter left right ln rn = .ok m) :
    ∃ φ0 φ1 : Label → Label,
      m.inputs = left.inputs.map φ0 ∧ m.outputs = ["big_or"] ∧
      ∀ b v, IsValB m b v →
        IsValB left (v ∘ φ0) (v ∘ φ0) ∧ IsValB right (v ∘ φ1) (v ∘ φ1) ∧
        right.inputs.map (v ∘ φ1) = left.inputs.map (v ∘ φ0) ∧
        (1 ≤ left.outputs.length →
          (v "big_or" = true ↔ left.outputs.map (v ∘ φ0) ≠ right.outputs.map (v ∘ φ1))) :=
  miter_correct hwl hwr hli hln hrn h

/-- the same against the operands' own denotations: for any valuations `vL`, `vR` of the operands that
agree, position by position, with the values the miter's valuation gives its inputs, the miter's output
is True exactly when `vL` and `vR` give different output vectors (so the miter is satisfiable exactly
when the operands are not equivalent). Uses uniqueness of denotations (C01). -/
theorem c13_miter_true_iff_operands_differ {left right m : Circuit} {ln rn : Label}
    (hwl : WFU left) (hwr : WFU right) (hln : ln ≠ "") (hrn : rn ≠ "")
    (h : buildMiter left right ln rn = .ok m) (hn : 1 ≤ left.outputs.length)
    {b v : Label → Bool} (hv : IsValB m b v)
    {bL vL bR vR : Label → Bool} (hL : IsValB left bL vL) (hR : IsValB right bR vR)
    (hinL : left.inputs.map bL = m.inputs.map v) (hinR : right.inputs.map bR = m.inputs.map v) :
    (v "big_or" = true ↔ left.outputs.map vL ≠ right.outputs.map vR) := by
  obtain ⟨φ0, φ1, him, _, hall⟩ := miter_correct hwl.toWFG hwr.toWFG (fun i hi => (hwl.inputsOK i).mp hi) hln hrn h
  obtain ⟨h0, h1, hconn, hiff⟩ := hall b v hv
  -- the restrictions are the operands' denotations under the same inputs
  rw [hiff hn, outputs_map_congr hwl.outputsOK (valB_unique_of_inputs hwl.closed hwl.rank hwl.inputsOK h0 hL (by rw [hinL, him, List.map_map])),
    outputs_map_congr hwr.outputsOK (valB_unique_of_inputs hwr.closed hwr.rank hwr.inputsOK h1 hR (by rw [hconn, hinR, him, List.map_map]))]

/-- **`build_miter` returns** on any two operands of equal shape that satisfy the invariant, have distinct
block names and block outputs that exist — with the default block names `circuit_left` /
`circuit_right` (any names that, with `pairwise_xor` and `big_or`, are pairwise `Apart` do) -/
theorem c13_build_miter_returns {left right : Circuit} (hL : MiterOperand left) (hR : MiterOperand right)
    (hi : left.inputs.length = right.inputs.length) (ho : left.outputs.length = right.outputs.length) :
    ∃ m, buildMiter left right "circuit_left" "circuit_right" = .ok m :=
  buildMiter_total miterNames_default hL hR hi ho

#print axioms c13_comparison_stage
#print axioms c13_operands_keep_their_function
#print axioms c13_shape_error
#print axioms c13_miter_correct
#print axioms c13_miter_true_iff_operands_differ
#print axioms c13_build_miter_returns

end Cirbo
