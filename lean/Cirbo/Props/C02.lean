import Cirbo.Proofs.Mutate
import Cirbo.Proofs.MoreOps
import Cirbo.Proofs.Histories
import Cirbo.Proofs.RemoveGate
/-!
# C02 — Circuits stay well formed under every history of public mutations

-- OBLIGATION: c02_step_invariant
-- OBLIGATION: c02_history_invariant
-- OBLIGATION: c02_history_from_empty
-- OBLIGATION: c02_topological_iteration_after_history
-- OBLIGATION: c02_remove_gate_invariant
-- OBLIGATION: c02_history_with_removals
-- OBLIGATION: c02_copy_invariant
-- OBLIGATION: c02_make_block_from_slice_invariant
-- OBLIGATION: c02_left_connection_invariant
-- OBLIGATION: c02_rename_gate_invariant
-- OBLIGATION: c02_remove_block_invariant
-- OBLIGATION: c02_history_extended
-- OBLIGATION: c02_right_connection_invariant
-- OBLIGATION: c02_replace_subcircuit_invariant
-- PARTIAL: the invariant theorem covers add_gate/emplace_gate, add_inputs, mark_as_output, set_outputs, set_inputs, order_inputs, order_outputs, replace_inputs, make_block, delete_block, remove_gate, remove_block, rename_gate, copy, make_block_from_slice and every connection in either direction (connect_circuit, connect_left, connect_right, connect_inputs, extend_circuit, add_circuit; for the right direction the loop invariant is the C02 invariant of the circuit with its input list recomputed, because the stored list names already-replaced inputs until the final set_inputs) — and into_bench (C14: c14_into_bench_keeps_invariant). replace_subcircuit is covered too (c02_replace_subcircuit_invariant, and as a history step in c02_history_extended) — its proof needs the final cycle check to walk the whole graph, which is what the fix 4cd9e3a made it do. "A copy is equal to its original" and "shares no mutable state" are correspondence-only (Lean values cannot alias).
-/
namespace Cirbo

/-- one public call (valid arguments, returning normally) preserves every clause of the property:
operands/outputs exist, users index = inverse operand multiset, input list = INPUT gates each once,
acyclic, block labels exist -/
theorem c02_step_invariant {c c' : Circuit} {op : MOp} (hw : WFS c) (hv : op.valid)
    (h : runOp c op = .ok c') : WFS c' := runOp_wfs hw hv h

/-- **every finite history** of such calls, from any well-formed starting circuit -/
theorem c02_history_invariant (ops : List MOp) {c c' : Circuit} (hw : WFS c)
    (hv : ∀ op ∈ ops, op.valid) (h : runOps c ops = .ok c') : WFS c' := runOps_wfs ops hw hv h

/-- in particular every circuit built from scratch -/
theorem c02_history_from_empty (ops : List MOp) {c' : Circuit} (hv : ∀ op ∈ ops, op.valid)
    (h : runOps Circuit.empty ops = .ok c') : WFS c' := runOps_wfs ops wfs_empty hv h

/-- on every state such a history reaches, topological iteration in both directions yields every gate exactly
once in dependency order (C20's theorems need exactly this part of the invariant) -/
theorem c02_topological_iteration_after_history (ops : List MOp) {c c' : Circuit} (hw : WFS c)
    (hv : ∀ op ∈ ops, op.valid) (h : runOps c ops = .ok c') :
    (∃ order, c'.topSort true = .ok order ∧ order.Perm c'.labels ∧
      ∀ pre l post, order = pre ++ l :: post → ∀ g ∈ c'.gates, g.label = l → ∀ o ∈ g.ops, o ∈ pre) ∧
    (∃ order, c'.topSort false = .ok order ∧ order.Perm c'.labels ∧
      ∀ pre l post, order = pre ++ l :: post → ∀ u ∈ c'.usersOf l, u ∈ pre) := by
  have hw' := (runOps_wfs ops hw hv h).toWFG
  exact ⟨topSort_inv_spec hw', topSort_dir_spec hw'⟩

/-- `remove_gate` (of a gate without users) keeps every clause, incl. the users index and the blocks
(blocks listing the gate as member, input or output are dropped) -/
theorem c02_remove_gate_invariant {c c' : Circuit} {l : Label} (hw : WFS c) (h : c.removeGate l = .ok c') : WFS c' :=
  removeGate_wfs hw h

/-- histories that mix the calls above with gate removals -/
theorem c02_history_with_removals (ops : List HOp) {c c' : Circuit} (hw : WFS c)
    (hv : ∀ op ∈ ops, op.valid) (h : runHOps c ops = .ok c') : WFS c' :=
  runs_inv (fun _ => rfl) (fun c op _ => by rw [runHOps]; cases runHOp c op <;> rfl) runHOp_wfs ops hw hv h

/-- `copy.copy(circuit)` of a well-formed circuit is well formed -/
theorem c02_copy_invariant {c c' : Circuit} (hw : WFS c) (h : c.copy = .ok c') : WFS c' := copy_wfs hw h

/-- `make_block_from_slice` keeps every clause -/
theorem c02_make_block_from_slice_invariant {c c' : Circuit} {name : Label} {ins outs : List Label} (hw : WFS c)
    (h : c.makeBlockFromSlice name ins outs = .ok c') : WFS c' := makeBlockFromSlice_wfs hw h

/-- connecting, extending by, or adding a well-formed circuit on the left keeps every clause (gates,
users index, inputs, acyclicity, and the blocks: copied blocks and the new block name existing gates) -/
theorem c02_left_connection_invariant {c other c' : Circuit} {thisC otherC : List Label} {name : Label} {addP : Bool}
    (hw : WFS c) (hwo : WFS other) (h : c.connectCircuit other thisC otherC false name addP = .ok c') : WFS c' :=
  connect_wfs hw hwo h

/-- `rename_gate` keeps every clause (see C19 for what it does to each reference) -/
theorem c02_rename_gate_invariant {c c' : Circuit} {old new : Label} (hw : WFS c)
    (h : c.renameGate old new = .ok c') : WFS c' := renameGate_wfs hw h

/-- `remove_block` (a block none of whose gates is used from outside) removes all its gates at once and
keeps every clause: the intermediate states of the loop over `_remove_gate` are not well formed, the
final one is -/
theorem c02_remove_block_invariant {c c' : Circuit} {name : Label} (hw : WFS c)
    (h : c.removeBlock name = .ok c') : WFS c' := removeBlock_wfs hw h

/-- every right connection (`connect_circuit(right_connect=True)`, `connect_right`, `connect_inputs`,
`extend_circuit(right_connect=True)`) of two circuits satisfying the invariant yields one that
satisfies it: the fed inputs become gates, are registered as users of their operands and leave the
input list; nothing else changes -/
theorem c02_right_connection_invariant {c other c' : Circuit} {thisC otherC : List Label} {name : Label}
    {addP : Bool} (hw : WFS c) (hwo : WFS other)
    (h : c.connectCircuit other thisC otherC true name addP = .ok c') : WFS c' := connect_wfs hw hwo h

/-- `replace_subcircuit` (any replacement circuit satisfying the invariant, mappings with distinct
keys, any uuid for the temporary block): whenever it returns, the invariant holds -/
theorem c02_replace_subcircuit_invariant {c sub c' : Circuit} {im om : List (Label × Label)} {uuid k' : Nat}
    (hw : WFS c) (hs : WFS sub) (hik : (im.map (·.1)).Nodup) (hok : (om.map (·.1)).Nodup)
    (h : c.replaceSubcircuit sub im om uuid = .ok (c', k')) : WFS c' :=
  replaceSubcircuit_wfs hw hs hik hok h

/-- histories over the extended set of calls -/
theorem c02_history_extended (ops : List XOp) {c c' : Circuit} (hw : WFS c)
    (hv : ∀ op ∈ ops, op.valid) (h : runXOps c ops = .ok c') : WFS c' :=
  runs_inv (fun _ => rfl) (fun c op _ => by rw [runXOps]; cases runXOp c op <;> rfl) runXOp_wfs ops hw hv h

/-! Non-vacuity: a concrete history from the empty circuit -/
open GateType in
example : ∃ c', runOps Circuit.empty
    [.addInputs ["a", "b"], .addGate ⟨"x", AND, ["a", "b", "a"]⟩, .addGate ⟨"y", NOT, ["x"]⟩,
     .setOutputs ["y", "a"], .orderInputs ["b"], .replaceInputs ["b"] [], .makeBlock "B" ["x", "y"] ["y"] none] = .ok c' ∧
    c'.inputs = ["a"] ∧ c'.usersOf "a" = ["x", "x"] := ⟨_, rfl, by decide, by decide⟩

#print axioms c02_step_invariant
#print axioms c02_history_invariant
#print axioms c02_history_from_empty
#print axioms c02_topological_iteration_after_history
#print axioms c02_remove_gate_invariant
#print axioms c02_history_with_removals
#print axioms c02_copy_invariant
#print axioms c02_make_block_from_slice_invariant
#print axioms c02_left_connection_invariant
#print axioms c02_rename_gate_invariant
#print axioms c02_remove_block_invariant
#print axioms c02_history_extended
#print axioms c02_right_connection_invariant
#print axioms c02_replace_subcircuit_invariant

end Cirbo
