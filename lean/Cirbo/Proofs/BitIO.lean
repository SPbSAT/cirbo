import Cirbo.Model.BitIO
/-! # The bit-level writer and reader (C16): bits are packed LSB-first and found again at their position (`readBit_pack`) -/
namespace Cirbo

theorem numBits_succ (k w : Nat) : numBits k (w + 1) = k.testBit 0 :: numBits (k / 2) w := by
  unfold numBits
  rw [List.range_succ_eq_map]
  simp only [List.map_cons, List.map_map]
  congr 1
  apply List.map_congr_left
  intro i _
  simp [Nat.testBit_succ]

theorem ofBits_numBits (w : Nat) : ∀ k, k < 2 ^ w → ofBits (numBits k w) = k := by
  induction w with
  | zero => intro k hk; simp at hk; subst hk; rfl
  | succ w ih =>
    intro k hk
    rw [numBits_succ]
    simp only [ofBits]
    have h2 : k / 2 < 2 ^ w := by
      rw [Nat.pow_succ] at hk; omega
    rw [ih _ h2]
    have : (if k.testBit 0 then 1 else 0) = k % 2 := by
      rw [Nat.testBit_zero]
      by_cases h : k % 2 = 1 <;> simp [h]
      omega
    rw [this]; omega

theorem numBits_length (k w : Nat) : (numBits k w).length = w := by simp [numBits]

theorem writeNumber_some (k w : Nat) (h : k < 2 ^ w) : writeNumber k w = some (numBits k w) := by
  unfold writeNumber
  have : k >>> w = 0 := by rw [Nat.shiftRight_eq_div_pow]; exact Nat.div_eq_of_lt h
  simp [this]

theorem writeNumber_none (k w : Nat) (h : 2 ^ w ≤ k) : writeNumber k w = none := by
  unfold writeNumber
  have : k >>> w ≠ 0 := by
    rw [Nat.shiftRight_eq_div_pow]
    have := Nat.div_pos h (Nat.two_pow_pos w); omega
  simp [this]

theorem testBit_ofBits : ∀ (l : List Bool) (i : Nat), (ofBits l).testBit i = l.getD i false := by
  intro l
  induction l with
  | nil => intro i; simp [ofBits]
  | cons b r ih =>
    intro i
    cases i with
    | zero =>
      simp only [ofBits, Nat.testBit_zero, List.getD_cons_zero]
      cases b <;> simp <;> omega
    | succ i =>
      simp only [ofBits, Nat.testBit_succ, List.getD_cons_succ]
      have : ((if b then 1 else 0) + 2 * ofBits r) / 2 = ofBits r := by cases b <;> simp <;> omega
      rw [this, ih]

theorem readBit_cons_lt (x : Nat) (rest : List Nat) (pos : Nat) (h : pos < 8) :
    readBit (x :: rest) pos = some (x.testBit pos) := by
  unfold readBit
  have h1 : pos / 8 = 0 := by omega
  have h2 : pos % 8 = pos := by omega
  simp [h1, h2]

theorem readBit_cons_ge (x : Nat) (rest : List Nat) (pos : Nat) (h : 8 ≤ pos) :
    readBit (x :: rest) pos = readBit rest (pos - 8) := by
  unfold readBit
  have h1 : pos / 8 = (pos - 8) / 8 + 1 := by omega
  have h2 : pos % 8 = (pos - 8) % 8 := by omega
  simp [h1, h2]

theorem readBit_pack : ∀ (bits : List Bool) pos (h : pos < bits.length),
    readBit (packBytes bits) pos = some bits[pos] := by
  intro bits
  induction bits using packBytes.induct with
  | case1 => intro pos h; simp at h
  | case2 b r ih =>
    intro pos h
    rw [packBytes]
    by_cases hp : pos < 8
    · rw [readBit_cons_lt _ _ _ hp, testBit_ofBits]
      congr 1
      rw [List.getD_eq_getElem?_getD, List.getElem?_take]
      simp only [hp, if_true]
      rw [List.getElem?_eq_getElem h]; rfl
    · have hp' : 8 ≤ pos := by omega
      rw [readBit_cons_ge _ _ _ hp']
      have hpos : pos - 8 < (r.drop 7).length := by simp [List.length_drop] at h ⊢; omega
      rw [ih (pos - 8) hpos]
      congr 1
      simp only [List.getElem_drop]
      conv => rhs; rw [List.getElem_cons (i := pos)]
      simp [show pos ≠ 0 by omega]
      congr 1; omega

theorem packBytes_length : ∀ (n : Nat) (bits : List Bool), bits.length ≤ n →
    (packBytes bits).length = (bits.length + 7) / 8 := by
  intro n bits hl
  clear hl
  induction bits using packBytes.induct with
  | case1 => simp [packBytes]
  | case2 b r ih =>
    rw [packBytes]
    simp only [List.length_cons, ih, List.length_drop]
    omega

theorem readBits_pack (pre mid post : List Bool) :
    readBits (packBytes (pre ++ mid ++ post)) pre.length mid.length = some mid := by
  induction mid generalizing pre with
  | nil => rfl
  | cons b r ih =>
    simp only [List.length_cons, readBits]
    have hpos : pre.length < (pre ++ b :: r ++ post).length := by simp
    rw [readBit_pack _ _ hpos]
    have hb : (pre ++ b :: r ++ post)[pre.length] = b := by simp
    have := ih (pre ++ [b])
    simp only [List.append_assoc, List.singleton_append, List.length_append, List.length_singleton] at this
    simp only [List.append_assoc, List.cons_append] at hb this ⊢
    rw [this]; simp [hb]

theorem readNumber_roundtrip (pre post : List Bool) (k w : Nat) (h : k < 2 ^ w) :
    readNumber (packBytes (pre ++ numBits k w ++ post)) pre.length w = some (k, pre.length + w) := by
  unfold readNumber
  have := readBits_pack pre (numBits k w) post
  rw [numBits_length] at this
  rw [this]; simp [ofBits_numBits w k h]

end Cirbo
