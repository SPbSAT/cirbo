import Cirbo.Proofs.Func
/-!
# `is_symmetric`, `is_symmetric_at`, `find_negations_to_make_symmetric` against the weight-based
definition, and `PyFunction.is_monotone` against the per-output one (C12)
-/
namespace Cirbo
namespace FRep

def weight (x : List Bool) : Nat := x.count true

/-- the indicator vector of an index set over the window `[start, start+len)` -/
def ind (start len : Nat) (idxs : List Nat) : List Bool := (List.range' start len).map (fun i => idxs.contains i)

theorem combos_lb (len start k : Nat) : ∀ idxs ∈ combos len start k, ∀ i ∈ idxs, start ≤ i := by
  induction len, start, k using combos.induct with
  | case1 => simp [combos]
  | case2 => simp [combos]
  | case3 len start k ih1 ih2 =>
    simp only [combos, List.mem_append, List.mem_map]
    rintro _ (⟨t, ht, rfl⟩ | h) i hi
    · rcases List.mem_cons.mp hi with rfl | hi
      · exact Nat.le_refl _
      · exact Nat.le_of_succ_le (ih1 t ht i hi)
    · exact Nat.le_of_succ_le (ih2 _ h i hi)

theorem ind_succ (start len : Nat) (idxs : List Nat) :
    ind start (len + 1) idxs = idxs.contains start :: ind (start + 1) len idxs := by
  simp [ind, List.range'_succ]

theorem ind_cons_lt {start j : Nat} (h : j < start) (len : Nat) (t : List Nat) :
    ind start len (j :: t) = ind start len t := by
  refine List.map_congr_left fun i hi => ?_
  have : i ≠ j := by have := (List.mem_range'_1.mp hi).1; omega
  simp [this]

theorem cons_mem_map_cons {b c : Bool} {x : List Bool} {L : List (List Bool)} :
    b :: x ∈ L.map (c :: ·) ↔ c = b ∧ x ∈ L := by
  simp only [List.mem_map, List.cons.injEq]
  exact ⟨fun ⟨_, ha, hc, hx⟩ => ⟨hc, hx ▸ ha⟩, fun ⟨hc, hx⟩ => ⟨x, hx, hc, rfl⟩⟩

/-- `itertools.combinations` enumerates exactly the index sets of the vectors of a given weight -/
theorem mem_combos_ind (len start k : Nat) : ∀ x : List Bool,
    x ∈ (combos len start k).map (ind start len) ↔ x.length = len ∧ weight x = k := by
  induction len, start, k using combos.induct with
  | case1 len start => simp [combos, ind, weight, List.map_const', List.eq_replicate_iff, List.count_eq_zero]
  | case2 start k =>
    intro x
    simp [combos, weight]
    rintro rfl; simp
  | case3 len start k ih1 ih2 =>
    -- the combinations containing `start` come first, then those that do not
    have e : (combos (len + 1) start (k + 1)).map (ind start (len + 1)) =
        ((combos len (start + 1) k).map (ind (start + 1) len)).map (true :: ·) ++
        ((combos len (start + 1) (k + 1)).map (ind (start + 1) len)).map (false :: ·) := by
      simp only [combos, List.map_append, List.map_map]
      congr 1 <;> refine List.map_congr_left fun t ht => ?_
      · simp [ind_succ, ind_cons_lt]
      · simpa [ind_succ] using fun h => Nat.lt_irrefl _ (combos_lb _ _ _ t ht start h)
    intro x
    rw [e]
    cases x with
    | nil => simp
    | cons b x' =>
      simp only [List.mem_append, cons_mem_map_cons, ih1, ih2]
      cases b <;> simp [weight]

/-- the input vector `y` with the positions marked in `neg` negated, at length `n` -/
def xorNeg (n : Nat) (neg y : List Bool) : List Bool :=
  (List.range n).map (fun i => xor (y.getD i false) (neg.getD i false))

theorem ind_getD (n : Nat) (idxs : List Nat) (i : Nat) (hi : i < n) : (ind 0 n idxs).getD i false = idxs.contains i := by
  simp [ind, List.getD_eq_getElem?_getD, List.getElem?_map, List.getElem?_range' hi]

theorem fixedSum_eq (n k : Nat) (neg : List Bool) :
    fixedSum n k neg = ((combos n 0 k).map (ind 0 n)).map (xorNeg n neg) := by
  rw [List.map_map]
  refine List.map_congr_left fun idxs _ => List.map_congr_left fun i hi => ?_
  rw [ind_getD n idxs i (List.mem_range.mp hi)]

theorem mem_fixedSum (n k : Nat) (neg x : List Bool) :
    x ∈ fixedSum n k neg ↔ ∃ y, y.length = n ∧ weight y = k ∧ x = xorNeg n neg y := by
  simp only [fixedSum_eq, List.mem_map (f := xorNeg n neg), mem_combos_ind, and_assoc, eq_comm]

theorem xorNeg_nil {n : Nat} {y : List Bool} (h : y.length = n) : xorNeg n [] y = y := by
  subst h
  refine List.ext_getElem (by simp [xorNeg]) fun i h1 h2 => ?_
  simp [xorNeg, List.getD_eq_getElem?_getD, List.getElem?_eq_getElem h2]

theorem symOn_iff (F : FRep) (neg : List Bool) (proj : List Bool → List Bool) :
    F.symOn neg proj = true ↔ ∀ y1 y2 : List Bool, y1.length = F.n → y2.length = F.n → weight y1 = weight y2 →
      proj (F.ev (xorNeg F.n neg y1)) = proj (F.ev (xorNeg F.n neg y2)) := by
  have hk : ∀ k, _ ↔ _ := fun k => all_eq_first_iff (fun x => proj (F.ev x)) (fixedSum F.n k neg)
  simp only [symOn, List.all_eq_true, List.mem_range]
  constructor
  · intro h y1 y2 h1 h2 hw
    exact (hk _).mp (h (weight y1) (Nat.lt_succ_of_le (h1 ▸ List.count_le_length)))
      _ ((mem_fixedSum ..).mpr ⟨y1, h1, rfl, rfl⟩) _ ((mem_fixedSum ..).mpr ⟨y2, h2, hw.symm, rfl⟩)
  · intro h k _
    refine (hk k).mpr fun a ha b hb => ?_
    obtain ⟨y1, h1, w1, rfl⟩ := (mem_fixedSum ..).mp ha
    obtain ⟨y2, h2, w2, rfl⟩ := (mem_fixedSum ..).mp hb
    exact h y1 y2 h1 h2 (w1.trans w2.symm)

theorem symOn_nil_iff (F : FRep) (proj : List Bool → List Bool) :
    F.symOn [] proj = true ↔ ∀ x y : List Bool, x.length = F.n → y.length = F.n → weight x = weight y →
      proj (F.ev x) = proj (F.ev y) := by
  rw [symOn_iff]
  refine forall_congr' fun x => forall_congr' fun y => forall_congr' fun hx => forall_congr' fun hy => ?_
  rw [xorNeg_nil hx, xorNeg_nil hy]

theorem sortedRow_cons_cons (inv a b : Bool) (l : List Bool) :
    SortedRow inv (a :: b :: l) ↔ (a ≠ inv → b ≠ inv) ∧ SortedRow inv (b :: l) := by
  simp only [SortedRow, List.forall_mem_cons]
  exact ⟨fun ⟨h1, h2⟩ => ⟨fun ha => (h1 ha).1, h2⟩, fun ⟨h1, h2⟩ => ⟨fun ha => ⟨h1 ha, h2.1 (h1 ha)⟩, h2⟩⟩

theorem pairwiseLe_iff (inv : Bool) (m : Nat) (p q : List Bool) (hp : p.length = m) (hq : q.length = m) :
    pairwiseLe inv p q = true ↔ ∀ o, o < m → (p.getD o false ≠ inv → q.getD o false ≠ inv) := by
  have hbit : ∀ x y : Bool, ¬ (if inv then (y && !x) else (!y && x)) = true ↔ (x ≠ inv → y ≠ inv) := by
    cases inv <;> decide
  subst hp
  simp only [pairwiseLe, Bool.not_eq_true', List.any_eq_false, List.forall_mem_iff_forall_getElem, List.length_zip, hq,
    Nat.min_self, List.getElem_zip, hbit]
  refine forall_congr' fun o => forall_congr' fun ho => ?_
  rw [List.getD_eq_getElem?_getD, List.getD_eq_getElem?_getD, List.getElem?_eq_getElem ho,
    List.getElem?_eq_getElem (hq ▸ ho)]
  rfl

/-- comparing neighbouring output vectors componentwise is, output by output, the row being sorted:
the order on `{inv, ¬inv}` is transitive -/
theorem consecScan_iff (F : FRep) (inv : Bool) (hlen : ∀ x, (F.ev x).length = F.m) (r : List (List Bool)) :
    ∀ x0, consecScan inv (F.ev x0) (r.map F.ev) = true ↔
      ∀ o, o < F.m → SortedRow inv ((x0 :: r).map (fun x => F.evAt x o)) := by
  induction r with
  | nil => simp [consecScan, SortedRow]
  | cons x1 r ih =>
    intro x0
    simp only [List.map_cons, consecScan, sortedRow_cons_cons, Bool.if_false_right, Bool.and_eq_true,
      decide_eq_true_eq, pairwiseLe_iff inv F.m _ _ (hlen x0) (hlen x1), ih x1]
    exact ⟨fun ⟨h1, h2⟩ o ho => ⟨h1 o ho, h2 o ho⟩, fun h => ⟨fun o ho => (h o ho).1, fun o ho => (h o ho).2⟩⟩

theorem isMonotoneP_iff (F : FRep) (inv : Bool) (hlen : ∀ x, (F.ev x).length = F.m) :
    F.isMonotoneP inv = true ↔ ∀ o, o < F.m → SortedRow inv (F.row o) := by
  unfold isMonotoneP row
  cases h : allInputs F.n with
  | nil => exact absurd h (allInputs_ne_nil _)
  | cons x0 r => exact consecScan_iff F inv hlen r x0

theorem isMonotoneP_eq_T (F : FRep) (inv : Bool) (hlen : ∀ x, (F.ev x).length = F.m) :
    F.isMonotoneP inv = F.isMonotoneT inv :=
  Bool.eq_iff_iff.mpr ((isMonotoneP_iff F inv hlen).trans (isMonotoneT_iff F inv).symm)

end FRep
end Cirbo
