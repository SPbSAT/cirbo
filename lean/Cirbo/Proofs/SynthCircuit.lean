import Cirbo.Model.SynthCircuit
import Cirbo.Proofs.Synth
import Cirbo.Proofs.Gen
import Cirbo.Proofs.FoldR
/-!
# The circuit returned by exact synthesis computes the requested table
-/
namespace Cirbo
namespace Synth
open GateType Circuit

theorem synthTtType_spec {a b c d : Bool} {ty : GateType} (h : Gen.synthTtType a b c d = some ty) :
    ty ≠ INPUT ∧ ∀ x y, bfun ty [x, y] = some (ttApply (a, b, c, d) x y) := by
  cases a <;> cases b <;> cases c <;> cases d <;> cases h <;>
    exact ⟨nofun, fun x y => by cases x <;> cases y <;> rfl⟩

theorem synthGate_some {sp : Spec} {sol : Sol} {g : Nat} {gt : Gate} (hs : synthGate sp sol g = some gt) :
    ∃ ty, Gen.synthTtType (sol.op g false false) (sol.op g false true) (sol.op g true false) (sol.op g true true)
        = some ty ∧
      gt = ⟨"s" ++ toString g, ty, [synthLabel sp (sol.pred g).1, synthLabel sp (sol.pred g).2]⟩ := by
  unfold synthGate at hs
  split at hs
  · cases hs
  · exact ⟨_, ‹_›, (Option.some.inj hs).symm⟩

theorem inputFold_spec {l : List Nat} {c0 c : Circuit} (h : l.foldl inputStep (.ok c0) = .ok c) :
    c.gates = c0.gates ++ l.map (fun i => ⟨toString i, INPUT, []⟩) ∧
    c.inputs = c0.inputs ++ l.map toString ∧ c.outputs = c0.outputs := by
  refine foldlR_ok (I := fun pre c => c.gates = c0.gates ++ pre.map (fun i => ⟨toString i, INPUT, []⟩) ∧
    c.inputs = c0.inputs ++ pre.map toString ∧ c.outputs = c0.outputs) (fun _ _ => rfl) ?_ (by simp) h
  rintro pre i c c' ⟨i1, i2, i3⟩ ha
  obtain ⟨_, _, hg, hi, ho, _⟩ := addGate_fields ha
  exact ⟨by simp [hg, i1], by simp [hi, i2], ho.trans i3⟩

theorem internalFold_spec {sp : Spec} {sol : Sol} {l : List Nat} {c0 c : Circuit}
    (h : l.foldl (internalStep sp sol) (.ok c0) = .ok c) :
    (∃ gs, l.map (synthGate sp sol) = gs.map some ∧ c.gates = c0.gates ++ gs) ∧
    c.inputs = c0.inputs ∧ c.outputs = c0.outputs := by
  refine foldlR_ok (I := fun pre c => (∃ gs, pre.map (synthGate sp sol) = gs.map some ∧ c.gates = c0.gates ++ gs) ∧
    c.inputs = c0.inputs ∧ c.outputs = c0.outputs) (fun _ _ => rfl) ?_ ⟨⟨[], rfl, by simp⟩, rfl, rfl⟩ h
  rintro pre g c c' ⟨⟨gs, i1, i2⟩, i3, i4⟩ ha
  simp only [internalStep] at ha
  split at ha
  · cases ha
  · rename_i gt hs
    obtain ⟨_, _, hg, hi, ho, _⟩ := addGate_fields ha
    obtain ⟨ty, hty, e⟩ := synthGate_some hs
    exact ⟨⟨gs ++ [gt], by simp [i1, hs], by simp [hg, i2]⟩,
      by rw [hi, if_neg (e ▸ (synthTtType_spec hty).1), i3], ho.trans i4⟩

theorem outputFold_spec {sol : Sol} {l : List Nat} {c0 c : Circuit} (h : l.foldl (outputStep sol) (.ok c0) = .ok c) :
    c.gates = c0.gates ∧ c.inputs = c0.inputs ∧ c.outputs = c0.outputs ++ l.map (fun h => "s" ++ toString (sol.out h)) := by
  refine foldlR_ok (I := fun pre c => c.gates = c0.gates ∧ c.inputs = c0.inputs ∧
    c.outputs = c0.outputs ++ pre.map fun h => "s" ++ toString (sol.out h)) (fun _ _ => rfl) ?_ (by simp) h
  rintro pre a c c' ⟨i1, i2, i3⟩ hm
  obtain ⟨hg, hi, ho, _⟩ := markAsOutput_fields hm
  exact ⟨hg.trans i1, hi.trans i2, by simp [ho, i3]⟩

theorem solToCircuit_spec {sp : Spec} {sol : Sol} {c : Circuit}
    (hpred : ∀ g, sp.n ≤ g → g < sp.n + sp.N → (sol.pred g).1 < (sol.pred g).2 ∧ (sol.pred g).2 < g)
    (h : solToCircuit sp sol = .ok c) :
    c.inputs = (List.range sp.n).map toString ∧
    c.outputs = (List.range sp.m).map (fun h => "s" ++ toString (sol.out h)) ∧
    ∀ (b v : Label → Bool) (t : Nat), IsValB c b v → (∀ i, i < sp.n → b (toString i) = inputBit sp i t) →
      ∀ g, g < sp.n + sp.N → v (synthLabel sp g) = eval sp sol t g := by
  unfold solToCircuit at h
  obtain ⟨c2, h2⟩ := foldlR_start (fun _ _ => rfl) h
  obtain ⟨c1, h1⟩ := foldlR_start (fun _ _ => rfl) h2
  rw [h2] at h
  rw [h1] at h2
  obtain ⟨a1, a2, a3⟩ := inputFold_spec h1
  obtain ⟨⟨gs, b1, b2⟩, b3, b4⟩ := internalFold_spec h2
  obtain ⟨d1, d2, d3⟩ := outputFold_spec h
  refine ⟨by rw [d2, b3, a2]; rfl, by rw [d3, b4, a3]; rfl, ?_⟩
  rw [b2, a1] at d1
  intro b v t hv hb
  refine eval_unique hpred (fun g hin => ?_) fun g hn hg => ?_
  · have := hv ⟨toString g, INPUT, []⟩ (d1 ▸ List.mem_append_left _ (List.mem_append_right _
      (List.mem_map.mpr ⟨g, List.mem_range.mpr hin, rfl⟩)))
    rw [if_pos rfl] at this
    rw [synthLabel, if_pos hin, this, hb g hin]
  · have hs : synthGate sp sol g ∈ gs.map some := b1 ▸ List.mem_map_of_mem (mem_internal.mpr ⟨hn, hg⟩)
    obtain ⟨gt, hgm, hs⟩ := List.mem_map.mp hs
    obtain ⟨ty, hty, rfl⟩ := synthGate_some hs.symm
    obtain ⟨hnot, htt⟩ := synthTtType_spec hty
    have := hv _ (d1 ▸ List.mem_append_right _ hgm)
    simp only [hnot, if_false, List.map_cons, List.map_nil, htt] at this
    rw [synthLabel, if_neg (by omega), ← Option.some.inj this]
    cases v (synthLabel sp (sol.pred g).1) <;> cases v (synthLabel sp (sol.pred g).2) <;> rfl

end Synth
end Cirbo
