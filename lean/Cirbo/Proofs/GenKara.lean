import Cirbo.Proofs.GenLevels
import Cirbo.Proofs.GenArith
import Cirbo.Proofs.GenPow2
/-!
# Karatsuba multiplication (`add_mul_karatsuba*`): value and width
-/
namespace Cirbo

theorem sem_padZeros {v : Label → Bool} {a0 : Label} : ∀ (k : Nat) (b out : List Label),
    Sem (padZeros a0 k b) v out → out.length = b.length + k ∧ valLE v out = valLE v b := by
  intro k
  induction k with
  | zero => intro b out h; simp only [padZeros, sem_pure] at h; subst h; simp
  | succ k ih =>
    intro b out h
    simp only [padZeros, sem_bind] at h
    obtain ⟨z, hz, hrec⟩ := h
    obtain ⟨h1, h2⟩ := ih _ _ hrec
    have hzv : v z = false := by rw [sem_emitTT hz]; cases v a0 <;> rfl
    refine ⟨by rw [h1]; simp; omega, ?_⟩
    rw [h2, valLE_append]; simp [valLE, bv, hzv]

/-- what Karatsuba needs from the multiplier used below the recursion threshold: on operands of the
same width `k ≥ 1` it returns their product on `2k` bits (`1` bit for `k = 1`) -/
def BaseSpec (base : List Label → List Label → Prog (List Label)) : Prop :=
  ∀ (v : Label → Bool) (a b out : List Label), a.length = b.length → 1 ≤ a.length → Sem (base a b) v out →
    valLE v out = valLE v a * valLE v b ∧ out.length = if a.length = 1 then 1 else 2 * a.length

theorem baseSpec_lastStep : BaseSpec lastStepCore := by
  intro v a b out hab ha h
  simp only [lastStepCore, sem_bind] at h
  obtain ⟨rows, hr, h⟩ := h
  obtain ⟨rows', e1, e2, e3, e4, -⟩ := sem_ppRows _ _ _ hr
  simp only [List.nil_append] at e1; subst e1
  simp only [← hab, beq_iff_eq, bne_self_eq_false, Bool.false_eq_true, if_false] at h
  split at h
  · rename_i h1
    have hall := sem_heads (c := rows) h
    exact ⟨by rw [← e4, rowsVal_heads v hall (fun r hr => by rw [e3 r hr, h1])], by rw [← all2_length hall, e2, ← hab, h1, if_pos rfl]⟩
  · rename_i h1
    simp only [sem_bind] at h
    obtain ⟨res, hw, h⟩ := h
    split at h
    · exact absurd h sem_fail
    · rename_i hlen
      rw [sem_pure] at h; subst h
      have hpos := (sem_weightedRows ha e3 hw).trans e4
      refine ⟨?_, by rw [List.length_map, List.length_take, if_neg h1]; omega⟩
      have hlt := valLE_mul_lt v a b
      rw [← hab, ← hpos] at hlt
      rw [List.map_take, valLE_take_of_lt v _ _ hlt, hpos]

theorem sub_exact {b m r P k : Nat} (h : b + m + P * k = b + r) (hr : r < P) : r = m :=
  eq_of_lt_of_add_mul (show r = m + P * k by omega) hr

theorem kara_mid (hA lA hB lB : Nat) :
    (hA + lA) * (hB + lB) = (hA * hB + lA * lB) + (hA * lB + lA * hB) := by
  simp only [Nat.add_mul, Nat.mul_add]; omega

theorem split_mul (lA hA lB hB T : Nat) :
    (lA + T * hA) * (lB + T * hB) = lA * lB + T * (hA * lB + lA * hB) + T * T * (hA * hB) := by
  simp only [Nat.add_mul, Nat.mul_add, Nat.mul_assoc, Nat.mul_left_comm _ T]; omega

/-- one Karatsuba step over any multiplier `mul` for equal widths.  With `la = a·2^mid + b`, `lb = c·2^mid + d` the
names are the Python's: `ac`, `bd`, `aSumB = a + b`, `cSumD = c + d`, `big` their product, `resMid = big − (ac + bd)` -/
theorem sem_karaStep {v : Label → Bool} {mul : List Label → List Label → Prog (List Label)}
    (hmul : ∀ p q r, p.length = q.length → 2 ≤ p.length → Sem (mul p q) v r →
      valLE v r = valLE v p * valLE v q ∧ r.length = 2 * p.length)
    {la lb ac bd aSumB cSumD big acSumBd resMid res fin : List Label} {mid : Nat}
    (hlen : lb.length = la.length) (h2 : 2 ≤ mid) (hmid : 2 * mid ≤ la.length)
    (hac : Sem (mul (la.drop mid) (lb.drop mid)) v ac) (hbd : Sem (mul (la.take mid) (lb.take mid)) v bd)
    (hsa : Sem (addSumTwoNumbers (la.drop mid) (la.take mid) false) v aSumB)
    (hsc : Sem (addSumTwoNumbers (lb.drop mid) (lb.take mid) false) v cSumD)
    (hbig : Sem (mul aSumB cSumD) v big)
    (hs2 : Sem (addSumTwoNumbers ac bd false) v acSumBd)
    (hsub : Sem (addSubTwoNumbers big acSumBd false) v resMid)
    (hres : Sem (addSumTwoNumbersWithShift mid bd resMid false) v res)
    (hfin : Sem (addSumTwoNumbersWithShift (2 * mid) res ac false) v fin) :
    valLE v fin = valLE v la * valLE v lb ∧ 2 * la.length ≤ fin.length := by
  have hm : min mid la.length = mid := Nat.min_eq_left (by omega)
  have hM : max (la.length - mid) mid = la.length - mid := Nat.max_eq_left (by omega)
  obtain ⟨vac, lac⟩ := hmul _ _ _ (by simp only [List.length_drop, hlen]) (by rw [List.length_drop]; omega) hac
  obtain ⟨vbd, lbd⟩ := hmul _ _ _ (by simp only [List.length_take, hlen]) (by rw [List.length_take]; omega) hbd
  obtain ⟨vsa, lsa⟩ := sem_addSumTwoNumbers hsa
  obtain ⟨vsc, lsc⟩ := sem_addSumTwoNumbers hsc
  obtain ⟨vs2, ls2⟩ := sem_addSumTwoNumbers hs2
  obtain ⟨vres, -⟩ := sem_addSumTwoNumbersWithShift hres
  obtain ⟨vfin, lfin⟩ := sem_addSumTwoNumbersWithShift hfin
  simp only [List.length_drop, List.length_take, hlen, hm, hM] at lsa lsc lac lbd
  refine ⟨?_, by rw [lfin, lac]; split <;> omega⟩
  obtain ⟨vbig, lbig⟩ := hmul _ _ _ (lsa.trans lsc.symm) (by omega) hbig
  rw [lac, lbd, Nat.max_eq_left (by omega)] at ls2
  have hle : acSumBd.length ≤ big.length := by omega
  obtain ⟨lrm, k, -, vrm⟩ := sem_addSubTwoNumbers hsub
  simp only [revIf, Bool.false_eq_true, if_false] at vsa vsc vs2 vres vfin vrm
  rw [List.take_of_length_le hle, vs2, vbig, vsa, vsc, vac, vbd, kara_mid] at vrm
  rw [vfin, vres, sub_exact vrm (by rw [← lrm]; exact valLE_lt v resMid), vac, vbd, valLE_take_drop v la mid,
    valLE_take_drop v lb mid, split_mul, Nat.two_mul, Nat.pow_add]

theorem not_small {n : Nat} (h : smallSize n = false) : 18 ≤ n := by
  unfold smallSize at h
  simp only [Bool.and_eq_false_iff, decide_eq_false_iff_not, Nat.not_lt, bne_eq_false_iff_eq] at h
  omega

theorem kara_outSize (v : Label → Bool) (a b : List Label) :
    valLE v a * valLE v b < 2 ^ (a.length + b.length - (if a.length == 1 || b.length == 1 then 1 else 0)) := by
  have ha := valLE_lt v a
  have hb := valLE_lt v b
  split
  · rename_i h
    simp only [Bool.or_eq_true, beq_iff_eq] at h
    rcases h with h | h
    · rw [h] at ha ⊢
      rw [Nat.add_comm, Nat.add_sub_cancel]
      exact Nat.lt_of_le_of_lt (Nat.mul_le_mul_right _ (show valLE v a ≤ 1 by omega)) (by rwa [Nat.one_mul])
    · rw [h] at hb ⊢
      rw [Nat.add_sub_cancel]
      exact Nat.lt_of_le_of_lt (Nat.mul_le_mul_left _ (show valLE v b ≤ 1 by omega)) (by rwa [Nat.mul_one])
  · exact valLE_mul_lt v a b

theorem kara_outSize_le (n m : Nat) :
    n + m - (if n == 1 || m == 1 then 1 else 0) ≤ if max n m = 1 then 1 else 2 * max n m := by
  simp only [Bool.or_eq_true, beq_iff_eq]
  split <;> split <;> omega

theorem sem_karaCore {base} (hb : BaseSpec base) {v : Label → Bool} : ∀ (fuel : Nat) (a b out : List Label),
    Sem (karaCore base fuel a b) v out → 1 ≤ max a.length b.length →
    valLE v out = valLE v a * valLE v b ∧
      out.length = a.length + b.length - (if a.length == 1 || b.length == 1 then 1 else 0) := by
  intro fuel
  induction fuel with
  | zero => intro a b out h; exact absurd h sem_fail
  | succ fuel ih =>
    intro a b out h hne
    have sub : ∀ (p q r : List Label), p.length = q.length → 2 ≤ p.length →
        Sem (if smallSize p.length then base p q else karaCore base fuel p q) v r →
        valLE v r = valLE v p * valLE v q ∧ r.length = 2 * p.length := by
      intro p q r hpq hp hs
      split at hs
      · obtain ⟨h1, h2⟩ := hb v p q r hpq (by omega) hs
        exact ⟨h1, by rw [h2, if_neg (by omega)]⟩
      · obtain ⟨h1, h2⟩ := ih p q r hs (by omega)
        have e1 : (p.length == 1) = false := by rw [beq_eq_false_iff_ne]; omega
        have e2 : (q.length == 1) = false := by rw [beq_eq_false_iff_ne]; omega
        exact ⟨h1, by rw [h2, e1, e2, ← hpq]; exact (Nat.two_mul _).symm⟩
    have hprod := kara_outSize v a b
    have hos := kara_outSize_le a.length b.length
    unfold karaCore at h
    generalize a.length + b.length - (if a.length == 1 || b.length == 1 then 1 else 0) = outSize at h hprod hos ⊢
    -- the longer operand first; from here on only its width matters
    generalize hla : (if a.length < b.length then (b, a) else (a, b)) = lalb at h
    obtain ⟨la, lb⟩ := lalb
    have hswap : lb.length ≤ la.length ∧ max a.length b.length = la.length ∧
        valLE v a * valLE v b = valLE v la * valLE v lb := by
      split at hla
      · cases hla; exact ⟨by omega, by omega, Nat.mul_comm _ _⟩
      · cases hla; exact ⟨by omega, by omega, rfl⟩
    obtain ⟨hle, hmax, hval⟩ := hswap
    rw [hmax] at hos hne
    rw [hval] at hprod ⊢
    clear hla hmax hval
    simp only [sem_bind] at h
    obtain ⟨lb', hpad, h⟩ := h
    have hlb' : lb'.length = la.length ∧ valLE v lb' = valLE v lb := by
      split at hpad
      · rename_i he
        rw [sem_pure] at hpad; subst hpad
        exact ⟨(by simpa using he : la.length = lb'.length).symm, rfl⟩
      · split at hpad
        · obtain ⟨h1, h2⟩ := sem_padZeros _ _ _ hpad
          exact ⟨by rw [h1]; omega, h2⟩
        · exact absurd hpad sem_fail
    obtain ⟨hlen, hvb⟩ := hlb'
    rw [← hvb] at hprod ⊢
    clear hvb hle hpad
    have fits : ∀ r : List Label, valLE v r = valLE v la * valLE v lb' → outSize ≤ r.length →
        valLE v (r.take outSize) = valLE v la * valLE v lb' ∧ (r.take outSize).length = outSize := fun r hv hl =>
      ⟨by rw [valLE_take_of_lt v r outSize (by rw [hv]; exact hprod), hv], by rw [List.length_take]; omega⟩
    split at h
    · simp only [sem_bind, sem_pure] at h
      obtain ⟨r, hr, rfl⟩ := h
      obtain ⟨h1, h2⟩ := hb v la lb' r hlen.symm hne hr
      exact fits r h1 (by rw [h2]; exact hos)
    · rename_i hsm
      have hn18 := not_small (by simpa using hsm)
      simp only [sem_bind, sem_pure] at h
      obtain ⟨ac, hac, bd, hbd, aSumB, hsa, cSumD, hsc, big, hbig, acSumBd, hs2, resMid, hsub, res, hres, fin, hfin, rfl⟩ := h
      have hmid : (la.take (la.length / 2)).length = la.length / 2 := by rw [List.length_take]; omega
      obtain ⟨h1, h2⟩ := sem_karaStep (mul := fun p q => if smallSize p.length then base p q else karaCore base fuel p q)
        sub hlen (by omega) (by omega) (by rw [List.length_drop]; exact hac) (by rw [hmid]; exact hbd) hsa hsc hbig hs2 hsub hres hfin
      exact fits fin h1 (by rw [if_neg (by omega)] at hos; omega)

theorem sem_karaTop {base} (hb : BaseSpec base) {v : Label → Bool} {a b out : List Label} {be : Bool} {fuel : Nat}
    (h : Sem (do let r ← karaCore base fuel (revIf a be) (revIf b be); pure (revIf r be)) v out)
    (hne : 1 ≤ max a.length b.length) :
    valLE v (revIf out be) = valLE v (revIf a be) * valLE v (revIf b be) ∧
      out.length = a.length + b.length - (if a.length == 1 || b.length == 1 then 1 else 0) := by
  have := sem_karaCore hb _ _ _ _ (sem_revIf_bind h) (by rwa [revIf_length, revIf_length])
  rwa [revIf_length, revIf_length, revIf_length] at this

theorem sem_addMulKaratsubaEff {v : Label → Bool} {a b out : List Label} {be : Bool}
    (h : Sem (addMulKaratsubaEff a b be) v out) (hne : 1 ≤ max a.length b.length) :
    valLE v (revIf out be) = valLE v (revIf a be) * valLE v (revIf b be) ∧
      out.length = a.length + b.length - (if a.length == 1 || b.length == 1 then 1 else 0) :=
  sem_karaTop baseSpec_lastStep h hne

theorem baseSpec_mulPow2M1 : BaseSpec mulPow2M1Core := by
  intro v a b out hab ha h
  obtain ⟨h1, h2⟩ := sem_mulPow2M1Core h
  refine ⟨h1, ?_⟩
  rw [h2, ← hab]
  split
  · assumption
  · exact (Nat.two_mul _).symm

theorem sem_addMulKaratsuba {v : Label → Bool} {a b out : List Label} {be : Bool}
    (h : Sem (addMulKaratsuba a b be) v out) (hne : 1 ≤ max a.length b.length) :
    valLE v (revIf out be) = valLE v (revIf a be) * valLE v (revIf b be) ∧
      out.length = a.length + b.length - (if a.length == 1 || b.length == 1 then 1 else 0) :=
  sem_karaTop baseSpec_mulPow2M1 h hne

end Cirbo
