import Cirbo.Proofs.Mutate
/-!
# `_remove_gate`, applied to a set of gates nobody else uses, keeps the C02 invariant

`remove_gate` is the case of one gate without users, `remove_block` that of the members of a block nobody outside uses.
-/
namespace Cirbo
open Circuit

/-- the block `b` refers to a label of `S` (such blocks are deleted together with the gates `S`) -/
def mentions (S : List Label) (b : Block) : Bool :=
  S.any (fun l => b.gates.contains l || b.inputs.contains l || b.outputs.contains l)

/-- the state after the gates `S` have been removed by `_remove_gate`, one after the other -/
structure RBInv (c cur : Circuit) (S : List Label) : Prop where
  gates : cur.gates = c.gates.filter (fun g => !S.contains g.label)
  inputs : cur.inputs = c.inputs.filter (fun i => !S.contains i)
  outputs : cur.outputs = c.outputs.filter (fun o => !S.contains o)
  blocks : cur.blocks = c.blocks.filter (fun b => !mentions S b)
  users : ∀ l u, (cur.usersOf l).count u = if S.contains l || S.contains u then 0 else (c.usersOf l).count u

theorem RBInv.mem_gates {c cur : Circuit} {S : List Label} (inv : RBInv c cur S) (g : Gate) :
    g ∈ cur.gates ↔ g ∈ c.gates ∧ g.label ∉ S := by
  rw [inv.gates, List.mem_filter]; simp

theorem RBInv.mem_labels {c cur : Circuit} {S : List Label} (inv : RBInv c cur S) (l : Label) :
    l ∈ cur.labels ↔ l ∈ c.labels ∧ l ∉ S := by
  unfold Circuit.labels
  simp only [List.mem_map]
  constructor
  · rintro ⟨g, hg, rfl⟩; exact ⟨⟨g, ((inv.mem_gates g).mp hg).1, rfl⟩, ((inv.mem_gates g).mp hg).2⟩
  · rintro ⟨⟨g, hg, rfl⟩, hn⟩; exact ⟨g, (inv.mem_gates g).mpr ⟨hg, hn⟩, rfl⟩

theorem RBInv.nodup {c cur : Circuit} {S : List Label} (inv : RBInv c cur S) (hnd : c.labels.Nodup) :
    cur.labels.Nodup := by
  unfold Circuit.labels; rw [inv.gates]
  exact (List.Nodup.sublist ((List.filter_sublist).map _) hnd)

theorem RBInv.blocks_sub {c cur : Circuit} {S : List Label} (inv : RBInv c cur S) (hw : WFS c) {b : Block} (hb : b ∈ cur.blocks)
    {l : Label} (hl : l ∈ b.gates ∨ l ∈ b.inputs) : l ∈ c.labels ∧ l ∉ S := by
  rw [inv.blocks, List.mem_filter] at hb
  refine ⟨hl.elim ((hw.blocksOK b hb.1).1 l) ((hw.blocksOK b hb.1).2 l), fun hs => ?_⟩
  have := hb.2
  simp only [mentions, Bool.not_eq_true', List.any_eq_false] at this
  exact this l hs (by rcases hl with hl | hl <;> simp [hl])

theorem rbinv_init (c : Circuit) : RBInv c c [] := by
  refine ⟨?_, ?_, ?_, ?_, fun l u => by simp⟩
  all_goals exact (List.filter_eq_self.mpr (fun _ _ => by simp [mentions])).symm

theorem rawRemoveGate_rbinv {c cur cur' : Circuit} {S : List Label} {l : Label} (hw : WFS c)
    (inv : RBInv c cur S) (h : cur.rawRemoveGate l = .ok cur') : RBInv c cur' (S ++ [l]) := by
  obtain ⟨g, hf, fg, fi, fin, fo, fb, fu⟩ := rawRemoveGate_fields h
  obtain ⟨hgcur, hgl⟩ := find_some_mem hf
  rw [inv.gates, List.mem_filter, hgl] at hgcur
  obtain ⟨hgc, hSl⟩ := hgcur
  have hSl : S.contains l = false := by simpa using hSl
  refine ⟨?_, ?_, ?_, ?_, ?_⟩
  · rw [fg, inv.gates]
    exact filter_not_contains_snoc (·.label) S l c.gates
  · rw [fi, inv.inputs]
    refine Eq.trans ?_ (filter_not_contains_snoc id S l c.inputs)
    split
    · exact List.Nodup.erase_eq_filter (hw.inputsNodup.filter _) l
    · rename_i hgi
      refine (List.filter_eq_self.mpr fun x hx => ?_).symm
      simp only [id, Bool.not_eq_true', beq_eq_false_iff_ne]
      rintro rfl
      exact hw.gate_not_input hgc hgi (hgl ▸ (List.mem_filter.mp hx).1)
  · rw [fo, inv.outputs]
    exact filter_not_contains_snoc id S l c.outputs
  · rw [fb, inv.blocks, List.filter_filter]
    apply List.filter_congr
    intro b _
    simp only [mentions, List.any_append, List.any_cons, List.any_nil, Bool.or_false]
    cases h1 : S.any (fun l => b.gates.contains l || b.inputs.contains l || b.outputs.contains l) <;>
      cases h2 : (b.gates.contains l || b.inputs.contains l || b.outputs.contains l) <;> simp
  · intro x u
    rw [fu x u, contains_append_single, contains_append_single]
    by_cases hx : x = l
    · simp [hx]
    · have hxl : (x == l) = false := by simpa using hx
      simp only [hx, if_false, hxl, Bool.or_false]
      -- the users of `x` lose as many copies of `l` as `l` has operands `x`, which is how often they list `l`
      by_cases hu : u = l
      · subst hu
        simp only [if_true, beq_self_eq_true, Bool.or_true]
        rw [inv.users x u, hSl]
        cases hxS : S.contains x
        · simp only [Bool.or_self, Bool.false_eq_true, if_false]
          have := hw.usersC x g hgc
          rw [hgl] at this
          omega
        · simp
      · have hul : (u == l) = false := by simpa using hu
        simp only [hu, if_false, hul, Bool.or_false, Nat.sub_zero]
        exact inv.users x u

theorem contrib_filter_labels (G : List Gate) (S : List Label) (l u : Label) :
    contrib (G.filter (fun g => !S.contains g.label)) l u = if S.contains u then 0 else contrib G l u := by
  unfold contrib
  rw [List.filter_filter]
  by_cases hu : u ∈ S
  · rw [if_pos (by simpa using hu),
      List.filter_eq_nil_iff.mpr fun g _ => by by_cases e : g.label = u <;> simp [e, hu]]
    rfl
  · rw [if_neg (by simpa using hu)]
    congr 2
    exact List.filter_congr fun g _ => by by_cases e : g.label = u <;> simp [e, hu]

theorem rbinv_wfs {c c' : Circuit} {S : List Label} (hw : WFS c) (inv : RBInv c c' S)
    (hno : ∀ l ∈ S, ∀ u ∈ c.usersOf l, u ∈ S) : WFS c' := by
  have hgm := inv.mem_gates
  have hlab := inv.mem_labels
  have hnd' := inv.nodup hw.nodup
  -- an operand of a remaining gate is not removed
  have hopS : ∀ g ∈ c.gates, g.label ∉ S → ∀ o ∈ g.ops, o ∉ S := by
    intro g hg hgs o ho hoS
    exact hgs (hno o hoS g.label ((mem_users_iff hw.usersC hg o).mpr ho))
  have husers : UsersOK c' := by
    intro l u
    rw [inv.users l u, inv.gates, contrib_filter_labels, ← users_count_of_wfs hw]
    cases hu : S.contains u
    · cases hl : S.contains l
      · rfl
      · have hu' : u ∉ S := by simpa using hu
        exact (List.count_eq_zero.mpr fun hm => hu' (hno l (by simpa using hl) u hm)).symm
    · simp
  obtain ⟨uL, uC⟩ := users_of_count hnd' husers
  obtain ⟨r, hrk⟩ := hw.rank
  refine ⟨hnd', ?_, ⟨r, ?_⟩, ?_, ?_, ?_, uL, uC, ?_, ?_⟩
  · intro g hg o ho
    obtain ⟨h1, h2⟩ := (hgm g).mp hg
    exact (hlab o).mpr ⟨hw.closed g h1 o ho, hopS g h1 h2 o ho⟩
  · intro g hg o ho
    exact hrk g ((hgm g).mp hg).1 o ho
  · rw [inv.inputs]; exact hw.inputsNodup.filter _
  · intro l
    rw [inv.inputs, List.mem_filter]
    constructor
    · rintro ⟨hl, hs⟩
      obtain ⟨g, hg, hgl, hty⟩ := (hw.inputsOK l).mp hl
      exact ⟨g, (hgm g).mpr ⟨hg, by rw [hgl]; simpa using hs⟩, hgl, hty⟩
    · rintro ⟨g, hg, hgl, hty⟩
      obtain ⟨h1, h2⟩ := (hgm g).mp hg
      exact ⟨(hw.inputsOK l).mpr ⟨g, h1, hgl, hty⟩, by rw [← hgl]; simpa using h2⟩
  · intro o ho
    rw [inv.outputs, List.mem_filter] at ho
    exact (hlab o).mpr ⟨hw.outputsOK o ho.1, by simpa using ho.2⟩
  · intro b hb
    exact ⟨fun l hl => (hlab l).mpr (inv.blocks_sub hw hb (.inl hl)), fun l hl => (hlab l).mpr (inv.blocks_sub hw hb (.inr hl))⟩
  · intro g hg hty
    exact hw.inputOps g ((hgm g).mp hg).1 hty

theorem removeGate_wfs {c c' : Circuit} {l : Label} (hw : WFS c) (h : c.removeGate l = .ok c') : WFS c' := by
  obtain ⟨_, hU, h⟩ := removeGate_ok_iff.mp h
  refine rbinv_wfs hw (rawRemoveGate_rbinv hw (rbinv_init c) h) fun l' hl' u hu => ?_
  rw [List.mem_singleton.mp hl', hU] at hu
  cases hu

theorem removeBlock_wfs {c c' : Circuit} {name : Label} (hw : WFS c) (h : c.removeBlock name = .ok c') : WFS c' := by
  unfold removeBlock at h
  cases hf : c.blocks.find? (fun b => b.name == name) with
  | none => simp [hf] at h
  | some b =>
    simp only [hf] at h
    split at h
    · rename_i hno
      unfold rawRemoveBlock at h
      simp only [hf] at h
      have inv := foldlR_ok (I := fun S cur => RBInv c cur S) (fun _ _ => rfl)
        (fun _ _ _ _ inv hs => rawRemoveGate_rbinv hw inv hs) (rbinv_init c) h
      apply rbinv_wfs hw inv
      intro l hl u hu
      unfold blockHasNoUsers at hno
      have := List.all_eq_true.mp hno l hl
      simp only [List.contains_nil, Bool.false_or] at this
      have := List.all_eq_true.mp this u hu
      simpa using this
    · cases h

/-- the public mutator calls of `MOp`, and `remove_gate` -/
inductive HOp
  | base (op : MOp)
  | removeGate (l : Label)

def HOp.valid : HOp → Prop
  | .base op => op.valid
  | .removeGate _ => True

def runHOp (c : Circuit) : HOp → R Circuit
  | .base op => runOp c op
  | .removeGate l => c.removeGate l

def runHOps : Circuit → List HOp → R Circuit
  | c, [] => .ok c
  | c, op :: r => match runHOp c op with
    | .error e => .error e
    | .ok c' => runHOps c' r

theorem runHOp_wfs {c c' : Circuit} {op : HOp} (hw : WFS c) (hv : op.valid) (h : runHOp c op = .ok c') : WFS c' := by
  cases op with
  | base o => exact runOp_wfs hw hv h
  | removeGate l => exact removeGate_wfs hw h

end Cirbo
