import Cirbo.Proofs.GenArith
/-!
# `add_div_mod`: restoring division

Digit by digit from the top: the shifted divisor is subtracted from what is left and the difference kept when it did
not borrow.  `digit_step` is the arithmetic of one digit, shared with the square root.
-/
namespace Cirbo

theorem ite_cons {c : Prop} [Decidable c] {g a b H A B : Nat} (hg : g = if c then a else b)
    (h : H = if c then A else B) : g + 2 * H = if c then a + 2 * A else b + 2 * B := by
  subst hg h; split <;> rfl

theorem sem_muxLoop {v : Label → Bool} {sel : Label} : ∀ (subs xs acc out : List Label),
    Sem (muxLoop sel subs xs acc) v out → subs.length = xs.length →
    ∃ hi, out = acc ++ hi ∧ hi.length = xs.length ∧ valLE v hi = if v sel = true then valLE v subs else valLE v xs := by
  intro subs
  induction subs with
  | nil =>
    intro xs acc out h hl
    obtain rfl : xs = [] := List.eq_nil_of_length_eq_zero hl.symm
    exact ⟨[], sem_pure.mp h, rfl, (ite_self _).symm⟩
  | cons s subs ih =>
    intro xs acc out h hl
    cases xs with
    | nil => exact nomatch hl
    | cons x xs =>
      simp only [muxLoop, sem_bind] at h
      obtain ⟨g1, h1, g2, h2, g3, h3, hrec⟩ := h
      obtain ⟨hi, e1, e2, e3⟩ := ih xs _ out hrec (Nat.succ.inj hl)
      refine ⟨g3 :: hi, by rw [e1, List.append_assoc]; rfl, congrArg (· + 1) e2, ite_cons ?_ e3⟩
      simp only [bv, sem_emitTT h3, sem_emitTT h2, sem_emitTT h1]
      cases v sel <;> cases v s <;> cases v x <;> rfl

theorem sem_selLoop {v : Label → Bool} {per : Label} : ∀ (nws xs acc out : List Label),
    Sem (selLoop per nws xs acc) v out → nws.length = xs.length →
    ∃ hi, out = acc ++ hi ∧ hi.length = xs.length ∧ valLE v hi = if v per = true then valLE v xs else valLE v nws := by
  intro nws
  induction nws with
  | nil =>
    intro xs acc out h hl
    obtain rfl : xs = [] := List.eq_nil_of_length_eq_zero hl.symm
    exact ⟨[], by rw [sem_pure.mp h, List.append_nil], rfl, (ite_self _).symm⟩
  | cons s nws ih =>
    intro xs acc out h hl
    cases xs with
    | nil => exact nomatch hl
    | cons x xs =>
      simp only [selLoop, sem_bind] at h
      obtain ⟨g1, h1, g2, h2, g3, h3, hrec⟩ := h
      obtain ⟨hi, e1, e2, e3⟩ := ih xs _ out hrec (Nat.succ.inj hl)
      refine ⟨g3 :: hi, by rw [e1, List.append_assoc]; rfl, congrArg (· + 1) e2, ite_cons ?_ e3⟩
      simp only [bv, sem_emitTT h3, sem_emitTT h2, sem_emitTT h1]
      cases v per <;> cases v s <;> cases v x <;> rfl

theorem sem_andAll {v : Label → Bool} {m : Label} : ∀ (xs acc out : List Label),
    Sem (andAll m xs acc) v out →
    ∃ gs, out = acc ++ gs ∧ gs.length = xs.length ∧ valLE v gs = if v m = true then valLE v xs else 0 := by
  intro xs
  induction xs with
  | nil => intro acc out h; exact ⟨[], by rw [sem_pure.mp h, List.append_nil], rfl, (ite_self _).symm⟩
  | cons x xs ih =>
    intro acc out h
    simp only [andAll, sem_bind] at h
    obtain ⟨g, hg, hrec⟩ := h
    obtain ⟨gs, e1, e2, e3⟩ := ih _ out hrec
    refine ⟨g :: gs, by rw [e1, List.append_assoc]; rfl, congrArg (· + 1) e2, ite_cons (b := 0) (B := 0) ?_ e3⟩
    simp only [bv, sem_emitTT hg]
    cases v m <;> cases v x <;> rfl

/-- `pref[k]` is the OR of the top `k + 1` bits of `b` -/
def PrefOK (v : Label → Bool) (b pref : List Label) : Prop :=
  ∀ k j p, pref[k]? = some p → k + 1 + j = b.length → (v p = true ↔ valLE v (b.drop j) ≠ 0)

theorem PrefOK.snoc {v : Label → Bool} {b pref : List Label} {g : Label} {j : Nat} (hp : PrefOK v b pref)
    (hj : pref.length + 1 + j = b.length) (hg : v g = true ↔ valLE v (b.drop j) ≠ 0) : PrefOK v b (pref ++ [g]) := by
  intro k j' q hq hkj
  rcases Nat.lt_or_ge k pref.length with hk | hk
  · rw [List.getElem?_append_left hk] at hq; exact hp k j' q hq hkj
  · rw [List.getElem?_append_right hk] at hq
    obtain ⟨hk0, rfl⟩ : k - pref.length = 0 ∧ g = q := by
      cases hd : k - pref.length <;> simp [hd] at hq; exact ⟨rfl, hq⟩
    obtain rfl : j' = j := by omega
    exact hg

theorem or_ne_zero {v : Label → Bool} {g p x : Label} {b : List Label} {j : Nat}
    (hg : Sem (emitTT p x t0111) v g) (hx : b[j]? = some x) (hp : v p = true ↔ valLE v (b.drop (j + 1)) ≠ 0) :
    v g = true ↔ valLE v (b.drop j) ≠ 0 := by
  obtain ⟨hj, rfl⟩ := List.getElem?_eq_some_iff.mp hx
  have hv : v g = (v p || v b[j]) := by rw [sem_emitTT hg]; cases v p <;> cases v b[j] <;> rfl
  rw [List.drop_eq_getElem_cons hj, hv, Bool.or_eq_true, hp]
  simp only [valLE, bv]
  cases v b[j] <;> simp <;> omega

theorem sem_prefLoop {v : Label → Bool} {b : List Label} : ∀ (len : Nat) (pref out : List Label),
    pref ≠ [] → (len = 0 ∨ pref.length + len + 1 = b.length) → PrefOK v b pref →
    Sem (prefLoop b (List.range' 1 len).reverse pref) v out → out.length = pref.length + len ∧ PrefOK v b out := by
  intro len
  induction len with
  | zero =>
    intro pref out _ _ hp h
    simp only [List.range'_zero, List.reverse_nil, prefLoop, sem_pure] at h
    subst h
    exact ⟨rfl, hp⟩
  | succ len ih =>
    intro pref out hne hlen hp h
    have hlen : pref.length + (len + 1) + 1 = b.length := hlen.resolve_left (Nat.succ_ne_zero len)
    rw [List.range'_concat, List.reverse_append] at h
    simp only [List.reverse_cons, List.reverse_nil, List.nil_append, List.cons_append, Nat.one_mul, prefLoop] at h
    split at h
    · rename_i p bi hlast hbi
      simp only [sem_bind] at h
      obtain ⟨g, hg, hrec⟩ := h
      rw [List.getLast?_eq_getElem?] at hlast
      have hpos := List.length_pos_iff.mpr hne
      obtain ⟨r1, r2⟩ := ih (pref ++ [g]) out (by simp) (Or.inr (by rw [List.length_append, List.length_singleton]; omega))
        (hp.snoc (j := 1 + len) (by omega) (or_ne_zero hg hbi (hp _ _ p hlast (by omega)))) hrec
      exact ⟨by rw [r1, List.length_append, List.length_singleton]; omega, r2⟩
    · exact absurd h sem_fail

/-- the new quotient bit `q` says whether the divisor `B = Bl + M·Bh` fits under the high part `H` of the remainder:
`per` is the borrow of `H − Bl` on `M`'s width, `prov` says that `B` has bits above that width -/
theorem div_digit {H S Bl Bh M H' : Nat} {per prov q : Bool} (hH : H < M)
    (hsub : H + M * per.toNat = Bl + S) (hper : per = true ↔ H < Bl) (hprov : prov = true ↔ Bh ≠ 0)
    (hq : q = (!prov && !per)) (hH' : H' = if q = true then S else H) :
    (q = true ∧ H = Bl + M * Bh + H') ∨ (q = false ∧ H' = H ∧ H < Bl + M * Bh) := by
  have hM : Bh = 0 ∧ M * Bh = 0 ∨ Bh ≠ 0 ∧ M ≤ M * Bh := by
    rcases Nat.eq_zero_or_pos Bh with rfl | h
    · exact Or.inl ⟨rfl, rfl⟩
    · exact Or.inr ⟨Nat.ne_of_gt h, Nat.le_mul_of_pos_right M h⟩
  subst hq hH'
  cases prov <;> cases per <;> simp at hper hprov hsub ⊢ <;> omega

/-- one digit of a restoring recurrence, that is of the binary search for the largest `Q` with `f Q * W ≤ A`
(`f` scales by `β` when its argument doubles: `· * B` with `β = 2`, squaring with `β = 4`). What is left of `A`
is `L + W * H`; the trial subtrahend `T = f (2Q+1) - f (2Q)` is compared with the high part `H` alone. -/
theorem digit_step {f : Nat → Nat} {A Q W L H H' T β : Nat} {q : Bool}
    (h0 : f (2 * Q) = f Q * β) (h1 : f (2 * Q + 1) = f (2 * Q) + T) (h2 : f (2 * Q + 2) = f (Q + 1) * β)
    (hL : L < W) (key : (q = true ∧ H = T + H') ∨ (q = false ∧ H' = H ∧ H < T))
    (hR : L + W * H + f Q * (W * β) = A) (hub : A < f (Q + 1) * (W * β)) :
    L + W * H' + f (q.toNat + 2 * Q) * W = A ∧ A < f (q.toNat + 2 * Q + 1) * W := by
  rw [Nat.mul_comm W β, ← Nat.mul_assoc] at hR hub
  rcases key with ⟨rfl, rfl⟩ | ⟨rfl, rfl, hlt⟩
  · rw [Nat.mul_add, Nat.mul_comm W T] at hR
    rw [Bool.toNat_true, Nat.add_comm 1, h1, h2, h0, Nat.add_mul]; omega
  · have := Nat.mul_le_mul_left W hlt
    rw [Nat.mul_succ, Nat.mul_comm W T] at this
    rw [Bool.toNat_false, Nat.zero_add, h1, h0, Nat.add_mul]; omega

theorem div_step {A B Q W L H H' : Nat} {q : Bool} (hL : L < W)
    (key : (q = true ∧ H = B + H') ∨ (q = false ∧ H' = H ∧ H < B))
    (h : L + W * H + Q * B * (W * 2) = A ∧ A < (Q + 1) * B * (W * 2)) :
    L + W * H' + (q.toNat + 2 * Q) * B * W = A ∧ A < (q.toNat + 2 * Q + 1) * B * W :=
  digit_step (f := (· * B)) (by rw [Nat.mul_comm 2, Nat.mul_right_comm]) (Nat.succ_mul ..)
    (by rw [Nat.mul_right_comm, Nat.mul_comm (Q + 1)]; rfl) hL key h.1 h.2

/-- the body of the loop of `add_div_mod`, under a name shared with the totality proof -/
def divStep (b0 pref : List Label) (n : Nat) (st : List Label × List Label) (i : Nat) : Prog (List Label × List Label) := do
  let (result, now) := st
  match pref[i - 1]? with
  | none => .fail "Py:IndexError"
  | some prov => do
    let m := n - i
    let (subRes, per) ← addSubtractWithCompare (now.drop (n - m)) (b0.take m) false
    let ri ← emitTT prov per t1000
    let hi ← muxLoop ri subRes (now.drop (n - m)) []
    pure (result.set i ri, now.take (n - m) ++ hi)

/-- the body of the loop of `add_sqrt`; here for the totality layer, which does not import `GenSqrt` -/
def sqrtStep (zero uno : Label) (st : List Label × List Label) (s : Nat) : Prog (List Label × List Label) := do
  let (x, c) := st
  let sm0 ← addSumTwoNumbers (c.drop (2 * s)) [uno] false
  let sm := sm0.dropLast
  let (subRes, per) ← addSubtractWithCompare (x.drop (2 * s)) sm false
  let xhi ← selLoop per subRes (x.drop (2 * s)) []
  let x' := x.take (2 * s) ++ xhi
  let c1 := c.drop 1 ++ [zero]
  let sm1 ← addSumTwoNumbers (c1.drop (2 * s)) [uno] false
  let chi ← selLoop per sm1.dropLast (c1.drop (2 * s)) []
  pure (x', c1.take (2 * s) ++ chi)

/-- before position `j`, for a divisor `B ≠ 0`: the quotient bits from `j` up are the largest `Q` with `Q·B·2^j ≤ A`,
and the second component is what is left of `A` -/
structure DivInv (v : Label → Bool) (n A B : Nat) (j : Nat) (st : List Label × List Label) : Prop where
  rl : st.1.length = n
  nl : st.2.length = n
  ar : 0 < B → valLE v st.2 + valLE v (st.1.drop j) * B * 2 ^ j = A ∧ A < (valLE v (st.1.drop j) + 1) * B * 2 ^ j

theorem valLE_drop_set (v : Label → Bool) (l : List Label) (i : Nat) (x : Label) (hi : i < l.length) :
    valLE v ((l.set i x).drop i) = bv v x + 2 * valLE v (l.drop (i + 1)) := by
  rw [List.drop_set_self l i x hi]; rfl

theorem sem_divStep {v : Label → Bool} {b0 pref : List Label} {n A : Nat} (hb : b0.length = n)
    (hpref : PrefOK v b0 pref) (i : Nat) (st st' : List Label × List Label) (hi1 : 1 ≤ i) (hin : i < n)
    (hinv : DivInv v n A (valLE v b0) (i + 1) st) (h : Sem (divStep b0 pref n st i) v st') :
    DivInv v n A (valLE v b0) i st' := by
  obtain ⟨k, rfl⟩ : ∃ k, i = k + 1 := ⟨i - 1, by omega⟩
  obtain ⟨m, rfl⟩ : ∃ m, n = k + 1 + m := ⟨n - (k + 1), by omega⟩
  obtain ⟨result, now⟩ := st
  obtain ⟨rl, nl, har⟩ := hinv
  simp only [divStep, Nat.add_sub_cancel, Nat.add_sub_cancel_left] at h
  split at h
  · exact absurd h sem_fail
  · rename_i prov hprov
    simp only [sem_bind, sem_pure] at h
    obtain ⟨⟨subRes, per⟩, hsub, ri, hri, hi, hmux, rfl⟩ := h
    obtain ⟨lol, hil, hN⟩ := valLE_split v nl
    obtain ⟨bll, _, hB⟩ := valLE_split v (hb.trans (Nat.add_comm _ m))
    obtain ⟨s1, s2, s3⟩ := sem_subCompareLE hsub (bll.trans hil.symm)
    obtain ⟨hi', e1, e2, e3⟩ := sem_muxLoop _ _ [] _ hmux s1
    have hriv : v ri = (!v prov && !v per) := by rw [sem_emitTT hri]; cases v prov <;> cases v per <;> rfl
    have hL := valLE_lt v (now.take (k + 1))
    have hH := valLE_lt v (now.drop (k + 1))
    rw [lol] at hL; rw [hil] at hH s2
    subst e1
    refine ⟨by rw [List.length_set]; exact rl, by rw [List.length_append, lol, e2, hil], fun hB0 => ?_⟩
    rw [valLE_drop_set v result _ ri (by rw [rl]; omega), valLE_append, lol]
    have har := har hB0
    rw [hN, Nat.pow_succ] at har
    exact div_step hL (hB ▸ div_digit hH s2 s3 (hpref k m prov hprov hb.symm) hriv e3) har

theorem sem_addDivMod {v : Label → Bool} {a b q r : List Label} {be : Bool}
    (h : Sem (addDivMod a b be) v (q, r)) :
    q.length = a.length ∧ r.length = a.length ∧
    (valLE v (revIf b be) = 0 → valLE v (revIf q be) = 0 ∧ valLE v (revIf r be) = 0) ∧
    (0 < valLE v (revIf b be) →
      valLE v (revIf q be) = valLE v (revIf a be) / valLE v (revIf b be) ∧
      valLE v (revIf r be) = valLE v (revIf a be) % valLE v (revIf b be)) := by
  unfold addDivMod at h
  simp only [] at h
  rw [← revIf_length a be]
  generalize revIf a be = a0 at h ⊢
  generalize revIf b be = b0 at h ⊢
  split at h
  · exact absurd h sem_fail
  rename_i hlen
  have hab : b0.length = a0.length := Eq.symm (by simpa using hlen)
  split at h
  · exact absurd h sem_fail
  rename_i bTop hlast
  simp only [sem_bind] at h
  obtain ⟨pref, hpref, ⟨result, now⟩, hloop, ⟨subRes, per⟩, hsub, r0, hr0, now1, hmux, h⟩ := h
  obtain ⟨binit, hb0⟩ := List.getLast?_eq_some_iff.mp hlast
  obtain ⟨n0, hn⟩ : ∃ n0, a0.length = n0 + 1 := ⟨binit.length, by rw [← hab, hb0, List.length_append, List.length_singleton]⟩
  rw [hn] at hab
  simp only [hn, Nat.add_sub_cancel, List.range_eq_range', List.drop_range', Nat.zero_add, Nat.one_mul] at hpref hloop
  have hp0 : PrefOK v b0 ([] ++ [bTop]) :=
    PrefOK.snoc (j := binit.length) (fun _ _ _ hp => nomatch hp) (by rw [hb0, List.length_append]; exact Nat.add_comm 1 _) (by
      rw [hb0, List.drop_left]
      simp only [valLE, bv]
      cases v bTop <;> simp)
  obtain ⟨hpl, hpv⟩ := sem_prefLoop (n0 - 1) [bTop] pref (List.cons_ne_nil _ _) (by rw [hab, List.length_singleton]; omega)
    hp0 hpref
  have hA := valLE_lt v a0
  rw [hn, Nat.add_comm] at hA
  obtain ⟨rl, nl, har⟩ := sem_progFold_desc (v := v) (DivInv v (n0 + 1) (valLE v a0) (valLE v b0)) n0 1 _ (result, now)
    ⟨List.length_replicate .., hn, fun hb => by
      rw [List.drop_of_length_le (by rw [List.length_replicate]; omega)]
      exact ⟨by simp [valLE], by simpa [valLE] using Nat.lt_of_lt_of_le hA (Nat.le_mul_of_pos_left _ hb)⟩⟩
    (fun i st st' h1 h2 => sem_divStep hab hpv i st st' h1 (by omega)) hloop
  dsimp only at rl nl har
  -- the last subtraction (shift 0)
  dsimp only at hsub hr0 hmux
  obtain ⟨s1, s2, s3⟩ := sem_subCompareLE hsub (hab.trans nl.symm)
  obtain ⟨hi', rfl, e2, e3⟩ := sem_muxLoop _ _ [] _ hmux s1
  have hr0v : v r0 = (!false && !v per) := by rw [sem_emitTT hr0]; cases v per <;> rfl
  have hfin := fun hb => div_step (L := 0) (W := 1) Nat.one_pos
    (div_digit (Bh := 0) (valLE_lt v now) s2 s3 (by simp) hr0v e3) (by simpa only [Nat.zero_add, Nat.one_mul, Nat.pow_one, Nat.mul_zero, Nat.add_zero] using har hb)
  simp only [Nat.mul_one, Nat.one_mul, Nat.zero_add, Nat.mul_zero, Nat.add_zero] at hfin
  have hq1 : valLE v (result.set 0 r0) = bv v r0 + 2 * valLE v (result.drop 1) :=
    valLE_drop_set v result 0 r0 (by omega)
  split at h
  · rename_i p bLow btl hplast
    simp only [sem_bind, sem_pure, Prod.mk.injEq] at h
    obtain ⟨nz, hnz, result2, hres2, now2, hnow2, rfl, rfl⟩ := h
    obtain ⟨g1, rfl, f2, f3⟩ := sem_andAll _ [] _ hres2
    obtain ⟨g2, rfl, k2, k3⟩ := sem_andAll _ [] _ hnow2
    have hnzv : v nz = true ↔ valLE v (bLow :: btl) ≠ 0 := by
      rw [List.getLast?_eq_getElem?, hpl, List.length_singleton, Nat.add_sub_cancel_left] at hplast
      rcases Nat.eq_zero_or_pos n0 with rfl | hpos
      · have hp := hpv _ 0 p hplast hab.symm
        obtain rfl : btl = [] := List.eq_nil_of_length_eq_zero (Nat.succ.inj hab)
        rw [sem_emitTT hnz]
        simp only [List.drop_zero, valLE, bv] at hp ⊢
        cases hvp : v p <;> cases hvb : v bLow <;> simp [hvp, hvb, ttApply, t0111] at hp ⊢
      · exact or_ne_zero hnz rfl (hpv _ 1 p hplast (by rw [hab, Nat.sub_add_cancel hpos]))
    refine ⟨by rw [revIf_length, f2, List.length_set, rl, hn], by rw [revIf_length, k2, e2, nl, hn], ?_, ?_⟩
    · intro hb
      have hz : v nz = false := Bool.eq_false_iff.mpr fun hz => hnzv.mp hz hb
      rw [revIf_revIf, revIf_revIf, f3, k3, hz]
      exact ⟨rfl, rfl⟩
    · intro hb
      rw [revIf_revIf, revIf_revIf, f3, k3, hnzv.mpr (Nat.ne_of_gt hb), if_pos rfl, if_pos rfl, hq1]
      obtain ⟨h1, h2⟩ := hfin hb
      rw [Nat.add_mul, Nat.one_mul] at h2
      exact ((Nat.div_mod_unique hb).mpr ⟨by rw [Nat.mul_comm]; exact h1, by omega⟩).imp Eq.symm Eq.symm
  · exact absurd h sem_fail

end Cirbo
