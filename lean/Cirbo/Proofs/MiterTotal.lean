import Cirbo.Proofs.ConnTotal
import Cirbo.Proofs.MiterFull
import Std.Data.String.ToNat
/-!
# `build_miter` returns

A connection under a block name returns when the name is apart from every label and block name in use; `Scoped`
keeps those as a list of names, and the four names of a miter are pairwise `Apart`.
-/
namespace Cirbo
open GateType

/-- no string begins with both `a` and `b`: prefixed by them, labels and block names stay apart -/
def Apart (a b : String) : Prop := ∀ x y : String, a ++ x ≠ b ++ y

/-- two strings that differ at a position both have are apart -/
theorem apart_of_zip {a b : String} (h : ((a.toList.zip b.toList).any fun p => p.1 != p.2) = true) : Apart a b := by
  obtain ⟨p, hp, hne⟩ := List.any_eq_true.mp h
  obtain ⟨i, hi⟩ := List.mem_iff_getElem?.mp hp
  obtain ⟨ha, hb⟩ := List.getElem?_zip_eq_some.mp hi
  intro x y e
  have := congrArg (fun s => s.toList[i]?) e
  simp only [String.toList_append] at this
  rw [List.getElem?_append_left (List.getElem?_eq_some_iff.mp ha).1,
    List.getElem?_append_left (List.getElem?_eq_some_iff.mp hb).1, ha, hb] at this
  exact (by simpa using hne : p.1 ≠ p.2) (Option.some.inj this)

theorem Apart.ne {a b : String} (h : Apart a b) : a ≠ b := fun e => h "" "" (by rw [e])

theorem Apart.ne_empty {a b : String} (h : Apart a b) : b ≠ "" := fun e =>
  h "" a (by rw [e, String.append_empty, String.empty_append])

theorem Apart.ne_sep {a b : String} (h : Apart a b) (s y : String) : a ≠ b ++ s ++ y := fun e =>
  h "" (s ++ y) (by rw [String.append_empty, ← String.append_assoc]; exact e)

theorem Apart.sep_ne {a b : String} (h : Apart a b) (s x : String) : a ++ s ++ x ≠ b := fun e =>
  h (s ++ x) "" (by rw [String.append_empty, ← String.append_assoc]; exact e)

theorem Apart.sep_sep {a b : String} (h : Apart a b) (s x y : String) : a ++ s ++ x ≠ b ++ s ++ y := fun e =>
  h (s ++ x) (s ++ y) (by rw [← String.append_assoc, ← String.append_assoc]; exact e)

theorem genLabels_mem {pre : String} {n : Nat} {l : Label} :
    l ∈ genLabels pre n ↔ ∃ i, i < n ∧ l = pre ++ "_" ++ toString i := by
  simp only [genLabels, List.mem_map, List.mem_range, eq_comm]

theorem genLabels_nodup (pre : String) (n : Nat) : (genLabels pre n).Nodup :=
  List.nodup_range.map _ fun _ _ hab e => hab (Nat.repr_injective ((String.append_right_inj _).mp e))

/-- the three families of labels of `generate_pairwise_xor` are disjoint: `x_…` and `y_…` differ in the
first character, and both differ from `xor_…` within the first two -/
theorem genLabels_disjoint {n m : Nat} {l : Label} :
    (l ∈ genLabels "x" n → l ∉ genLabels "y" m) ∧
    (l ∈ genLabels "xor" n → l ∉ genLabels "x" m ∧ l ∉ genLabels "y" m) := by
  have xy : Apart "x" "y" := apart_of_zip (by decide)
  have zx : Apart "xor" ("x" ++ "_") := apart_of_zip (by decide)
  have zy : Apart "xor" "y" := apart_of_zip (by decide)
  simp only [genLabels_mem]
  refine ⟨?_, ?_⟩
  · rintro ⟨i, _, rfl⟩ ⟨j, _, e⟩
    exact xy.sep_sep _ _ _ e
  · rintro ⟨i, _, rfl⟩
    exact ⟨fun ⟨j, _, e⟩ => zx _ _ ((String.append_assoc ..).symm.trans e), fun ⟨j, _, e⟩ => zy.sep_sep _ _ _ e⟩

theorem pairwiseXor_total (n : Nat) : ∃ px, pairwiseXorCircuit n = .ok px := by
  obtain ⟨c1, h1⟩ := addInputs_returns (genLabels "x" n) Circuit.empty (by
    simpa [Circuit.empty, Circuit.labels] using genLabels_nodup "x" n)
  have hl1 : c1.labels = genLabels "x" n := by
    rw [labels_append_gates (addInputs_spec _ _ _ h1).1]; simp [Circuit.empty, Circuit.labels, Function.comp_def]
  obtain ⟨c2, h2⟩ := addInputs_returns (genLabels "y" n) c1 (by
    rw [hl1]
    exact List.nodup_append.mpr ⟨genLabels_nodup _ _, genLabels_nodup _ _, fun a ha b hb e => genLabels_disjoint.1 ha (e ▸ hb)⟩)
  have hl2' : ∀ l, l ∈ c2.labels ↔ l ∈ genLabels "x" n ∨ l ∈ genLabels "y" n := fun l => by
    rw [labels_append_gates (addInputs_spec _ _ _ h2).1, hl1]; simp [Function.comp_def]
  have hp : ∀ p ∈ ((genLabels "x" n).zip (genLabels "y" n)).zip (genLabels "xor" n),
      p.2 ∉ c2.labels ∧ p.1.1 ∈ c2.labels ∧ p.1.2 ∈ c2.labels := by
    intro p hp
    obtain ⟨hp1, hp2⟩ := List.of_mem_zip hp
    obtain ⟨hpx, hpy⟩ := List.of_mem_zip hp1
    have := genLabels_disjoint (m := n).2 hp2
    exact ⟨fun hm => ((hl2' _).mp hm).elim this.1 this.2, (hl2' _).mpr (Or.inl hpx), (hl2' _).mpr (Or.inr hpy)⟩
  simp only [pairwiseXorCircuit, R.bind_ok_iff]
  refine Exists.imp (fun c3 h3 => ⟨c1, h1, c2, h2, h3.1⟩) <|
    foldlR_total (L := ((genLabels "x" n).zip (genLabels "y" n)).zip (genLabels "xor" n))
    (P := fun done c => WFS c ∧ ∀ l, l ∈ c.labels ↔ l ∈ c2.labels ∨ l ∈ done.map (·.2)) (by
      rintro pre p q c e ⟨w, hl⟩
      obtain ⟨hf, h1, h2⟩ := hp p (by simp [e])
      have hnd : ((((genLabels "x" n).zip (genLabels "y" n)).zip (genLabels "xor" n)).map (·.2)).Nodup := by
        rw [List.map_snd_zip (by simp [genLabels])]; exact genLabels_nodup _ _
      rw [e, List.map_append, List.map_cons, List.nodup_append] at hnd
      obtain ⟨ca, ha, hla⟩ := addGate_returns (n := c) (g := ⟨p.2, XOR, [p.1.1, p.1.2]⟩)
        (fun hm => ((hl _).mp hm).elim hf fun hm => hnd.2.2 _ hm _ (by simp) rfl) (by simp [hl, h1, h2])
      have hm : ca.markAsOutput p.2 = .ok { ca with outputs := ca.outputs ++ [p.2] } :=
        markAsOutput_ok_iff.mpr ⟨by simp [hla], rfl⟩
      refine ⟨_, by simp only [ha, hm], markAsOutput_wfs (addGate_wfs w (by intro e; cases e) ha) hm, fun l => ?_⟩
      show l ∈ ca.labels ↔ _
      simp [hla, hl, or_assoc])
    _ [] c2 rfl ⟨addInputs_wfs _ (addInputs_wfs _ wfs_empty h1) h2, by simp⟩

theorem miterNames_default : List.Pairwise Apart ["big_or", "pairwise_xor", "circuit_right", "circuit_left"] :=
  (by decide : List.Pairwise (fun a b : String => ((a.toList.zip b.toList).any fun p => p.1 != p.2) = true)
    ["big_or", "pairwise_xor", "circuit_right", "circuit_left"]).imp apart_of_zip

/-- what is asked of an operand: the invariant, distinct block names, block outputs that exist -/
structure MiterOperand (c : Circuit) : Prop where
  wfs : WFS c
  bnd : (c.blocks.map (·.name)).Nodup
  bout : ∀ b ∈ c.blocks, ∀ l ∈ b.outputs, l ∈ c.labels

theorem connPre_true {name : Label} (h : name ≠ "") : connPre name true = name ++ "@" := by
  unfold connPre
  have : (name != "") = true := by simpa using h
  simp [this]

theorem blocks_any_false {bs : List Block} {n : Label} (h : ∀ b ∈ bs, b.name ≠ n) :
    bs.any (fun b => b.name == n) = false := by
  rw [List.any_eq_false]; intro b hb; simpa using h b hb

/-- every label of `c` is `n@…` for one of the names `ns`, and every block is called `n` or `n@…` -/
def Scoped (ns : List String) (c : Circuit) : Prop :=
  (∀ l ∈ c.labels, ∃ n ∈ ns, ∃ x, l = n ++ "@" ++ x) ∧
  ∀ b ∈ c.blocks, ∃ n ∈ ns, b.name = n ∨ ∃ x, b.name = n ++ "@" ++ x

theorem connect_left_scoped {c other : Circuit} {thisC otherC : List Label} {name : Label} {ns : List String}
    (hw : WFS c) (hO : MiterOperand other) (hs : Scoped ns c) (ha : ∀ n ∈ ns, Apart name n) (hn : name ≠ "")
    (hthis : ∀ l ∈ thisC, l ∈ c.labels)
    (hoth : ∀ l ∈ otherC, (other.find? l).map (·.ty) = some INPUT) (hndo : otherC.Nodup)
    (hlen : thisC.length = otherC.length) :
    ∃ c' φ, c.connectCircuit other thisC otherC false name true = .ok c' ∧ WFS c' ∧ Scoped (name :: ns) c' ∧
      Connected c other thisC otherC false name (connPre name true) φ c' := by
  have hp := connPre_true hn
  obtain ⟨c', h⟩ := connect_total (right := false) (addP := true) hw hO.wfs
    (blocks_any_false fun b hb e => by
      obtain ⟨n, hn', h1 | ⟨x, h1⟩⟩ := hs.2 b hb
      · exact (ha n hn').ne (e.symm.trans h1)
      · exact (ha n hn').ne_sep _ _ (e.symm.trans h1))
    hthis (fun l hl => by obtain ⟨g, hg, rfl, _⟩ := gate_of_find_ty (hoth l hl); exact mem_labels_of_mem hg)
    hndo nofun hlen hoth
    (fun g _ _ hm => by
      obtain ⟨n, hn', x, h1⟩ := hs.1 _ hm
      exact (ha n hn').sep_sep _ _ _ (hp ▸ h1))
    (fun b _ => blocks_any_false fun b' hb' e => by
      obtain ⟨n, hn', h1 | ⟨x, h1⟩⟩ := hs.2 b' hb'
      · exact (ha n hn').sep_ne _ _ ((hp ▸ e).symm.trans h1)
      · exact (ha n hn').sep_sep _ _ _ ((hp ▸ e).symm.trans h1)) hO.bnd hO.bout
  have hc := connect_spec hO.wfs.toWFG h
  refine ⟨c', _, h, connect_wfs hw hO.wfs h, ⟨fun l hl => ?_, fun b hb => ?_⟩, hc⟩
  · rcases hc.labels l hl with h1 | ⟨l0, _, h1⟩
    · obtain ⟨n, hn', r⟩ := hs.1 l h1
      exact ⟨n, List.mem_cons_of_mem _ hn', r⟩
    · exact ⟨name, List.mem_cons_self, l0, hp ▸ h1⟩
  · rcases hc.names b hb with h1 | ⟨b0, hb0, h1⟩ | ⟨b0, _, h1⟩
    · exact ⟨name, List.mem_cons_self, Or.inl h1⟩
    · obtain ⟨n, hn', r⟩ := hs.2 b0 hb0
      exact ⟨n, List.mem_cons_of_mem _ hn', h1 ▸ r⟩
    · exact ⟨name, List.mem_cons_self, Or.inr ⟨b0.name, hp ▸ h1⟩⟩

theorem buildMiter_total {left right : Circuit} {ln rn : Label}
    (hN : List.Pairwise Apart ["big_or", "pairwise_xor", rn, ln])
    (hL : MiterOperand left) (hR : MiterOperand right)
    (hi : left.inputs.length = right.inputs.length) (ho : left.outputs.length = right.outputs.length) :
    ∃ m, buildMiter left right ln rn = .ok m := by
  obtain ⟨hb, hN⟩ := List.pairwise_cons.mp hN
  obtain ⟨hp, hN⟩ := List.pairwise_cons.mp hN
  obtain ⟨hr, _⟩ := List.pairwise_cons.mp hN
  have hln : ln ≠ "" := (hr ln (by simp)).ne_empty
  have hrn : rn ≠ "" := (hp rn (by simp)).ne_empty
  obtain ⟨m0, φ0, h0, w0, s0, hc0⟩ := connect_left_scoped (c := Circuit.empty) (thisC := []) (otherC := []) (ns := []) wfs_empty hL
    ⟨by simp [Circuit.empty, Circuit.labels], by simp [Circuit.empty]⟩ nofun hln nofun nofun List.nodup_nil rfl
  obtain ⟨fb0, hgb0, _⟩ := hc0.block hln
  obtain ⟨hbm0, _⟩ := getBlock_name hgb0
  have hthis1 : ∀ l ∈ left.inputs.map φ0, l ∈ m0.labels := fun l hl => (w0.blocksOK _ hbm0).2 l hl
  obtain ⟨m1, φ1, h1, w1, s1, hc1⟩ := connect_left_scoped (thisC := left.inputs.map φ0) (otherC := right.inputs) w0 hR s0 hr hrn
    hthis1 (hR.wfs.inputs_are_inputs) hR.wfs.inputsNodup (by simp [hi])
  obtain ⟨fb1, hgb1, _⟩ := hc1.block hrn
  obtain ⟨ex1, hex1⟩ := hc1.appends rfl
  have hgbl1 : m1.getBlock ln = .ok ⟨ln, left.inputs.map φ0, fb0, left.outputs.map φ0⟩ :=
    hc1.older ln _ (fun e => (hr ln (by simp)).ne e.symm) hgb0
  obtain ⟨px, hpx0⟩ := pairwiseXor_total left.outputs.length
  obtain ⟨wpx, pxin, pxout, pxg, pxb⟩ := pairwiseXor_spec hpx0
  have m0sub : ∀ l ∈ m0.labels, l ∈ m1.labels := by
    intro l hl; unfold Circuit.labels at hl ⊢; rw [hex1]; simp only [List.map_append, List.mem_append]; exact Or.inl hl
  have hthis2 : ∀ l ∈ left.outputs.map φ0 ++ right.outputs.map φ1, l ∈ m1.labels := by
    intro l hl
    rcases List.mem_append.mp hl with hl | hl
    · obtain ⟨o, ho', rfl⟩ := List.mem_map.mp hl
      obtain ⟨g, hg, rfl⟩ := gate_of_label (hL.wfs.outputsOK o ho')
      exact m0sub _ (mem_labels_of_mem (hc0.placed g hg nofun))
    · obtain ⟨o, ho', rfl⟩ := List.mem_map.mp hl
      by_cases hoc : o ∈ right.inputs
      · exact m0sub _ (hthis1 _ (hc1.conn ▸ List.mem_map_of_mem hoc))
      · obtain ⟨g, hg, rfl⟩ := gate_of_label (hR.wfs.outputsOK o ho')
        exact mem_labels_of_mem (hc1.placed g hg fun hm => absurd hm hoc)
  obtain ⟨m2, φ2, h2, w2, s2, hc2⟩ := connect_left_scoped (thisC := left.outputs.map φ0 ++ right.outputs.map φ1)
    (otherC := px.inputs) w1 ⟨wpx, by rw [pxb]; simp, by rw [pxb]; nofun⟩ s1 hp (by decide : "pairwise_xor" ≠ "")
    hthis2 (wpx.inputs_are_inputs) wpx.inputsNodup (by rw [pxin]; simp [genLabels_length, ho])
  obtain ⟨fb2, hgb2, _⟩ := hc2.block (by decide)
  have hbxo : ∀ o ∈ px.outputs.map φ2, o ∈ m2.labels := by
    intro l hl
    obtain ⟨o, ho', rfl⟩ := List.mem_map.mp hl
    obtain ⟨i, hi', rfl⟩ := genLabels_mem.mp (pxout ▸ ho')
    -- an output of the xor stage is an XOR gate, hence not one of its inputs
    have hg := pxg i hi'
    exact mem_labels_of_mem (hc2.placed _ hg fun hm => absurd hm (wpx.gate_not_input hg (by simp)))
  obtain ⟨m3, h3, hl3⟩ := addGate_returns (n := m2)
    (g := ⟨"big_or", if (px.outputs.map φ2).length = 1 then IFF else OR, px.outputs.map φ2⟩)
    (fun hm => by
      obtain ⟨n, hn', x, e⟩ := s2.1 _ hm
      exact (hb n hn').ne_sep _ _ e)
    hbxo
  obtain ⟨m, h4⟩ := setOutputs_returns (n := m3) (outs := ["big_or"]) (by simp [hl3])
  exact ⟨m, buildMiter_ok_iff.mpr ⟨hi, ho, m0, h0, _, hgb0, m1, h1, px, hpx0, _, hgbl1, _, hgb1, m2, h2, _, hgb2, m3, h3, h4⟩⟩

end Cirbo
