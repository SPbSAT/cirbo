import Cirbo.Proofs.BenchDoc
import Cirbo.Proofs.FoldR
import Cirbo.Proofs.Mutate
/-! # What a bench document says (C11): every line a statement (`Stmt`); a text of statements parses to their circuit in
whatever order they come, provided every operand is defined somewhere in it (`parseBench_stmts`) -/
namespace Cirbo
open GateType

inductive Stmt
  | skip                      -- blank line or comment
  | gate (g : Gate)           -- `l = OP(a, b)`, `INPUT(l)` (an INPUT gate), `l = vdd`
  | output (l : Label)        -- `OUTPUT(l)`

def Stmt.apply : Stmt → Circuit → Circuit
  | .skip, c => c
  | .gate g, c => c.rawAddGate g
  | .output l, c => { c with outputs := c.outputs ++ [l] }

def stmtGates : List Stmt → List Gate
  | [] => []
  | .gate g :: r => g :: stmtGates r
  | _ :: r => stmtGates r

def stmtOuts : List Stmt → List Label
  | [] => []
  | .output l :: r => l :: stmtOuts r
  | _ :: r => stmtOuts r

theorem stmtGates_append (a b : List Stmt) : stmtGates (a ++ b) = stmtGates a ++ stmtGates b := by
  induction a with
  | nil => rfl
  | cons s t ih => cases s <;> simp [stmtGates, ih]

theorem stmtOuts_append (a b : List Stmt) : stmtOuts (a ++ b) = stmtOuts a ++ stmtOuts b := by
  induction a with
  | nil => rfl
  | cons s t ih => cases s <;> simp [stmtOuts, ih]

theorem stmts_map_gate (gs : List Gate) : stmtGates (gs.map .gate) = gs ∧ stmtOuts (gs.map .gate) = [] := by
  induction gs with
  | nil => exact ⟨rfl, rfl⟩
  | cons g t ih => simp [stmtGates, stmtOuts, ih]

theorem stmts_map_output (ls : List Label) : stmtGates (ls.map .output) = [] ∧ stmtOuts (ls.map .output) = ls := by
  induction ls with
  | nil => exact ⟨rfl, rfl⟩
  | cons l t ih => simp [stmtGates, stmtOuts, ih]

theorem applyStmts_fields : ∀ (ss : List Stmt) (n : Circuit), (n.labels ++ (stmtGates ss).map (·.label)).Nodup →
    (ss.foldl (fun n s => s.apply n) n).gates = n.gates ++ stmtGates ss ∧
    (ss.foldl (fun n s => s.apply n) n).inputs = n.inputs ++ ((stmtGates ss).filter (fun g => g.ty = INPUT)).map (·.label) ∧
    (ss.foldl (fun n s => s.apply n) n).outputs = n.outputs ++ stmtOuts ss := by
  intro ss
  induction ss with
  | nil => intro n _; simp [stmtGates, stmtOuts]
  | cons s t ih =>
    intro n hnd
    simp only [List.foldl_cons]
    cases s with
    | skip => exact ih n hnd
    | output l =>
      obtain ⟨a, b, d⟩ := ih { n with outputs := n.outputs ++ [l] } hnd
      exact ⟨a, b, by rw [show (Stmt.output l).apply n = { n with outputs := n.outputs ++ [l] } from rfl, d]; simp [stmtOuts]⟩
    | gate g =>
      rw [show (Stmt.gate g).apply n = n.rawAddGate g from rfl]
      simp only [stmtGates, stmtOuts, List.map_cons] at hnd ⊢
      have hfresh : g.label ∉ n.labels :=
        fun hm => (List.nodup_append.mp hnd).2.2 g.label hm g.label (by simp) rfl
      obtain ⟨a, b, d, _⟩ := rawAddGate_fields hfresh
      obtain ⟨a2, b2, d2⟩ := ih (n.rawAddGate g) (by
        unfold Circuit.labels; rw [a]
        simpa [Circuit.labels] using hnd)
      refine ⟨by rw [a2, a]; simp, ?_, by rw [d2, d]⟩
      rw [b2, b]
      by_cases ht : g.ty = INPUT <;> simp [ht]

theorem parseBench_stmts {text : Str} {ss : List Stmt}
    (h : DocSem text (fun c => ss.foldl (fun n s => s.apply n) c))
    (hnd : ((stmtGates ss).map (·.label)).Nodup) :
    let gs := stmtGates ss
    if gs.all (fun g => g.ops.all (fun o => gs.any (fun x => x.label == o))) then
      ∃ c, parseBench text = .ok c ∧ c.gates = gs ∧
        c.inputs = (gs.filter (fun g => g.ty = INPUT)).map (·.label) ∧ c.outputs = stmtOuts ss
    else parseBench text = .error "CircuitValidationError" := by
  intro gs
  obtain ⟨a, b, d⟩ := applyStmts_fields ss Circuit.empty (by
    simpa [Circuit.labels, Circuit.empty] using hnd)
  generalize hR : ss.foldl (fun n s => s.apply n) Circuit.empty = R at a b d
  simp only [Circuit.empty, List.nil_append] at a b d
  unfold parseBench
  rw [foldlR_eq_foldlM (f := parseLine) (fun _ _ => rfl) (fun _ _ => rfl), show (splitLines text).foldlM parseLine Circuit.empty = .ok R from hR ▸ h Circuit.empty]
  have hh : R.hasGate = fun o => gs.any (fun x => x.label == o) := by
    funext o; unfold Circuit.hasGate; rw [a]
  simp only [a, hh]
  split
  · exact ⟨_, rfl, a, b, d⟩
  · rfl

/-- lines (without their terminators) with what each says -/
abbrev StmtLines := List (Str × Stmt)

def docText (ls : StmtLines) : Str := unl (ls.map (·.1))

theorem parse_document (ls : StmtLines) (h : ∀ p ∈ ls, LineSem p.1 p.2.apply)
    (hnd : ((stmtGates (ls.map (·.2))).map (·.label)).Nodup) :
    let gs := stmtGates (ls.map (·.2))
    if gs.all (fun g => g.ops.all (fun o => gs.any (fun x => x.label == o))) then
      ∃ c, parseBench (docText ls) = .ok c ∧ c.gates = gs ∧
        c.inputs = (gs.filter (fun g => g.ty = INPUT)).map (·.label) ∧ c.outputs = stmtOuts (ls.map (·.2))
    else parseBench (docText ls) = .error "CircuitValidationError" :=
  parseBench_stmts (by simpa only [docText, List.foldl_map] using DocSem.unl h) hnd

theorem parse_order_independent (l1 l2 : StmtLines) (h1 : ∀ p ∈ l1, LineSem p.1 p.2.apply)
    (h2 : ∀ p ∈ l2, LineSem p.1 p.2.apply)
    (hnd : ((stmtGates (l1.map (·.2))).map (·.label)).Nodup)
    (hperm : (stmtGates (l1.map (·.2))).Perm (stmtGates (l2.map (·.2))))
    (hin : (stmtGates (l1.map (·.2))).filter (fun g => g.ty = INPUT) = (stmtGates (l2.map (·.2))).filter (fun g => g.ty = INPUT))
    (hout : stmtOuts (l1.map (·.2)) = stmtOuts (l2.map (·.2)))
    {c1 : Circuit} (hp1 : parseBench (docText l1) = .ok c1) :
    ∃ c2, parseBench (docText l2) = .ok c2 ∧ c2.inputs = c1.inputs ∧ c2.outputs = c1.outputs ∧
      c2.gates.Perm c1.gates ∧ ∀ b v, IsValB c1 b v ↔ IsValB c2 b v := by
  have d1 := parse_document l1 h1 hnd
  have d2 := parse_document l2 h2 ((hperm.map _).nodup_iff.mp hnd)
  simp only at d1 d2
  -- the validity condition speaks of membership only, so it is invariant under the rearrangement
  have hc : (stmtGates (l2.map (·.2))).all (fun g => g.ops.all (fun o => (stmtGates (l2.map (·.2))).any (fun x => x.label == o)))
      = (stmtGates (l1.map (·.2))).all (fun g => g.ops.all (fun o => (stmtGates (l1.map (·.2))).any (fun x => x.label == o))) := by
    rw [Bool.eq_iff_iff]
    simp only [List.all_eq_true, List.any_eq_true, hperm.mem_iff]
  split at d1
  · rename_i hok
    obtain ⟨c1', e1, g1, i1, o1⟩ := d1
    rw [hp1] at e1
    cases e1
    rw [hc, if_pos hok] at d2
    obtain ⟨c2, e2, g2, i2, o2⟩ := d2
    refine ⟨c2, e2, by rw [i2, i1, hin], by rw [o2, o1, hout], by rw [g2, g1]; exact hperm.symm, ?_⟩
    intro b v
    unfold IsValB
    simp only [g1, g2, hperm.mem_iff]
  · rw [hp1] at d1; cases d1

end Cirbo
