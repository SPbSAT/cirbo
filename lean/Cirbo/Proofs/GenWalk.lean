import Cirbo.Proofs.GenContract
/-!
# Following a generator program with the counter alone

When no label still to be drawn is a gate of the circuit, every draw takes `newLabel ctr` at the first try, so the
path of the program is determined by the counter.  `Prog.walk` follows it without a circuit: evaluating it costs what
the program computes, not what the circuit model does with 36-character labels.
-/
namespace Cirbo
open Circuit

/-- result, final counter and number of gates added on the path where every draw takes `newLabel ctr`;
`pend` = the counters drawn and not yet added.  `none`: a draw meets its restriction list, a gate is added
under a label that is not pending, or the program raises. -/
def Prog.walk {α} : Prog α → Nat → List Nat → Option (α × Nat × Nat)
  | .pure a, ctr, _ => some (a, ctr, 0)
  | .fresh r k, ctr, pend =>
    if r.contains (newLabel ctr) then none else (k (newLabel ctr)).walk (ctr + 1) (ctr :: pend)
  | .add g _ k, ctr, pend =>
    match pend.find? (fun j => newLabel j == g.label) with
    | none => none
    | some j => (k.walk ctr (pend.filter (· != j))).map fun x => (x.1, x.2.1, x.2.2 + 1)
  | .mark _ k, ctr, pend => k.walk ctr pend
  | .fail _, _, _ => none

/-- no label that is still to be drawn (`ctr ≤ j`) or pending (`j ∈ pend`) is a gate -/
def NoneAhead (c : Circuit) (ctr : Nat) (pend : List Nat) : Prop :=
  ∀ j, j < 16 ^ 32 → newLabel j ∈ c.labels → j < ctr ∧ j ∉ pend

theorem freshLoop_first {c : Circuit} {r : List Label} {ctr : Nat} (n : Nat) (hlt : ctr < 16 ^ 32)
    (hc : c.hasGate (newLabel ctr) = false) (hr : r.contains (newLabel ctr) = false) :
    freshLoop c r (n + 1) ctr = .ok (newLabel ctr, ctr + 1) := by
  unfold freshLoop
  rw [if_neg (Nat.not_le.mpr hlt)]
  simp only [hc, hr, Bool.or_self, Bool.false_eq_true, if_false]

theorem walk_ctr_le {α} (p : Prog α) {ctr : Nat} {pend : List Nat} {a : α} {ctr' n : Nat}
    (h : p.walk ctr pend = some (a, ctr', n)) : ctr ≤ ctr' := by
  induction p generalizing ctr pend a ctr' n with
  | pure a0 => simp only [Prog.walk, Option.some.injEq, Prod.mk.injEq] at h; omega
  | fresh r k ih =>
    simp only [Prog.walk] at h
    split at h
    · cases h
    · have := ih _ h; omega
  | add g ok k ih =>
    simp only [Prog.walk] at h
    split at h
    · cases h
    · obtain ⟨x, hk, he⟩ := Option.map_eq_some_iff.mp h
      simp only [Prod.mk.injEq] at he
      obtain ⟨_, rfl, _⟩ := he
      exact ih hk
  | mark l k ih => exact ih h
  | fail e => cases h

theorem run_of_walk {α} (p : Prog α) {c : Circuit} {ctr : Nat} {pend : List Nat} {a : α} {ctr' n : Nat}
    (h : p.walk ctr pend = some (a, ctr', n)) (hb : ctr' ≤ 16 ^ 32) (hp : ∀ j ∈ pend, j < ctr)
    (hu : NoneAhead c ctr pend) :
    (∃ c', p.run ⟨c, ctr⟩ = .ok (a, ⟨c', ctr'⟩) ∧ c'.gates.length = c.gates.length + n) ∨
      p.run ⟨c, ctr⟩ = .error "CircuitValidationError" := by
  induction p generalizing c ctr pend a ctr' n with
  | pure a0 =>
    simp only [Prog.walk, Option.some.injEq, Prod.mk.injEq] at h
    obtain ⟨rfl, rfl, rfl⟩ := h
    exact Or.inl ⟨c, rfl, rfl⟩
  | fresh r k ih =>
    simp only [Prog.walk] at h
    split at h
    · cases h
    · rename_i hr
      have hlt : ctr < 16 ^ 32 := by have := walk_ctr_le _ h; omega
      have hfree : c.hasGate (newLabel ctr) = false := by
        cases hh : c.hasGate (newLabel ctr) with
        | false => rfl
        | true => have := (hu ctr hlt ((hasGate_iff c _).mp hh)).1; omega
      have hloop := freshLoop_first (c.gates.length + r.length) hlt hfree (Bool.not_eq_true _ ▸ hr)
      simp only [Prog.run, hloop]
      exact ih (newLabel ctr) h hb
        (fun j hj => by rcases List.mem_cons.mp hj with rfl | hj; omega; have := hp j hj; omega)
        (fun j hj hm => by
          obtain ⟨h1, h2⟩ := hu j hj hm
          exact ⟨by omega, by simp only [List.mem_cons, not_or]; exact ⟨by omega, h2⟩⟩)
  | add g ok k ih =>
    simp only [Prog.walk] at h
    split at h
    · cases h
    · rename_i j hj
      obtain ⟨⟨a0, c0, n0⟩, hk, he⟩ := Option.map_eq_some_iff.mp h
      simp only [Prod.mk.injEq] at he
      obtain ⟨rfl, rfl, rfl⟩ := he
      have hjp : j ∈ pend := List.mem_of_find?_eq_some hj
      have hjl : newLabel j = g.label := by simpa using List.find?_some hj
      have hjb : j < 16 ^ 32 := by have := hp j hjp; have := walk_ctr_le _ hk; omega
      simp only [Prog.run]
      cases hc : c.addGate g with
      | error e => rw [addGate_err hc]; exact Or.inr rfl
      | ok c1 =>
        obtain ⟨hl, _, rfl⟩ := addGate_ok_iff.mp hc
        rcases ih hk hb (fun i hi => hp i (List.mem_filter.mp hi).1)
          (fun i hi hm => by
            rw [labels_rawAddGate hl, List.mem_append, List.mem_singleton] at hm
            rcases hm with hm | hm
            · obtain ⟨h1, h2⟩ := hu i hi hm
              exact ⟨h1, fun hf => h2 (List.mem_filter.mp hf).1⟩
            · have hij : i = j := newLabel_inj hi hjb (hm.trans hjl.symm)
              subst hij
              exact ⟨hp i hjp, fun hf => by simpa using (List.mem_filter.mp hf).2⟩) with ⟨c', h1, h2⟩ | h1
        · refine Or.inl ⟨c', h1, ?_⟩
          rw [h2, (rawAddGate_fields hl).1, List.length_append, List.length_singleton]; omega
        · exact Or.inr h1
  | mark l k ih =>
    simp only [Prog.walk] at h
    simp only [Prog.run, markAsOutput]
    by_cases hl : c.hasGate l = true
    · simp only [hl, if_true]
      exact ih (c := { c with outputs := c.outputs ++ [l] }) h hb hp hu
    · simp only [hl]
      exact Or.inr rfl
  | fail e => cases h

theorem run_of_walk_of_ok {α} {p : Prog α} {c : Circuit} {Q : α → GSt → Prop} {a : α} {ctr' n : Nat}
    (hok : Ok p ⟨c, 0⟩ Q) (hw : p.walk 0 [] = some (a, ctr', n)) (hb : ctr' ≤ 16 ^ 32)
    (hc : ∀ j, j < 16 ^ 32 → newLabel j ∉ c.labels) :
    ∃ c', p.run ⟨c, 0⟩ = .ok (a, ⟨c', ctr'⟩) ∧ c'.gates.length = c.gates.length + n := by
  rcases run_of_walk p hw hb (fun _ hj => by cases hj) (fun j hj hm => absurd hm (hc j hj)) with h | h
  · exact h
  · rcases hok with ⟨_, _, h', _⟩ | h' <;> rw [h] at h' <;> simp at h'

/-- the bind is part of the statement: rewriting below it makes the kernel evaluate the run -/
theorem run_eq_of_walk {α} {p : Prog α} {host : R Circuit} {c : Circuit} {Q : α → GSt → Prop} {a : α} {ctr' n : Nat}
    (hh : host = .ok c) (hok : Ok p ⟨c, 0⟩ Q) (hw : p.walk 0 [] = some (a, ctr', n)) (hb : ctr' ≤ 16 ^ 32)
    (hc : ∀ l ∈ c.labels, "new_".toList.isPrefixOf l.toList = false) :
    ∃ c', (host >>= fun c => p.run ⟨c, 0⟩) = .ok (a, ⟨c', ctr'⟩) ∧ c'.gates.length = c.gates.length + n := by
  subst hh
  exact run_of_walk_of_ok hok hw hb fun j _ hm => by
    have := hc _ hm
    simp [newLabel, String.toList_append] at this

end Cirbo
