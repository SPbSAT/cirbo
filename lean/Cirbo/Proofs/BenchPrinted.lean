import Cirbo.Proofs.BenchLines
/-! # The lines `format_circuit` prints are instances of the line forms (no padding, one space around `=` and after each
comma), so `from_bench_string(format_circuit(c))` is a document of known statements (C11) -/
namespace Cirbo
open GateType

theorem formatGate_sem {g : Gate} (hty : g.ty ≠ INPUT) (hl : IsIdent g.label.toList)
    (hops : ∀ o ∈ g.ops, IsIdent o.toList) (har : parserArityOk g.ty g.ops.length = true) :
    LineSem (formatGate g) (Stmt.gate g).apply := by
  have := gate_layout_sem g hl hops har sp_nil sp_single sp_single sp_nil (keyword_roundtrip g.ty hty).1
    (argsLayout_printed g.ops) (T := []) (by simp)
  simpa [gateLine, formatGate, hty] using this

theorem printed_input_sem {l : Label} (hl : IsIdent l.toList) :
    LineSem (strOf "INPUT(" ++ l.toList ++ [')']) (Stmt.gate ⟨l, INPUT, []⟩).apply := by
  simpa using input_layout_sem l hl (kw := strOf "INPUT(") (p1 := []) (p2 := [')']) (by decide)
    (by intro _ h; cases h) (by intro ch h; rw [List.mem_singleton.mp h]; rfl) (by simp) (by decide)

theorem printed_output_sem {l : Label} (hl : IsIdent l.toList) :
    LineSem (strOf "OUTPUT(" ++ l.toList ++ [')']) (Stmt.output l).apply := by
  simpa using output_layout_sem l hl (kw := strOf "OUTPUT(") (p1 := []) (p2 := [')']) (by decide)
    (by intro _ h; cases h) (by intro ch h; rw [List.mem_singleton.mp h]; rfl) (by simp) (by decide)

def mkInput (l : Label) : Gate := ⟨l, INPUT, []⟩

def printedStmts (c : Circuit) : List Stmt :=
  (c.inputs.map mkInput).map .gate ++ (c.gates.filter (fun g => g.ty != INPUT)).map .gate
    ++ c.outputs.map .output

theorem formatCircuit_sem {c : Circuit} (hw : WF c) (hp : Printable c) :
    DocSem (formatCircuit c) (fun n => (printedStmts c).foldl (fun n s => s.apply n) n) := by
  have hI : ∀ l ∈ c.inputs, LineSem (strOf "INPUT(" ++ l.toList ++ [')']) (Stmt.gate (mkInput l)).apply := by
    intro l hl
    obtain ⟨g, hg, hgl, _⟩ := (hw.inputsOK l).mp hl
    exact printed_input_sem (hgl ▸ hp.labels g hg)
  have hG : ∀ g ∈ c.gates.filter (fun g => g.ty != INPUT), LineSem (formatGate g) (Stmt.gate g).apply := by
    intro g hg
    obtain ⟨hgm, hty⟩ := List.mem_filter.mp hg
    have hty' : g.ty ≠ INPUT := by simpa using hty
    exact formatGate_sem hty' (hp.labels g hgm) (hp.ops g hgm) (hp.arity g hgm hty')
  have hO : ∀ l ∈ c.outputs, LineSem (strOf "OUTPUT(" ++ l.toList ++ [')']) (Stmt.output l).apply :=
    fun l hl => printed_output_sem (hp.outs l hl)
  -- three sections, each followed by its newline and a blank line
  have := DocSem.join_nl (DocSem.line blank_sem (DocSem.join_nl (DocSem.line blank_sem (DocSem.join hO)) hG)) hI
  simpa [formatCircuit, strOf, printedStmts, List.foldl_append, List.foldl_map] using this

theorem bench_roundtrip {c : Circuit} (hw : WF c) (hp : Printable c) :
    ∃ c', parseBench (formatCircuit c) = .ok c' ∧ c'.inputs = c.inputs ∧ c'.outputs = c.outputs ∧
      c'.gates.Perm c.gates := by
  have hlab : (c.inputs.map mkInput).map (·.label) = c.inputs := by
    rw [List.map_map]; exact List.map_id _
  have hgs : stmtGates (printedStmts c) = c.inputs.map mkInput ++ c.gates.filter (fun g => g.ty != INPUT) := by
    simp only [printedStmts, stmtGates_append, stmts_map_gate, stmts_map_output, List.append_nil]
  have hos : stmtOuts (printedStmts c) = c.outputs := by
    simp only [printedStmts, stmtOuts_append, stmts_map_gate, stmts_map_output, List.nil_append]
  have hinG : ∀ g ∈ c.gates, g.ty = INPUT → g.label ∈ c.inputs ∧ g = mkInput g.label := by
    intro g hg hty
    have har := hw.arity g hg
    rw [if_pos hty] at har
    -- `har`: by `WF.arity` an INPUT gate has no operands, so it is the `mkInput` of its label
    exact ⟨(hw.inputsOK _).mpr ⟨g, hg, rfl, hty⟩, by cases g; simp_all [mkInput]⟩
  have hnd : ((stmtGates (printedStmts c)).map (·.label)).Nodup := by
    rw [hgs, List.map_append, hlab]
    refine List.nodup_append.mpr ⟨hw.inputsNodup, (List.filter_sublist.map _).nodup hw.nodup, ?_⟩
    rintro a ha b hb rfl
    obtain ⟨g, hg, rfl⟩ := List.mem_map.mp hb
    obtain ⟨hgm, hty⟩ := List.mem_filter.mp hg
    obtain ⟨g', hg', hgl', hty'⟩ := (hw.inputsOK g.label).mp ha
    have := find_label hw.nodup hg'
    rw [hgl', find_label hw.nodup hgm, Option.some.injEq] at this
    subst this
    simp [hty'] at hty
  have hdoc := parseBench_stmts (formatCircuit_sem hw hp) hnd
  simp only [hgs, hos] at hdoc
  -- the `if` is `parseBench`'s last check, that every operand names a gate read: an operand of a gate of `c` is a gate
  -- of `c` (`WF.closed`), read as itself, or as the `mkInput` of its label if it is an INPUT gate (`hinG`)
  rw [if_pos (by
    simp only [List.all_eq_true, List.any_eq_true, beq_iff_eq, List.mem_append, List.mem_map, List.mem_filter]
    rintro g (⟨l, _, rfl⟩ | ⟨hg, _⟩) o ho
    · cases ho
    · obtain ⟨g', hg', rfl⟩ := gate_of_label (hw.closed g hg o ho)
      by_cases hty : g'.ty = INPUT
      · exact ⟨mkInput g'.label, Or.inl ⟨_, (hinG g' hg' hty).1, rfl⟩, rfl⟩
      · exact ⟨g', Or.inr ⟨hg', by simpa using hty⟩, rfl⟩)] at hdoc
  obtain ⟨c', h1, g1, i1, o1⟩ := hdoc
  refine ⟨c', h1, ?_, o1, ?_⟩
  · rw [i1, List.filter_append, List.filter_eq_self.mpr (by
        intro g hg; obtain ⟨l, _, rfl⟩ := List.mem_map.mp hg; simp [mkInput]),
      List.filter_eq_nil_iff.mpr (by intro g hg; simpa using (List.mem_filter.mp hg).2),
      List.append_nil, hlab]
  · -- the INPUT gates of `c` are exactly the `mkInput`s of its input list
    have hperm : (c.inputs.map mkInput).Perm (c.gates.filter (fun g => g.ty == INPUT)) := by
      apply (List.perm_ext_iff_of_nodup ?_ ?_).mpr
      · intro g
        constructor
        · intro hg
          obtain ⟨l, hl, rfl⟩ := List.mem_map.mp hg
          obtain ⟨g', hg', rfl, hty'⟩ := (hw.inputsOK l).mp hl
          rw [← (hinG g' hg' hty').2]
          exact List.mem_filter.mpr ⟨hg', by simp [hty']⟩
        · intro hg
          obtain ⟨hgm, hty⟩ := List.mem_filter.mp hg
          obtain ⟨hin, e⟩ := hinG g hgm (by simpa using hty)
          exact List.mem_map.mpr ⟨g.label, hin, e.symm⟩
      · exact .of_map (·.label) (by rw [hlab]; exact hw.inputsNodup)
      · exact (List.Nodup.of_map Gate.label (l := c.gates) hw.nodup).filter _
    rw [g1]
    exact (hperm.append_right _).trans (List.filter_append_perm _ _)

end Cirbo
