import Cirbo.Model.Mutate
/-!
# Guards and left folds in `R`

The loops of the model are `ls.foldl step (.ok b)` with a `step` that hands an error on unchanged.
One induction serves them all: an invariant of the successful steps holds at the end of a fold that
returns, and held at the state on which a failing fold met its error.
-/
namespace Cirbo

/-- A guard `if a then .error s else y`, taken apart under a motive: `apply` it to a goal `Q (if …)`;
only the head of the term is looked at, however large `y` is. -/
theorem R.elim_ite {α} {Q : R α → Prop} {a : Prop} [Decidable a] {s : String} {y : R α}
    (he : a → Q (.error s)) (hy : ¬a → Q y) : Q (if a then .error s else y) := by
  split
  · exact he ‹_›
  · exact hy ‹_›

theorem R.bind_ok_iff {α β} {x : R α} {f : α → R β} {b : β} :
    (x >>= f) = .ok b ↔ ∃ a, x = .ok a ∧ f a = .ok b := by
  cases x <;> simp [bind, Except.bind]

variable {α β : Type} {step : R β → α → R β}

theorem foldlR_error (hstep : ∀ e a, step (.error e) a = .error e) (e : String) :
    ∀ ls : List α, ls.foldl step (.error e) = .error e
  | [] => rfl
  | a :: ls => by rw [List.foldl_cons, hstep, foldlR_error hstep e ls]

theorem foldlR_eq_foldlM (hstep : ∀ e a, step (.error e) a = .error e) {f : β → α → R β}
    (hf : ∀ b a, step (.ok b) a = f b a) : ∀ (ls : List α) (b : β), ls.foldl step (.ok b) = ls.foldlM f b
  | [], _ => rfl
  | a :: ls, b => by
    rw [List.foldl_cons, List.foldlM_cons, hf]
    cases f b a with
    | error e => exact foldlR_error hstep e ls
    | ok b1 => exact foldlR_eq_foldlM hstep hf ls b1

theorem foldlR_start (hstep : ∀ e a, step (.error e) a = .error e) {ls : List α} {r : R β} {b' : β}
    (h : ls.foldl step r = .ok b') : ∃ b, r = .ok b := by
  cases r with
  | ok b => exact ⟨b, rfl⟩
  | error e => rw [foldlR_error hstep] at h; cases h

theorem foldlR_cons_ok (hstep : ∀ e a, step (.error e) a = .error e) {a : α} {ls : List α} {b b' : β}
    (h : (a :: ls).foldl step (.ok b) = .ok b') :
    ∃ b1, step (.ok b) a = .ok b1 ∧ ls.foldl step (.ok b1) = .ok b' := by
  rw [List.foldl_cons] at h
  cases hs : step (.ok b) a with
  | error e => rw [hs, foldlR_error hstep] at h; cases h
  | ok b1 => exact ⟨b1, rfl, hs ▸ h⟩

/-- `I pre b`: the state `b` after the elements `pre` of `ls`. The step may use where in `ls` it is. -/
theorem foldlR_inv (hstep : ∀ e a, step (.error e) a = .error e) {I : List α → β → Prop} {ls : List α}
    (hI : ∀ pre a post b b', ls = pre ++ a :: post → I pre b → step (.ok b) a = .ok b' → I (pre ++ [a]) b') :
    ∀ (rest pre : List α) (b : β), ls = pre ++ rest → I pre b →
      match rest.foldl step (.ok b) with
      | .ok b' => I ls b'
      | .error e => ∃ pre' a b', I pre' b' ∧ step (.ok b') a = .error e
  | [], pre, b, hl, h => by simpa [hl] using h
  | a :: rest, pre, b, hl, h => by
    rw [List.foldl_cons]
    cases hs : step (.ok b) a with
    | error e => rw [foldlR_error hstep]; exact ⟨pre, a, b, h, hs⟩
    | ok b1 => exact foldlR_inv hstep hI rest (pre ++ [a]) b1 (by simp [hl]) (hI pre a rest b b1 hl h hs)

theorem foldlR_run (hstep : ∀ e a, step (.error e) a = .error e) {I : List α → β → Prop} {ls : List α}
    (hI : ∀ pre a post b b', ls = pre ++ a :: post → I pre b → step (.ok b) a = .ok b' → I (pre ++ [a]) b')
    {b b' : β} (h0 : I [] b) (h : ls.foldl step (.ok b) = .ok b') : I ls b' := by
  have := foldlR_inv hstep hI ls [] b rfl h0
  rwa [h] at this

theorem foldlR_ok (hstep : ∀ e a, step (.error e) a = .error e) {I : List α → β → Prop}
    (hI : ∀ pre a b b', I pre b → step (.ok b) a = .ok b' → I (pre ++ [a]) b')
    {ls : List α} {b b' : β} (h0 : I [] b) (h : ls.foldl step (.ok b) = .ok b') : I ls b' :=
  foldlR_run hstep (fun pre a _ b b' _ => hI pre a b b') h0 h

theorem foldlR_total {P : List α → β → Prop} {L : List α}
    (hP : ∀ p a q t, L = p ++ a :: q → P p t → ∃ t', step (.ok t) a = .ok t' ∧ P (p ++ [a]) t') :
    ∀ (ls pre : List α) (s : β), L = pre ++ ls → P pre s → ∃ s', ls.foldl step (.ok s) = .ok s' ∧ P L s'
  | [], pre, s, hL, h0 => ⟨s, rfl, by simpa [hL] using h0⟩
  | a :: r, pre, s, hL, h0 => by
    obtain ⟨t, hs, h1⟩ := hP pre a r s hL h0
    rw [List.foldl_cons, hs]
    exact foldlR_total hP r (pre ++ [a]) t (by simp [hL]) h1

theorem mapM_total {α β} (f : α → R β) : ∀ (l : List α), (∀ x ∈ l, ∃ y, f x = .ok y) → ∃ ys, l.mapM f = .ok ys
  | [], _ => ⟨[], rfl⟩
  | x :: t, h => by
    obtain ⟨y, hy⟩ := h x (List.mem_cons_self ..)
    obtain ⟨ys, hys⟩ := mapM_total f t fun z hz => h z (List.mem_cons_of_mem _ hz)
    exact ⟨y :: ys, by rw [List.mapM_cons, hy, hys]; rfl⟩

/-- a history runner `runs` over a step `run` keeps what every valid step keeps -/
theorem runs_inv {Op σ : Type} {run : σ → Op → R σ} {runs : σ → List Op → R σ}
    (h0 : ∀ s, runs s [] = .ok s)
    (hc : ∀ s op r, runs s (op :: r) = (run s op).bind fun s' => runs s' r)
    {P : σ → Prop} {V : Op → Prop} (hP : ∀ {s s' op}, P s → V op → run s op = .ok s' → P s') :
    ∀ (ops : List Op) {s s' : σ}, P s → (∀ op ∈ ops, V op) → runs s ops = .ok s' → P s'
  | [], s, s', hs, _, h => by rw [h0] at h; cases h; exact hs
  | op :: r, s, s', hs, hv, h => by
    rw [hc] at h
    cases h1 : run s op with
    | error e => rw [h1] at h; cases h
    | ok s1 =>
      rw [h1] at h
      exact runs_inv h0 hc hP r (hP hs (hv op List.mem_cons_self) h1) (fun o ho => hv o (List.mem_cons_of_mem _ ho)) h

end Cirbo
