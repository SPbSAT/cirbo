import Cirbo.Proofs.Gen
/-!
# Totality of the generators: the only way a generator fails on valid arguments is label-space exhaustion

The rule for drawing a label rests on the redraw loop finding a free label, and that on labels of different counters
being different (32 hex digits are injective below 16^32).
-/
namespace Cirbo
open Circuit

/-- `hex32 n` digit by digit; with the value of a digit string it shows that `hex32` is injective below `16 ^ 32` -/
def hexDigits (k n : Nat) : List Char := (List.range k).reverse.map (fun i => hexDigit ((n / 16 ^ i) % 16))

def hexVal (c : Char) : Nat := ("0123456789abcdef".toList.idxOf c)

theorem hexVal_hexDigit (d : Nat) (h : d < 16) : hexVal (hexDigit d) = d := by
  have : ∀ d, d < 16 → hexVal (hexDigit d) = d := by decide
  exact this d h

def digitsVal : List Char → Nat := fun l => l.foldl (fun acc c => acc * 16 + hexVal c) 0

theorem foldl_digits (l : List Char) (a : Nat) :
    l.foldl (fun acc c => acc * 16 + hexVal c) a = a * 16 ^ l.length + l.foldl (fun acc c => acc * 16 + hexVal c) 0 := by
  induction l generalizing a with
  | nil => simp
  | cons x r ih =>
    simp only [List.foldl_cons, List.length_cons]
    rw [ih (a * 16 + hexVal x), ih (0 * 16 + hexVal x)]
    simp only [Nat.zero_mul, Nat.zero_add, Nat.pow_succ]
    rw [Nat.add_mul]
    have : a * 16 * 16 ^ r.length = a * (16 ^ r.length * 16) := by
      rw [Nat.mul_assoc, Nat.mul_comm 16]
    omega

theorem hexDigits_succ (k n : Nat) : hexDigits (k + 1) n = hexDigit ((n / 16 ^ k) % 16) :: hexDigits k n := by
  unfold hexDigits
  rw [List.range_succ]
  simp

theorem hexDigits_length (k n : Nat) : (hexDigits k n).length = k := by simp [hexDigits]

theorem digitsVal_hexDigits (k n : Nat) : digitsVal (hexDigits k n) = n % 16 ^ k := by
  induction k with
  | zero => simp [hexDigits, digitsVal, Nat.mod_one]
  | succ k ih =>
    rw [hexDigits_succ]
    unfold digitsVal at ih ⊢
    simp only [List.foldl_cons, Nat.zero_mul, Nat.zero_add]
    rw [foldl_digits, ih, hexDigits_length, hexVal_hexDigit _ (Nat.mod_lt _ (by omega))]
    rw [Nat.pow_succ, Nat.mod_mul, Nat.mul_comm]
    omega

theorem hex32_inj {a b : Nat} (ha : a < 16 ^ 32) (hb : b < 16 ^ 32) (h : hex32 a = hex32 b) : a = b := by
  have h1 : hexDigits 32 a = hexDigits 32 b := by
    have := congrArg String.toList h
    simpa [hex32, hexDigits] using this
  have h2 := congrArg digitsVal h1
  rw [digitsVal_hexDigits, digitsVal_hexDigits, Nat.mod_eq_of_lt ha, Nat.mod_eq_of_lt hb] at h2
  exact h2

theorem newLabel_inj {a b : Nat} (ha : a < 16 ^ 32) (hb : b < 16 ^ 32) (h : newLabel a = newLabel b) : a = b := by
  unfold newLabel at h
  exact hex32_inj ha hb ((String.append_right_inj _).mp h)

theorem occupied_iff (c : Circuit) (restr : List Label) (l : Label) :
    (c.hasGate l || restr.contains l) = true ↔ l ∈ c.labels ++ restr := by
  rw [Bool.or_eq_true, hasGate_iff, List.contains_iff_mem, List.mem_append]

/-- `S`: the labels tried so far, all occupied and drawn from different counters below `ctr`: at most as many as
occupied labels, so the fuel cannot run out -/
theorem freshLoop_spec (c : Circuit) (restr : List Label) : ∀ (fuel ctr : Nat) (S : List Label),
    S.Nodup → (∀ s ∈ S, s ∈ c.labels ++ restr ∧ ∃ j, j < ctr ∧ j < 16 ^ 32 ∧ s = newLabel j) →
    (c.labels ++ restr).length < fuel + S.length →
    (∃ l ctr', freshLoop c restr fuel ctr = .ok (l, ctr') ∧ l ∉ c.labels ∧ l ∉ restr ∧ ctr < ctr' ∧ ctr' ≤ 16 ^ 32 ∧
      ∃ j, ctr ≤ j ∧ j < ctr' ∧ l = newLabel j) ∨
    freshLoop c restr fuel ctr = .error "LabelSpaceExhausted" := by
  intro fuel
  induction fuel with
  | zero =>
    intro ctr S hnd hS hlen
    have := hnd.length_le_of_subset fun s hs => (hS s hs).1
    omega
  | succ n ih =>
    intro ctr S hnd hS hlen
    unfold freshLoop
    by_cases hb : 16 ^ 32 ≤ ctr
    · exact Or.inr (if_pos hb)
    · simp only [hb, if_false]
      by_cases hocc : newLabel ctr ∈ c.labels ++ restr
      · rw [if_pos ((occupied_iff c restr _).mpr hocc)]
        have hnew : newLabel ctr ∉ S := fun hm => by
          obtain ⟨_, j, hj, hj2, e⟩ := hS _ hm
          have := newLabel_inj (by omega) hj2 e
          omega
        refine (ih (ctr + 1) (newLabel ctr :: S) (List.nodup_cons.mpr ⟨hnew, hnd⟩) ?_
          (by simp only [List.length_cons]; omega)).imp ?_ id
        · intro s hs
          rcases List.mem_cons.mp hs with rfl | hs
          · exact ⟨hocc, ctr, by omega, by omega, rfl⟩
          · obtain ⟨a, j, hj, hj2, e⟩ := hS s hs
            exact ⟨a, j, by omega, hj2, e⟩
        · rintro ⟨l, ctr', h1, h2, h3, h4, h5, j, h6, h7, h8⟩
          exact ⟨l, ctr', h1, h2, h3, by omega, h5, j, by omega, h7, h8⟩
      · rw [if_neg (mt (occupied_iff c restr _).mp hocc)]
        rw [List.mem_append, not_or] at hocc
        exact Or.inl ⟨newLabel ctr, ctr + 1, rfl, hocc.1, hocc.2, by omega, by omega, ctr, by omega, by omega, rfl⟩

/-- `p` run from `st` returns with `Q`, or stops because the label space is exhausted -/
def Ok {α} (p : Prog α) (st : GSt) (Q : α → GSt → Prop) : Prop :=
  (∃ a st', p.run st = .ok (a, st') ∧ Q a st') ∨ p.run st = .error "LabelSpaceExhausted"

theorem Ok.ret {α} {a : α} {st : GSt} {Q : α → GSt → Prop} (h : Q a st) : Ok (Pure.pure a : Prog α) st Q :=
  Or.inl ⟨a, st, rfl, h⟩

theorem Ok.bind {α β} {p : Prog α} {f : α → Prog β} {st : GSt} {Q : α → GSt → Prop} {R : β → GSt → Prop}
    (hp : Ok p st Q) (hf : ∀ a st', Q a st' → Ok (f a) st' R) : Ok (p >>= f) st R := by
  unfold Ok
  rw [run_bind]
  rcases hp with ⟨a, st', h1, h2⟩ | h
  · rw [h1]; exact hf a st' h2
  · rw [h]; exact Or.inr rfl

theorem Ok.mono {α} {p : Prog α} {st : GSt} {Q R : α → GSt → Prop} (hp : Ok p st Q) (h : ∀ a st', Q a st' → R a st') :
    Ok p st R := by
  rcases hp with ⟨a, st', h1, h2⟩ | h'
  · exact Or.inl ⟨a, st', h1, h a st' h2⟩
  · exact Or.inr h'

theorem labels_length (c : Circuit) : c.labels.length = c.gates.length := by simp [Circuit.labels]

theorem Ok.fresh {α} {r : List Label} {k : Label → Prog α} {st : GSt} {Q : α → GSt → Prop}
    (h : ∀ l ctr', l ∉ st.c.labels → l ∉ r → st.ctr < ctr' → ctr' ≤ 16 ^ 32 → (∃ j, st.ctr ≤ j ∧ j < ctr' ∧ l = newLabel j) →
      Ok (k l) ⟨st.c, ctr'⟩ Q) : Ok (Prog.fresh r k) st Q := by
  unfold Ok
  simp only [Prog.run]
  rcases freshLoop_spec st.c r (st.c.gates.length + r.length + 1) st.ctr [] List.nodup_nil (by intro s hs; cases hs)
    (by simp [labels_length]) with ⟨l, ctr', h1, h2, h3, h4, h5, h6⟩ | he
  · rw [h1]; exact h l ctr' h2 h3 h4 h5 h6
  · rw [he]; exact Or.inr rfl

theorem labels_rawAddGate {c : Circuit} {g : Gate} (h : g.label ∉ c.labels) : (c.rawAddGate g).labels = c.labels ++ [g.label] := by
  unfold Circuit.labels
  rw [(rawAddGate_fields h).1, labels_append]

theorem Ok.add {α} {g : Gate} {ok : tyOk g.ty g.ops.length = true} {k : Prog α} {st : GSt} {Q : α → GSt → Prop}
    (hl : g.label ∉ st.c.labels) (ho : ∀ o ∈ g.ops, o ∈ st.c.labels)
    (h : Ok k ⟨st.c.rawAddGate g, st.ctr⟩ Q) : Ok (Prog.add g ok k) st Q := by
  unfold Ok
  simp only [Prog.run]
  rw [addGate_ok_iff.mpr ⟨hl, ho, rfl⟩]
  exact h

theorem Ok.mark {α} {l : Label} {k : Prog α} {st : GSt} {Q : α → GSt → Prop}
    (hl : l ∈ st.c.labels) (h : Ok k ⟨{ st.c with outputs := st.c.outputs ++ [l] }, st.ctr⟩ Q) : Ok (Prog.mark l k) st Q := by
  unfold Ok
  simp only [Prog.run]
  have : st.c.markAsOutput l = .ok { st.c with outputs := st.c.outputs ++ [l] } := by
    unfold markAsOutput
    simp [(hasGate_iff _ _).mpr hl]
  rw [this]
  exact h

end Cirbo
