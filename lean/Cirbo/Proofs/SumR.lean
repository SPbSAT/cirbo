/-!
# Sums over `0 … N - 1`

The multipliers are verified by regrouping such sums (rows against columns, diagonals, groups of three).
-/
namespace Cirbo

def sumR (N : Nat) (f : Nat → Nat) : Nat := ((List.range N).map f).sum

theorem sumR_zero (f : Nat → Nat) : sumR 0 f = 0 := rfl
theorem sumR_succ (N : Nat) (f : Nat → Nat) : sumR (N + 1) f = sumR N f + f N := by
  simp [sumR, List.range_succ]
theorem sumR_succ' (N : Nat) (f : Nat → Nat) : sumR (N + 1) f = f 0 + sumR N (fun i => f (i + 1)) := by
  simp [sumR, List.range_succ_eq_map, List.map_map, Function.comp_def]
theorem sumR_congr {N : Nat} {f g : Nat → Nat} (h : ∀ i, i < N → f i = g i) : sumR N f = sumR N g := by
  induction N with
  | zero => rfl
  | succ N ih => rw [sumR_succ, sumR_succ, ih (fun i hi => h i (by omega)), h N (by omega)]
theorem sumR_add (N : Nat) (f g : Nat → Nat) : sumR N (fun i => f i + g i) = sumR N f + sumR N g := by
  induction N with
  | zero => rfl
  | succ N ih => rw [sumR_succ, sumR_succ, sumR_succ, ih]; omega
theorem sumR_mul (N : Nat) (c : Nat) (f : Nat → Nat) : sumR N (fun i => c * f i) = c * sumR N f := by
  induction N with
  | zero => rfl
  | succ N ih => rw [sumR_succ, sumR_succ, ih, Nat.mul_add]
theorem sumR_const_zero (N : Nat) : sumR N (fun _ => 0) = 0 := by
  induction N with
  | zero => rfl
  | succ N ih => rw [sumR_succ, ih]
theorem sumR_swap (N M : Nat) (g : Nat → Nat → Nat) :
    sumR N (fun w => sumR M (fun i => g i w)) = sumR M (fun i => sumR N (fun w => g i w)) := by
  induction N with
  | zero => simp only [sumR_zero]; rw [sumR_const_zero]
  | succ N ih =>
    rw [sumR_succ, ih]
    have : (fun i => sumR (N + 1) (fun w => g i w)) = (fun i => sumR N (fun w => g i w) + g i N) := by
      funext i; rw [sumR_succ]
    rw [this, sumR_add]
theorem sumR_zero_ext {f : Nat → Nat} {a : Nat} (h : ∀ i, a ≤ i → f i = 0) : ∀ (d : Nat), sumR (a + d) f = sumR a f := by
  intro d
  induction d with
  | zero => rfl
  | succ d ih => rw [← Nat.add_assoc, sumR_succ, ih, h (a + d) (by omega)]; rfl
theorem sumR_shift (i K : Nat) (G : Nat → Nat) : sumR (i + K) (fun w => if i ≤ w then G (w - i) else 0) = sumR K G := by
  induction K with
  | zero =>
    have : sumR i (fun w => if i ≤ w then G (w - i) else 0) = sumR i (fun _ => 0) := by
      apply sumR_congr
      intro w hw
      rw [if_neg (by omega)]
    rw [Nat.add_zero, this, sumR_const_zero]; rfl
  | succ K ih =>
    rw [← Nat.add_assoc, sumR_succ, ih, sumR_succ, if_pos (by omega), Nat.add_sub_cancel_left]

theorem sumR_ite_lt_comm (A B : Nat) (f : Nat → Nat) :
    sumR A (fun i => if i < B then f i else 0) = sumR B (fun i => if i < A then f i else 0) := by
  have key : ∀ A d, sumR (A + d) (fun i => if i < A then f i else 0) = sumR A (fun i => if i < A + d then f i else 0) := by
    intro A d
    rw [sumR_zero_ext (fun i hi => if_neg (by omega)) d]
    exact sumR_congr (fun i hi => by rw [if_pos hi, if_pos (by omega)])
  rcases Nat.le_total A B with h | h
  · obtain ⟨d, rfl⟩ := Nat.exists_eq_add_of_le h; exact (key A d).symm
  · obtain ⟨d, rfl⟩ := Nat.exists_eq_add_of_le h; exact key B d

theorem ite_and_zero (p q : Prop) [Decidable p] [Decidable q] (x : Nat) :
    (if p then (if q then x else 0) else 0) = if p ∧ q then x else 0 := by
  split <;> simp [*]

theorem sumR_antidiag (N M W : Nat) (hW : N + M ≤ W + 1) (F : Nat → Nat → Nat) :
    sumR W (fun w => sumR (w + 1) (fun i => if i < N ∧ w - i < M then F i (w - i) else 0)) =
      sumR N (fun i => sumR M (F i)) := by
  simp only [← ite_and_zero]
  rw [sumR_congr (fun w _ => sumR_ite_lt_comm (w + 1) N _), sumR_swap]
  apply sumR_congr; intro i hi
  obtain ⟨d, hd⟩ := Nat.exists_eq_add_of_le (show i + M ≤ W by omega)
  simp only [Nat.lt_add_one_iff]
  rw [hd, Nat.add_assoc, sumR_shift i (M + d) (fun j => if j < M then F i j else 0),
    sumR_zero_ext (fun j hj => if_neg (by omega)) d]
  exact sumR_congr (fun j hj => if_pos hj)

theorem sumR_split (s N : Nat) (F : Nat → Nat) : sumR (s + N) F = sumR s F + sumR N (fun w => F (s + w)) := by
  induction N with
  | zero => simp [sumR_zero]
  | succ N ih => rw [← Nat.add_assoc, sumR_succ, ih, sumR_succ]; omega

theorem sumR_even (n : Nat) (F : Nat → Nat) :
    sumR (2 * n) (fun w => if w % 2 = 0 then F (w / 2) else 0) = sumR n F := by
  induction n with
  | zero => rfl
  | succ n ih =>
    rw [show 2 * (n + 1) = 2 * n + 1 + 1 by omega, sumR_succ, sumR_succ, ih, sumR_succ]
    rw [if_pos (by omega), if_neg (by omega), show 2 * n / 2 = n by omega]; rfl

theorem sumR_single (N i : Nat) (hi : i < N) (F : Nat → Nat) : sumR N (fun k => if i = k then F k else 0) = F i := by
  induction N with
  | zero => omega
  | succ N ih =>
    rw [sumR_succ]
    by_cases h : i = N
    · subst h
      rw [if_pos rfl]
      have : sumR i (fun k => if i = k then F k else 0) = sumR i (fun _ => 0) :=
        sumR_congr (fun k hk => by rw [if_neg (by omega)])
      rw [this, sumR_const_zero]; omega
    · rw [ih (by omega), if_neg h]; rfl

theorem sumR_mul_right (N : Nat) (c : Nat) (f : Nat → Nat) : sumR N (fun i => f i * c) = sumR N f * c := by
  rw [Nat.mul_comm, ← sumR_mul]; exact sumR_congr (fun i _ => Nat.mul_comm _ _)

theorem sumR_restrict (n m : Nat) (h : m ≤ n) (F : Nat → Nat) :
    sumR m F = sumR n (fun j => if j < m then F j else 0) := by
  obtain ⟨d, rfl⟩ := Nat.exists_eq_add_of_le h
  rw [sumR_zero_ext (fun j hj => by rw [if_neg (by omega)]) d]
  exact sumR_congr (fun j hj => by rw [if_pos hj])

theorem sumR_square_symm (n : Nat) (s : Nat → Nat → Nat) (hs : ∀ i k, s i k = s k i) :
    sumR n (fun i => sumR n (fun k => s i k)) =
      2 * sumR n (fun i => sumR n (fun k => if i < k then s i k else 0)) + sumR n (fun i => s i i) := by
  have e2 : ∀ i, i < n → sumR n (fun k => s i k) =
      sumR n (fun k => if i < k then s i k else 0) + (sumR n (fun k => if i = k then s i k else 0) + sumR n (fun k => if k < i then s i k else 0)) := by
    intro i _
    rw [← sumR_add, ← sumR_add]
    apply sumR_congr; intro k _
    rcases Nat.lt_trichotomy i k with h | h | h
    · rw [if_pos h, if_neg (by omega), if_neg (by omega)]; omega
    · rw [if_neg (by omega), if_pos h, if_neg (by omega)]; omega
    · rw [if_neg (by omega), if_neg (by omega), if_pos h]; omega
  rw [sumR_congr e2, sumR_add, sumR_add]
  have e3 : sumR n (fun i => sumR n (fun k => if k < i then s i k else 0)) =
      sumR n (fun i => sumR n (fun k => if i < k then s i k else 0)) := by
    rw [sumR_swap n n (fun k i => if k < i then s i k else 0)]
    exact sumR_congr (fun i _ => sumR_congr (fun k _ => by rw [hs]))
  have e4 : sumR n (fun i => sumR n (fun k => if i = k then s i k else 0)) = sumR n (fun i => s i i) :=
    sumR_congr (fun i hi => sumR_single n i hi (fun k => s i k))
  rw [e3, e4]; omega

theorem sumR_bump {N k : Nat} (hk : k < N) {F F' : Nat → Nat} {d : Nat} (hd : F' k = F k + d)
    (h : ∀ i, i < N → i ≠ k → F' i = F i) : sumR N F' = sumR N F + d := by
  have : ∀ i, i < N → F' i = F i + if k = i then d else 0 := by
    intro i hi
    by_cases e : k = i
    · rw [← e, hd, if_pos rfl]
    · rw [if_neg e, h i hi (Ne.symm e)]; rfl
  rw [sumR_congr this, sumR_add, sumR_single N k hk fun _ => d]

theorem sumR_groups3 (F : Nat → Nat) : ∀ G, sumR (G * 3) F = sumR G fun g => F (g * 3) + F (g * 3 + 1) + F (g * 3 + 2)
  | 0 => by rw [Nat.zero_mul]; rfl
  | G + 1 => by
    rw [Nat.succ_mul, sumR_succ, sumR_succ, sumR_succ, sumR_groups3 F G, sumR_succ]
    omega

end Cirbo
