import Cirbo.Proofs.Passes
import Cirbo.Proofs.TrTerm
/-!
Every pass meets the gates of its argument in an order in which operands come first, so that every `emplace_gate` finds a
new label and its operands in place; `rebuild_run` is the one induction over such a loop.
-/
namespace Cirbo

theorem traverse_outputs_ok {c : Circuit} (h : WFS c) (tu : Bool) :
    ∃ log, traverse c false false (some c.outputs) tu = .ok log :=
  traverse_ok_of_closed false false (some c.outputs) tu (opsOf_closed h.nodup h.closed) h.outputsOK fun hc => by
    obtain ⟨order, ho, _⟩ := topSort_inv_spec h.toWFG
    rw [ho] at hc; cases hc

theorem order_split {c : Circuit} (hnd : c.labels.Nodup) {L : List Label} (hL : L.Nodup) (hmem : ∀ l ∈ L, l ∈ c.labels)
    (hord : OpsFirst c.opsOf L) {p q : List Label} {l : Label}
    (h : L = p ++ l :: q) : ∃ g, c.find? l = some g ∧ g ∈ c.gates ∧ l ∉ p ∧ ∀ o ∈ g.ops, o ∈ p := by
  obtain ⟨g, hg, rfl⟩ := gate_of_label (hmem l (by simp [h]))
  refine ⟨g, find_label hnd hg, hg, fun hp => ?_, fun o ho => hord p _ q h o (opsOf_gate hnd hg ▸ ho)⟩
  rw [h] at hL
  exact (List.nodup_append.mp hL).2.2 _ hp _ (List.mem_cons_self ..) rfl

theorem exits_spec {c : Circuit} (hw : WFS c) {tu : Bool} {log : List Ev}
    (h : traverse c false false (some c.outputs) tu = .ok log) :
    (exits log).Nodup ∧ (∀ l, l ∈ exits log ↔ Reach c.opsOf c.outputs l) ∧ OpsFirst c.opsOf (exits log) := by
  have hpost := dfs_operands_first hw.rank (some c.outputs) tu false h
  by_cases hne : c.gates = []
  · -- no gates: no events, and nothing to reach
    obtain rfl := traverse_nil hne h
    exact ⟨List.nodup_nil, fun l => ⟨fun hl => by simp [exits] at hl, fun hr => by
      simpa [Circuit.labels, hne] using reach_labels hw hw.outputsOK hr⟩, hpost⟩
  · obtain ⟨h1, h2, -⟩ := dfs_exits_exact false (some c.outputs) tu false hne h
    simp only [Bool.false_eq_true, if_false, Option.getD_some] at h2
    exact ⟨h1, h2, hpost⟩

theorem hookLabels_append (a b : List Ev) (w : Bool) : hookLabels (a ++ b) w = hookLabels a w ++ hookLabels b w := by
  simp [hookLabels, List.filterMap_append]

theorem hookLabels_nounv : ∀ {log : List Ev}, unvisiteds log = [] → hookLabels log true = exits log
  | [], _ => rfl
  | e :: t, h => by
    have ih := @hookLabels_nounv t
    unfold hookLabels exits unvisiteds at *
    cases e <;> simp_all

theorem hookLabels_unv (ls : List Label) : hookLabels (ls.map Ev.unvisited) true = ls := by
  induction ls with
  | nil => rfl
  | cons l t ih => simp only [List.map_cons, hookLabels, List.filterMap_cons, if_true] at ih ⊢; rw [ih]

theorem hookLabels_false (log : List Ev) : hookLabels log false = exits log := by
  unfold hookLabels exits
  congr 1
  funext e
  cases e <;> simp

theorem hookLabels_true_eq {c : Circuit} {bfs inverse : Bool} {start : Option (List Label)} {tsu ab : Bool}
    {log : List Ev} (h : traverse c bfs inverse start tsu ab = .ok log) :
    hookLabels log true = exits log ++ unvisiteds log := by
  obtain ⟨-, rfl⟩ | ⟨s, order, -, hl, -, rfl⟩ := traverse_ok_cases h
  · rfl
  · have hn := trLoop_unvisiteds _ rfl hl
    rw [exits_tail, hookLabels_append, hookLabels_append, hookLabels_nounv hn, hookLabels_unv,
      unvisiteds_append, unvisiteds_append, hn, unvisiteds_map]
    simp [hookLabels, unvisiteds]

/-- the hook order of the merging passes: reachable gates in DFS post-order, then the others in topological order -/
theorem full_order {c : Circuit} (hw : WFS c) {log : List Ev}
    (h : traverse c false false (some c.outputs) true = .ok log) :
    (hookLabels log true).Nodup ∧ (∀ l, l ∈ hookLabels log true ↔ l ∈ c.labels) ∧
    OpsFirst c.opsOf (hookLabels log true) := by
  obtain ⟨hEnd, hEreach, hpost⟩ := exits_spec hw h
  rw [hookLabels_true_eq h]
  by_cases hne : c.gates = []
  · obtain rfl := traverse_nil hne h
    exact ⟨List.nodup_nil, fun l => by simp [exits, unvisiteds, Circuit.labels, hne], fun e1 l e2 he => by
      simp [exits, unvisiteds] at he⟩
  obtain ⟨_, _, order, hts, unreached, hunr, hU⟩ := traverse_reach_exact false false (some c.outputs) true false hne h
  simp only [Bool.false_eq_true, if_false, Option.getD_some, if_true] at hunr hts
  obtain ⟨order', ho', hperm, hbefore⟩ := topSort_inv_spec hw.toWFG
  obtain rfl : order' = order := by rw [hts] at ho'; cases ho'; rfl
  have hord : OpsFirst c.opsOf order' := fun pre l post hpp x hx => by
    obtain ⟨g, hg, rfl⟩ := gate_of_label (hperm.mem_iff.mp (show l ∈ order' by rw [hpp]; simp))
    exact hbefore pre _ post hpp g hg rfl x (opsOf_gate hw.nodup hg ▸ hx)
  have hmemU : ∀ l, l ∈ unvisiteds log ↔ l ∈ c.labels ∧ ¬ Reach c.opsOf c.outputs l := fun l => by
    rw [hU, List.mem_filter, hperm.mem_iff, hunr]
  refine ⟨List.nodup_append.mpr ⟨hEnd, hU ▸ (hperm.nodup_iff.mpr hw.nodup).filter _, fun a ha b hb e => ?_⟩,
    fun l => ?_, hpost.append fun e1 l e2 he x hx => ?_⟩
  · exact ((hmemU b).mp hb).2 ((hEreach b).mp (e ▸ ha))
  · rw [List.mem_append, hEreach, hmemU]
    exact ⟨fun h => h.elim (reach_labels hw hw.outputsOK) (·.1), fun hl => (Classical.em _).imp_right fun hr => ⟨hl, hr⟩⟩
  · -- an operand of an unreached gate was reached, or precedes it in the topological order
    by_cases hr : Reach c.opsOf c.outputs x
    · exact List.mem_append_left _ ((hEreach x).mpr hr)
    · exact List.mem_append_right _ (hord.filter unreached e1 l e2 (hU ▸ he) x hx ((hunr x).mpr hr))

theorem setInputs_returns_of_shape {c n : Circuit} (hw : WFS c) (hnd : n.labels.Nodup)
    (hlab : ∀ l, l ∈ n.labels ↔ l ∈ c.labels) (sh : SameShape c n) : ∃ n2, n.setInputs c.inputs = .ok n2 := by
  refine setInputs_returns hnd hw.inputsNodup (fun i hi => ?_) (fun g' hg' hty' => ?_)
  · obtain ⟨g, hg, hgl, hty⟩ := (hw.inputsOK i).mp hi
    obtain ⟨g', hg', hgl'⟩ := gate_of_label ((hlab i).mpr (hgl ▸ mem_labels_of_mem hg))
    obtain ⟨g0, hg0, e1, e2, _⟩ := sh g' hg'
    obtain rfl := gate_unique hw.nodup hg0 hg (e1.symm.trans (hgl'.trans hgl.symm))
    exact ⟨g', hg', hgl', e2.trans hty⟩
  · obtain ⟨g0, hg0, e1, e2, _⟩ := sh g' hg'
    exact e1 ▸ (hw.inputsOK g0.label).mpr ⟨g0, hg0, rfl, e2 ▸ hty'⟩

/-- a loop that meets the gates of `c` operands first and emits each under its label and type, with operands chosen from
what is in place (as many, same values), returns a `Rebuild` with exactly these labels and keeps any invariant `J` of
its own state -/
theorem rebuild_run {σ : Type} {step : R σ → Label → R σ} {cir : σ → Circuit} {c : Circuit} (hw : WFS c)
    {L : List Label} (hL : L.Nodup) (hmem : ∀ l ∈ L, l ∈ c.labels) (hord : OpsFirst c.opsOf L) {J : σ → Prop}
    (hstep : ∀ s g, J s → Rebuild c (cir s) → c.find? g.label = some g →
      (∀ x ∈ (cir s).labels, ∀ y ∈ c.opsOf x, y ∈ (cir s).labels) → (∀ o ∈ g.ops, o ∈ (cir s).labels) →
      ∃ ops, (∀ d ∈ ops, d ∈ (cir s).labels) ∧ ops.length = g.ops.length ∧
        (∀ b v, IsValB c b v → ops.map v = g.ops.map v) ∧
        ∀ n', (cir s).addGate ⟨g.label, g.ty, ops⟩ = .ok n' → ∃ s', step (.ok s) g.label = .ok s' ∧ cir s' = n' ∧ J s')
    {s0 : σ} (h0 : cir s0 = Circuit.empty) (hJ : J s0) :
    ∃ s, L.foldl step (.ok s0) = .ok s ∧ (cir s).labels = L ∧ Rebuild c (cir s) ∧ J s := by
  refine foldlR_total (P := fun pre s => (cir s).labels = pre ∧ Rebuild c (cir s) ∧ J s)
    (fun p l q s hLs hP => ?_) L [] s0 rfl ⟨by rw [h0]; rfl, h0 ▸ .empty c, hJ⟩
  obtain ⟨hlab, hr, hj⟩ := hP
  obtain ⟨g, hf, hg, hfresh, ho⟩ := order_split hw.nodup hL hmem hord hLs
  obtain rfl := (find_some_mem hf).2
  obtain ⟨ops, hin, hlen, hval, hnext⟩ := hstep s g hj hr hf
    (fun x hx => hlab ▸ OpsFirst.closed (hLs ▸ hord) (hlab ▸ hx)) (hlab ▸ ho)
  obtain ⟨n', hn', hlab'⟩ := addGate_returns (n := cir s) (g := ⟨g.label, g.ty, ops⟩) (hlab ▸ hfresh) hin
  obtain ⟨s', hs', rfl, hj'⟩ := hnext n' hn'
  exact ⟨s', hs', hlab ▸ hlab', hr.emit hg (hw.inputOps g hg) hlen hval hn', hj'⟩

theorem emplaceAll_run {c : Circuit} (hw : WFS c) {f : Label → Label} (hdep : ∀ l, Reach c.opsOf [l] (f l))
    (hfv : ∀ b v, IsValB c b v → ∀ l, v (f l) = v l) {ls : List Label} (hls : ls.Nodup)
    (hl : ∀ l ∈ ls, l ∈ c.labels) (hord : OpsFirst c.opsOf ls) :
    ∃ n, emplaceAll c ls f Circuit.empty = .ok n ∧ n.labels = ls ∧ Rebuild c n ∧
      ∀ g' ∈ n.gates, ∃ g ∈ c.gates, g' = ⟨g.label, g.ty, g.ops.map f⟩ := by
  unfold emplaceAll
  exact rebuild_run (cir := id) (s0 := Circuit.empty)
    (J := fun n => ∀ g' ∈ n.gates, ∃ g ∈ c.gates, g' = ⟨g.label, g.ty, g.ops.map f⟩) hw hls hl hord
    (fun n g hj _ hf hcl ho => ⟨g.ops.map f,
      fun d hd => by
        obtain ⟨o, ho', rfl⟩ := List.mem_map.mp hd
        exact (hdep o).closed hcl fun _ h => List.mem_singleton.mp h ▸ ho o ho',
      List.length_map _,
      fun b v hv => by rw [List.map_map]; exact List.map_congr_left fun l _ => hfv b v hv l,
      fun n' ha => ⟨n', by simp only [hf]; exact ha, rfl, fun g' hg' => by
        rcases List.mem_append.mp ((addGate_fields ha).gates ▸ hg') with h | h
        · exact hj g' h
        · exact ⟨g, (find_some_mem hf).1, List.mem_singleton.mp h⟩⟩⟩)
    rfl (fun _ h => nomatch h)

end Cirbo
