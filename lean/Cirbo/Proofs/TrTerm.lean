import Cirbo.Proofs.Traverse
import Cirbo.Proofs.Graph
/-!
# The traversal loop terminates within its fuel, and returns when every successor exists
-/
namespace Cirbo

/-- what an unvisited gate holds in reserve: one unit for entering plus one per successor -/
def unvW (next : Label → List Label) (st : Label → TState) (l : Label) : Nat :=
  if st l = .unv then (next l).length + 1 else 0

def potential (c : Circuit) (next : Label → List Label) (s : TrSt) : Nat :=
  s.queue.length + (c.labels.map (unvW next s.st)).sum

theorem unvW_setSt (next : Label → List Label) (st : Label → TState) {k : Label} {v : TState} (hv : v ≠ .unv)
    {ls : List Label} (hk : k ∈ ls) :
    (ls.map (unvW next (setSt st k v))).sum + unvW next st k ≤ (ls.map (unvW next st)).sum := by
  have := sum_map_zero_at (k := k) (w := unvW next st) (w' := unvW next (setSt st k v)) (by simp [unvW, setSt_self, hv])
    (fun l hl => by simp [unvW, setSt_ne _ _ hl]) ls
  have := Nat.le_mul_of_pos_left (unvW next st k) (List.count_pos_iff.mpr hk)
  omega

theorem trStep_potential {c : Circuit} {bfs ab : Bool} {next : Label → List Label}
    {s s' : TrSt} (h : trStep c bfs ab next s = .next s') : potential c next s' < potential c next s := by
  obtain ⟨q, cur, hq, hg, hcase⟩ := trStep_next_cases h
  have hcur : cur ∈ c.labels := (hasGate_iff c cur).mp hg
  have hlen : s.queue.length = q.length + 1 := by rw [hq]; cases bfs <;> simp [withTop]
  rcases hcase with ⟨hst, -, rfl⟩ | ⟨hst, rfl⟩ | ⟨hst, rfl⟩
  · have hw := unvW_setSt next s.st (v := if bfs then .vis else .ent) (by cases bfs <;> simp) hcur
    have hp : (pushed next s.st cur).length ≤ (next cur).length := List.length_filter_le _ _
    simp only [unvW, hst, if_true] at hw
    cases bfs <;>
      simp only [potential, Bool.false_eq_true, if_false, if_true, List.length_append,
        List.length_singleton] at hw ⊢ <;> omega
  · have hw := unvW_setSt next s.st (v := .vis) (by simp) hcur
    simp only [potential]; omega
  · simp only [potential]; omega

theorem trStep_error {c : Circuit} {bfs ab : Bool} {next : Label → List Label} {s : TrSt} {e : String}
    (h : trStep c bfs ab next s = .error e) : e = "GateDoesntExistError" ∨ e = "CircuitValidationError" := by
  obtain ⟨q, cur, -, ⟨-, he⟩ | ⟨-, -, hcp⟩⟩ := trStep_error_cases h
  · exact .inl he
  · obtain ⟨h0, -⟩ | ⟨_, -, ⟨-, h1⟩ | ⟨-, -, h1⟩⟩ := childProblem_cases c ab (setSt s.st cur .ent) (next cur)
    · rw [h0] at hcp; cases hcp
    · exact .inl (Option.some.inj (hcp.symm.trans h1))
    · exact .inr (Option.some.inj (hcp.symm.trans h1))

theorem trLoop_error {c : Circuit} {bfs ab : Bool} {next : Label → List Label} (fuel : Nat) (s : TrSt)
    (e : String) (h : trLoop c bfs ab next fuel s = .error e) :
    e = "fuel" ∨ e = "GateDoesntExistError" ∨ e = "CircuitValidationError" :=
  ((trLoop_induct (P := fun _ => True) (fun _ _ _ _ => trivial) fuel s trivial).2 e h).imp id
    fun ⟨_, _, hs⟩ => trStep_error hs

theorem trLoop_terminates {c : Circuit} {bfs ab : Bool} {next : Label → List Label} :
    ∀ (fuel : Nat) (s : TrSt), potential c next s < fuel → trLoop c bfs ab next fuel s ≠ .error "fuel"
  | 0, _, h => absurd h (Nat.not_lt_zero _)
  | fuel+1, s, h => by
    unfold trLoop
    cases hs : trStep c bfs ab next s with
    | finished => simp
    | error e =>
      intro he
      rcases trStep_error hs with h1 | h1 <;> simp [h1] at he
    | next s' => exact trLoop_terminates fuel s' (by have := trStep_potential hs; omega)

/-- the model's budget is twice the initial potential plus 2; any budget above the potential would do -/
theorem potential_init_lt (c : Circuit) (next : Label → List Label) (q0 : List Label) :
    potential c next ⟨q0, fun _ => .unv, []⟩ < 2 * (q0.length + c.gates.length + totalDeg c next) + 2 := by
  have : ∀ ls : List Label, (ls.map (unvW next fun _ => .unv)).sum = (ls.map fun l => (next l).length).sum + ls.length := by
    intro ls
    induction ls with
    | nil => rfl
    | cons x r ih => simp only [List.map_cons, List.sum_cons, List.length_cons, ih, unvW, if_true]; omega
  simp only [potential, this, totalDeg, foldl_add_eq_sum]
  have : c.labels.length = c.gates.length := by simp [Circuit.labels]
  omega

theorem traverse_terminates (c : Circuit) (bfs inverse : Bool)
    (start : Option (List Label)) (tu ab : Bool) : traverse c bfs inverse start tu ab ≠ .error "fuel" := by
  intro h
  rcases traverse_error_cases h with hl | ⟨-, -, he⟩
  · exact trLoop_terminates _ _ (potential_init_lt _ _ _) hl
  · simp at he

theorem mem_tail_of {α} {x : α} {l : List α} (h : x ∈ l.tail) : x ∈ l := List.mem_of_mem_tail h

theorem filter_length_le {α} (p : α → Bool) (l : List α) : (l.filter p).length ≤ l.length := List.length_filter_le p l

/-- without an aborting hook nothing else can go wrong -/
theorem traverse_ok_of_closed {c : Circuit} (bfs inverse : Bool) (start : Option (List Label)) (tu : Bool)
    (hcl : ∀ l x, x ∈ (if inverse then c.usersOf else c.opsOf) l → x ∈ c.labels)
    (hq0 : ∀ x ∈ start.getD (if inverse then c.inputs else c.outputs), x ∈ c.labels)
    (hts : c.topSort true ≠ .cyclic) : ∃ log, traverse c bfs inverse start tu false = .ok log := by
  cases ht : traverse c bfs inverse start tu false with
  | ok log => exact ⟨log, rfl⟩
  | error e =>
    exfalso
    rcases traverse_error_cases ht with hl | ⟨-, hc, -⟩
    · rcases (trLoop_induct (P := fun s => ∀ x ∈ s.queue, x ∈ c.labels) (fun s s' hP hs x hx => by
        obtain ⟨q, cur, hq, -, ⟨-, -, rfl⟩ | ⟨-, rfl⟩ | ⟨-, rfl⟩⟩ := trStep_next_cases hs
        · rcases List.mem_append.mp hx with hx | hx
          · exact hP x (hq ▸ mem_withTop.mpr (by cases bfs <;> simp_all [or_comm]))
          · exact hcl cur x (mem_pushed.mp hx).1
        all_goals exact hP x (hq ▸ mem_withTop.mpr (.inr hx))) _ _ hq0).2 e hl with rfl | ⟨s1, hP, hs⟩
      · exact trLoop_terminates _ _ (potential_init_lt _ _ _) hl
      · obtain ⟨q, cur, hq1, ⟨hg, -⟩ | ⟨-, -, hcp⟩⟩ := trStep_error_cases hs
        · have := (hasGate_iff c cur).mpr (hP cur (hq1 ▸ mem_withTop.mpr (.inl rfl)))
          rw [hg] at this; cases this
        · obtain ⟨h0, -⟩ | ⟨x, hx, ⟨hg, -⟩ | ⟨ha, -⟩⟩ := childProblem_cases c false (setSt s1.st cur .ent) ((if inverse then c.usersOf else c.opsOf) cur)
          · rw [h0] at hcp; cases hcp
          · rw [(hasGate_iff c x).mpr (hcl cur x hx)] at hg; cases hg
          · cases ha
    · exact hts hc

end Cirbo
