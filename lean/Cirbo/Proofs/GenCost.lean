import Cirbo.Proofs.Gen
/-!
# Gate counts of generator programs (C07): a cost semantics and the blocks' exact costs
-/
namespace Cirbo

/-- `Cost p a k`: `p` can return `a` along a path on which exactly `k` gates are added -/
inductive Cost {α : Type} : Prog α → α → Nat → Prop
  | pure {a : α} : Cost (.pure a) a 0
  | fresh {r k} {a : α} {n : Nat} (l : Label) : Cost (k l) a n → Cost (.fresh r k) a n
  | add {g ok k} {a : α} {n : Nat} : Cost k a n → Cost (.add g ok k) a (n + 1)
  | mark {l k} {a : α} {n : Nat} : Cost k a n → Cost (.mark l k) a n

theorem cost_pure {α} {a a' : α} {n : Nat} : Cost (Pure.pure a : Prog α) a' n ↔ a' = a ∧ n = 0 := by
  constructor
  · intro h; cases h; exact ⟨rfl, rfl⟩
  · rintro ⟨rfl, rfl⟩; exact .pure

theorem cost_fail {α} {e : String} {a : α} {n : Nat} : ¬ Cost (.fail e : Prog α) a n := by
  intro h; cases h

theorem Path.cost {α} {F : Label → Prop} {p : Prog α} {a : α} {gs : List Gate} (h : Path F p a gs) :
    Cost p a gs.length := by
  induction h with
  | pure => exact .pure
  | fresh l _ _ ih => exact .fresh l ih
  | add _ ih => exact .add ih
  | mark _ ih => exact .mark ih

theorem Cost.path {α} {p : Prog α} {a : α} {n : Nat} (h : Cost p a n) :
    ∃ gs, Path (fun _ => True) p a gs ∧ gs.length = n := by
  induction h with
  | pure => exact ⟨[], .pure, rfl⟩
  | fresh l _ ih => obtain ⟨gs, h1, h2⟩ := ih; exact ⟨gs, .fresh l trivial h1, h2⟩
  | add _ ih => obtain ⟨gs, h1, rfl⟩ := ih; exact ⟨_ :: gs, .add h1, rfl⟩
  | mark _ ih => obtain ⟨gs, h1, h2⟩ := ih; exact ⟨gs, .mark h1, h2⟩

theorem cost_bind {α β} {p : Prog α} {f : α → Prog β} {b : β} {n : Nat} :
    Cost (p >>= f) b n ↔ ∃ a n1 n2, Cost p a n1 ∧ Cost (f a) b n2 ∧ n = n1 + n2 := by
  constructor
  · intro h
    obtain ⟨gs, hp, rfl⟩ := h.path
    obtain ⟨a, g1, g2, h1, h2, rfl⟩ := path_bind.mp hp
    exact ⟨a, _, _, h1.cost, h2.cost, List.length_append⟩
  · rintro ⟨a, _, _, c1, c2, rfl⟩
    obtain ⟨g1, h1, rfl⟩ := c1.path
    obtain ⟨g2, h2, rfl⟩ := c2.path
    exact List.length_append ▸ (path_bind.mpr ⟨a, g1, g2, h1, h2, rfl⟩).cost

/-- a path that `Sem` reads has a gate count -/
theorem Sem.cost {α} {p : Prog α} {v : Label → Bool} {a : α} (h : Sem p v a) : ∃ n, Cost p a n :=
  let ⟨_, hp, _⟩ := along_iff_path.mp (sem_iff_along.mp h)
  ⟨_, hp.cost⟩

theorem run_cost {α} (p : Prog α) : ∀ {st : GSt} {a : α} {st' : GSt}, p.run st = .ok (a, st') →
    ∃ n, Cost p a n ∧ st'.c.gates.length = st.c.gates.length + n := by
  intro st a st' h
  obtain ⟨gs, h1, h2, _⟩ := run_path h
  exact ⟨_, h1.cost, h2 ▸ List.length_append⟩

theorem cost_emitTT {x y : Label} {t : TT} {l : Label} {n : Nat} (h : Cost (emitTT x y t) l n) : n = 1 := by
  unfold emitTT at h
  split at h
  · cases h with
    | fresh l0 h0 => cases h0
  · unfold emit at h
    cases h with
    | fresh l0 h0 =>
      cases h0 with
      | add hp => cases hp; rfl

/-- every path of `p` adds exactly `k` gates -/
def Costs {α} (p : Prog α) (k : Nat) : Prop := ∀ a n, Cost p a n → n = k

def BlockCost (blk : List Label → Prog (List Label)) (c : Nat) : Prop := ∀ ins, Costs (blk ins) c

theorem Costs.pure {α} {a : α} : Costs (Pure.pure a : Prog α) 0 := fun _ _ h => (cost_pure.mp h).2

theorem Costs.fail {α} {e : String} {k : Nat} : Costs (.fail e : Prog α) k := fun _ _ h => absurd h cost_fail

theorem Costs.emitTT_bind {α} {x y : Label} {t : TT} {f : Label → Prog α} {k : Nat} (h : ∀ l, Costs (f l) k) :
    Costs (emitTT x y t >>= f) (k + 1) := by
  intro a n hc
  obtain ⟨l, n1, n2, h1, h2, rfl⟩ := cost_bind.mp hc
  rw [cost_emitTT h1, h l a n2 h2, Nat.add_comm]

theorem costs_addSum2 (ins : List Label) : Costs (addSum2 ins) 2 := by
  unfold addSum2
  split
  · repeat refine .emitTT_bind fun _ => ?_
    exact .pure
  · exact .fail

theorem costs_addSum3 (ins : List Label) : Costs (addSum3 ins) 5 := by
  unfold addSum3
  split
  · repeat refine .emitTT_bind fun _ => ?_
    exact .pure
  · exact .fail

theorem costs_addStockmeyer (ins : List Label) : Costs (addStockmeyer ins) 4 := by
  unfold addStockmeyer
  split
  · repeat refine .emitTT_bind fun _ => ?_
    exact .pure
  · exact .fail

theorem costs_addMdfa (ins : List Label) : Costs (addMdfa ins) 8 := by
  unfold addMdfa
  split
  · repeat refine .emitTT_bind fun _ => ?_
    exact .pure
  · exact .fail

theorem costs_addSimplifiedMdfa (ins : List Label) : Costs (addSimplifiedMdfa ins) 6 := by
  unfold addSimplifiedMdfa
  split
  · repeat refine .emitTT_bind fun _ => ?_
    exact .pure
  · exact .fail

theorem costs_addSum2Aig (ins : List Label) : Costs (addSum2Aig ins) 3 := by
  unfold addSum2Aig
  split
  · repeat refine .emitTT_bind fun _ => ?_
    exact .pure
  · exact .fail

theorem costs_addSum3Aig (ins : List Label) : Costs (addSum3Aig ins) 7 := by
  unfold addSum3Aig
  split
  · repeat refine .emitTT_bind fun _ => ?_
    exact .pure
  · exact .fail

theorem costs_pair2 (r : List Label) : Costs (pair2 r) 0 := by
  unfold pair2
  split
  · exact .pure
  · exact .fail

theorem costs_triple3 (r : List Label) : Costs (triple3 r) 0 := by
  unfold triple3
  split
  · exact .pure
  · exact .fail

theorem cost_firstOfRev {l : List Label} {x : Label} {n : Nat} (h : Cost (firstOfRev l) x n) : n = 0 ∧ l ≠ [] := by
  unfold firstOfRev at h
  split at h
  · rename_i y hy
    refine ⟨(cost_pure.mp h).2, ?_⟩
    intro e; rw [e] at hy; cases hy
  · exact absurd h cost_fail

end Cirbo
