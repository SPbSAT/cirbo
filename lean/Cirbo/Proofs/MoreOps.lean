import Cirbo.Proofs.ConnFull
/-! The C02 invariant under `copy`, under the loop of a left connection, and under the tail of `connect_circuit`. -/
namespace Cirbo
open GateType Circuit

theorem copy_wfs {c c' : Circuit} (hw : WFS c) (h : c.copy = .ok c') : WFS c' := by
  unfold Circuit.copy at h
  split at h
  · cases h
  · rename_i order _
    simp only at h
    split at h
    · cases h
    · rename_i n1 h1
      have w1 : WFS n1 := foldlR_ok (I := fun _ => WFS) (fun _ _ => rfl) (fun _ l n n' hw' hs => by
        simp only at hs
        cases hf : c.find? l with
        | none => simp [hf] at hs
        | some g => simp only [hf] at hs; exact addGate_wfs hw' (hw.inputOps g (find_some_mem hf).1) hs) wfs_empty h1
      split at h
      · cases h
      · rename_i n2 h2
        split at h
        · cases h
        · rename_i n3 h3
          exact foldlR_ok (I := fun _ => WFS) (fun _ _ => rfl) (fun _ b n _ hw' hs => makeBlock_wfs hw' hs)
            (setOutputs_wfs (setInputs_wfs w1 h2) h3) h

/-- the loop of a left connection only adds gates -/
theorem connLoop_left_wfs {other : Circuit} (hio : ∀ g ∈ other.gates, g.ty = INPUT → g.ops = [])
    {m : Dict Label} {pre : String} {order : List Label} {st0 st : ConnSt} (hw : WFS st0.c)
    (h : order.foldl (connStep other m pre false) (.ok st0) = .ok st) : WFS st.c := by
  refine foldlR_ok (I := fun _ st => WFS st.c) (connStep_error other m pre false) (fun _ cur st st' hw hs => ?_) hw h
  obtain ⟨g, hf, ⟨_, ops, c1, hm, ha, rfl⟩ | ⟨_, _, rfl⟩ | ⟨_, ⟨⟩, _⟩⟩ := connStep_ok_iff.mp hs
  · exact addGate_wfs (g := ⟨pre ++ cur, g.ty, ops⟩) hw (fun ht => mapLabels_nil_of hm (hio g (find_some_mem hf).1 ht)) ha
  · exact hw

theorem bfold_wfs {o2n : Dict Label} {pre : String} {L : List Label}
    (hv : ∀ l x, Dict.get? o2n l = some x → x ∈ L) :
    ∀ (bs : List Block) (cc c3 : Circuit), WFS cc → cc.labels = L →
      bs.foldl (bstepFn o2n pre) (.ok cc) = .ok c3 → WFS c3 ∧ c3.labels = L := by
  intro bs cc c3 hw hl h
  refine foldlR_ok (I := fun _ cc => WFS cc ∧ cc.labels = L) (fun _ _ => rfl) (fun _ b cc c1 ⟨hw, hl⟩ hs => ?_)
    ⟨hw, hl⟩ h
  obtain ⟨_, bi, bg, bo, hi, hg, _, rfl⟩ := bstepFn_ok_iff.mp hs
  refine ⟨hw.withBlocks fun b' hb' => ?_, hl⟩
  rcases List.mem_append.mp hb' with hb' | hb'
  · exact hw.blocksOK b' hb'
  · cases List.mem_singleton.mp hb'
    have key : ∀ {ls r : List Label}, mapLabels o2n ls = .ok r → ∀ l ∈ r, l ∈ cc.labels := fun hm l hlm => by
      obtain ⟨l0, _, h0⟩ := mapLabels_values hm hlm
      exact hl ▸ hv l0 l h0
    exact ⟨key hg, key hi⟩

theorem wfs_putBlock {c : Circuit} (hw : WFS c) (name : Label) {nb : Block}
    (hnb : (∀ l ∈ nb.gates, l ∈ c.labels) ∧ (∀ l ∈ nb.inputs, l ∈ c.labels)) :
    WFS { c with blocks :=
      if c.blocks.any (fun x => x.name == name) then c.blocks.map (fun x => if x.name == name then nb else x)
      else c.blocks ++ [nb] } := by
  refine hw.withBlocks fun b hb => ?_
  split at hb
  · obtain ⟨b0, hb0, rfl⟩ := List.mem_map.mp hb
    split
    · exact hnb
    · exact hw.blocksOK b0 hb0
  · rcases List.mem_append.mp hb with hb | hb
    · exact hw.blocksOK b hb
    · cases List.mem_singleton.mp hb; exact hnb

/-- the tail of `connect_circuit` keeps the invariant, provided setting the interface of the loop's result does -/
theorem connFinish_wfs {c other c' : Circuit} {st : ConnSt} {thisC otherC : List Label} {name : Label} {pre : String}
    (hw : ∀ {o i : List Label} {c1 c2 : Circuit}, st.c.setOutputs o = .ok c1 → c1.setInputs i = .ok c2 → WFS c2)
    (hvals : ∀ l x, Dict.get? st.o2n l = some x → x ∈ st.c.labels) (hforB : ∀ x ∈ st.forBlock, x ∈ st.c.labels)
    (h : connFinish c other st thisC otherC name pre = .ok c') : WFS c' := by
  obtain ⟨outs2, c1, ins2, c2, c3, _, h2, _, _, h5, h6, h7⟩ := connFinish_ok_iff.mp h
  have hl2 : c2.labels = st.c.labels := by
    unfold Circuit.labels; rw [setInputs_gates h5, setOutputs_gates h2]
  obtain ⟨w3, hl3⟩ := bfold_wfs hvals other.blocks c2 c3 (hw h2 h5) hl2 h6
  split at h7
  · exact h7 ▸ w3
  · obtain ⟨bi, bo, hmi, _, rfl⟩ := h7
    refine wfs_putBlock w3 name ⟨fun l hl => hl3 ▸ hforB l hl, fun l hl => ?_⟩
    obtain ⟨l0, _, h0⟩ := mapLabels_values hmi hl
    exact hl3 ▸ hvals l0 l h0

end Cirbo
