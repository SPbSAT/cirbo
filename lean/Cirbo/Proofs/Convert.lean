import Cirbo.Proofs.Mutate
import Cirbo.Proofs.Val
/-!
# Bench conversion: one step of `into_bench`, and that it preserves the denotation (C14)

`convPlan` says what `convert_gate` is going to do to a gate, `applyRw` carries a plan out, and `convert_gate` is the
two together (`convertGate_plan`, by `rfl` on each shape).  `Rewired` is a circuit after a plan; what a step preserves
and when it raises is read off from the plan.
-/
namespace Cirbo
open GateType Circuit

/-- `IsValB` on a bare gate list -/
def ValG (gs : List Gate) (b v : Label → Bool) : Prop :=
  ∀ g ∈ gs, if g.ty = INPUT then v g.label = b g.label else bfun g.ty (g.ops.map v) = some (v g.label)

theorem isValB_iff_valG (c : Circuit) (b v : Label → Bool) : IsValB c b v ↔ ValG c.gates b v := Iff.rfl

/-- the gate types a `.bench` file can express -/
def benchTy : GateType → Bool
  | INPUT | NOT | AND | OR | NAND | NOR | XOR | NXOR | IFF => true
  | _ => false

/-- what converting the gate `g` of `c` yields: a valuation `v1` of `c1` that agrees with `v` on the old labels; every
gate that is new or carries the label of `g` has a bench type -/
structure ConvRes (c c1 : Circuit) (g : Gate) (b v v1 : Label → Bool) : Prop where
  val : ValG c1.gates b v1
  agree : ∀ l ∈ c.labels, v1 l = v l
  ins : c1.inputs = c.inputs
  outs : c1.outputs = c.outputs
  nl : NL c1
  stay : ∀ h ∈ c.gates, h.label ≠ g.label → h ∈ c1.gates
  sub : ∀ l ∈ c.labels, l ∈ c1.labels
  typesNew : ∀ h ∈ c1.gates, h ∉ c.gates → benchTy h.ty = true
  typesG : ∀ h ∈ c1.gates, h.label = g.label → benchTy h.ty = true

/-- the rewrite `convertGate` applies to a gate of each type, as a table; `idx` is the operand negated resp. dropped,
`ty` the type the gate gets, `tag` the one in the helper's label -/
inductive ConvKind
  | keep
  | neg (tag : String) (idx : Nat) (ty : GateType)
  | drop (idx : Nat) (ty : GateType)
  | const (tag : String) (ty : GateType)

def convKind : GateType → ConvKind
  | .LT => .neg "LT" 0 AND
  | LEQ => .neg "LEQ" 0 OR
  | GT => .neg "GT" 1 AND
  | GEQ => .neg "GEQ" 1 OR
  | LIFF => .drop 1 IFF
  | RIFF => .drop 0 IFF
  | LNOT => .drop 1 NOT
  | RNOT => .drop 0 NOT
  | ALWAYS_TRUE => .const "ALWAYS_TRUE" OR
  | ALWAYS_FALSE => .const "ALWAYS_FALSE" AND
  | _ => .keep

theorem convertGate_eq (c : Circuit) (g : Gate) (k : Nat) :
    c.convertGate g k = match convKind g.ty with
      | .keep => .ok (c, k)
      | .neg tag idx ty => convNeg c g k tag idx ty
      | .drop idx ty => convDrop c g k idx ty
      | .const tag ty => convConst c g k tag ty := by
  unfold convertGate
  cases g.ty <;> rfl

theorem convKind_keep {t : GateType} (h : convKind t = .keep) : benchTy t = true := by
  cases t <;> first | rfl | cases h

/-- a comparison is an AND/OR with one operand negated -/
theorem convKind_neg {t ty : GateType} {tag : String} {idx : Nat} (h : convKind t = .neg tag idx ty) :
    (idx = 0 ∨ idx = 1) ∧ (benchTy ty = true ∧ ty ≠ INPUT ∧ arityOk ty 2 = true) ∧ t ≠ INPUT ∧
      (∀ n, arityOk t n = (n == 2)) ∧ ∀ a b, bfun ty (if idx = 0 then [!a, b] else [a, !b]) = bfun t [a, b] := by
  cases t <;> cases h <;>
    exact ⟨by decide, ⟨rfl, nofun, rfl⟩, nofun, fun _ => rfl, fun a b => by cases a <;> cases b <;> rfl⟩

theorem convKind_drop {t ty : GateType} {idx : Nat} (h : convKind t = .drop idx ty) :
    (idx = 0 ∨ idx = 1) ∧ (benchTy ty = true ∧ ty ≠ INPUT ∧ arityOk ty 1 = true) ∧ t ≠ INPUT ∧
      (∀ n, arityOk t n = (n == 2)) ∧ ∀ a b, bfun ty [if idx = 0 then b else a] = bfun t [a, b] := by
  cases t <;> cases h <;> exact ⟨by decide, ⟨rfl, nofun, rfl⟩, nofun, fun _ => rfl, fun _ _ => rfl⟩

/-- a constant is `x OR NOT x` or `x AND NOT x` -/
theorem convKind_const {t ty : GateType} {tag : String} (h : convKind t = .const tag ty) :
    (benchTy ty = true ∧ ty ≠ INPUT ∧ arityOk ty 2 = true) ∧ t ≠ INPUT ∧
      ∃ val, (∀ xs, bfun t xs = some val) ∧ ∀ a, bfun ty [a, !a] = some val := by
  cases t <;> cases h <;> exact ⟨⟨rfl, nofun, rfl⟩, nofun, _, fun _ => rfl, fun a => by cases a <;> rfl⟩

/-- the tag of the helper gate created for a gate of this type (`none`: no helper gate, no uuid drawn) -/
def bt_tag : GateType → Option String
  | .LT => some "LT"
  | .LEQ => some "LEQ"
  | .GT => some "GT"
  | .GEQ => some "GEQ"
  | .ALWAYS_TRUE => some "ALWAYS_TRUE"
  | .ALWAYS_FALSE => some "ALWAYS_FALSE"
  | _ => none

/-- the constants: rewritten with the first input of the circuit -/
def bt_isConst : GateType → Bool
  | .ALWAYS_TRUE | .ALWAYS_FALSE => true
  | _ => false

/-- the eight types whose converter reads `operands[0]` and `operands[1]` -/
def bt_isBin : GateType → Bool
  | .LT | .LEQ | .GT | .GEQ | .LIFF | .RIFF | .LNOT | .RNOT => true
  | _ => false

/-- the statements of C14 speak of `bt_tag`, `bt_isBin`, `bt_isConst`, the proofs go by `convKind` -/
theorem convKind_bt (ty : GateType) :
    match convKind ty with
    | .keep => bt_tag ty = none ∧ bt_isBin ty = false ∧ bt_isConst ty = false
    | .neg tag _ _ => bt_tag ty = some tag ∧ bt_isBin ty = true ∧ bt_isConst ty = false
    | .drop _ _ => bt_tag ty = none ∧ bt_isBin ty = true ∧ bt_isConst ty = false
    | .const tag _ => bt_tag ty = some tag ∧ bt_isBin ty = false ∧ bt_isConst ty = true := by
  cases ty <;> exact ⟨rfl, rfl, rfl⟩

/-- a rewrite of one gate `g`: `g'` takes its place, a gate `new = NOT(target)` is added before if `helper` is
`(new, target)`, `g` is struck from the users of `lost` and entered among the users of `gained` -/
structure Rw where
  g' : Gate
  helper : Option (Label × Label)
  lost : List Label
  gained : List Label

/-- the helper as a list of gates -/
def Rw.H (p : Rw) : List Gate := match p.helper with
  | none => []
  | some (new, target) => [⟨new, NOT, [target]⟩]

def Rw.edit (p : Rw) (u : Label) (c : Circuit) : Circuit :=
  (p.gained.foldl (fun c o => c.addUser o u) (p.lost.foldl (fun c o => c.removeUser o u) c)).setGate p.g'

/-- carrying out a rewrite: what the ten converters do, each with its own `p` -/
def applyRw (c : Circuit) (g : Gate) (p : Rw) (k : Nat) : R (Circuit × Nat) :=
  match p.helper with
  | none => .ok (p.edit g.label c, k)
  | some (new, target) => match c.addGate ⟨new, NOT, [target]⟩ with
    | .error e => .error e
    | .ok c0 => .ok ((p.edit g.label c0).addToBlocks g.label new, k + 1)

/-- what `convert_gate` does to `g` (`none`: nothing), or the error of a converter that finds no second operand or
no input -/
def convPlan (c : Circuit) (g : Gate) (k : Nat) : R (Option Rw) :=
  match convKind g.ty with
  | .keep => .ok none
  | .neg tag idx ty => match g.ops with
    | x :: y :: _ => .ok (some ⟨⟨g.label, ty, if idx = 0 then [convLabel tag g k, y] else [x, convLabel tag g k]⟩,
        some (convLabel tag g k, if idx = 0 then x else y), [if idx = 0 then x else y], [convLabel tag g k]⟩)
    | _ => .error "Py:IndexError"
  | .drop idx ty => match g.ops with
    | x :: y :: _ => .ok (some ⟨⟨g.label, ty, [if idx = 0 then y else x]⟩, none, [if idx = 0 then x else y], []⟩)
    | _ => .error "Py:IndexError"
  | .const tag ty => match c.inputs with
    | f :: _ => .ok (some ⟨⟨g.label, ty, [f, convLabel tag g k]⟩, some (convLabel tag g k, f), g.ops,
        [f, convLabel tag g k]⟩)
    | [] => .error "GateDoesntExistError"

theorem convertGate_plan (c : Circuit) (g : Gate) (k : Nat) :
    c.convertGate g k = match convPlan c g k with
      | .error e => .error e
      | .ok none => .ok (c, k)
      | .ok (some p) => applyRw c g p k := by
  rw [convertGate_eq]
  unfold convPlan
  cases convKind g.ty with
  | keep => rfl
  | neg tag idx ty => unfold convNeg; rcases g.ops with _ | ⟨x, _ | ⟨y, rest⟩⟩ <;> rfl
  | drop idx ty => unfold convDrop; rcases g.ops with _ | ⟨x, _ | ⟨y, rest⟩⟩ <;> rfl
  | const tag ty => unfold convConst; rcases c.inputs with _ | ⟨f, rest⟩ <;> rfl

/-- `c1` is `c` after the rewrite `p` of its gate `g` -/
structure Rewired (c c1 : Circuit) (g : Gate) (p : Rw) : Prop where
  gates : c1.gates = (c.gates ++ p.H).map (replG p.g')
  inputs : c1.inputs = c.inputs
  outputs : c1.outputs = c.outputs
  blocks : ∀ b' ∈ c1.blocks, ∃ b ∈ c.blocks, b'.inputs = b.inputs ∧ ∀ l ∈ b'.gates, l ∈ b.gates ∨ l ∈ p.H.map (·.label)
  users : ∀ l u, (c1.usersOf l).count u = if u = g.label
    then (c.usersOf l).count u + contrib p.H l u - p.lost.count l + p.gained.count l
    else (c.usersOf l).count u + contrib p.H l u

theorem Rewired.labels {c c1 : Circuit} {g : Gate} {p : Rw} (h : Rewired c c1 g p) :
    c1.labels = c.labels ++ p.H.map (·.label) := by
  unfold Circuit.labels; rw [h.gates, labels_map_replG, List.map_append]

theorem Rewired.stay {c c1 : Circuit} {g : Gate} {p : Rw} (h : Rewired c c1 g p) {x : Gate} (hx : x ∈ c.gates)
    (hne : x.label ≠ p.g'.label) : x ∈ c1.gates :=
  h.gates ▸ mem_map_replG_of_ne (List.mem_append_left _ hx) hne

/-- `add_gate` accepts the helper gates -/
def Addable (c : Circuit) (H : List Gate) : Prop := ∀ h ∈ H, h.label ∉ c.labels ∧ ∀ o ∈ h.ops, o ∈ c.labels

theorem Rw.edit_fields (p : Rw) (u : Label) (c : Circuit) :
    (p.edit u c).gates = c.gates.map (replG p.g') ∧ (p.edit u c).inputs = c.inputs ∧
      (p.edit u c).outputs = c.outputs ∧ (p.edit u c).blocks = c.blocks :=
  have h := (foldl_removeUser_sameNet p.lost c u).trans (foldl_addUser_sameNet p.gained _ u)
  ⟨congrArg (List.map _) h.gates, h.inputs, h.outputs, h.blocks⟩

theorem Rw.edit_users (p : Rw) (u : Label) (c : Circuit) (l w : Label) :
    ((p.edit u c).usersOf l).count w =
      if w = u then (c.usersOf l).count w - p.lost.count l + p.gained.count l else (c.usersOf l).count w := by
  unfold Rw.edit
  rw [setGate_usersOf, usersOf_foldl_addUser, List.count_append, count_usersOf_foldl_removeUser, count_replicate_label]
  by_cases hw : w = u <;> simp [hw, eq_comm (a := u)]

/-- a call that returns, or raises, as the plan says -/
def Carries (c : Circuit) (g : Gate) (k : Nat) (r : R (Circuit × Nat)) (p : Rw) : Prop :=
  (Addable c p.H → ∃ c1, r = .ok (c1, k + p.H.length) ∧ Rewired c c1 g p) ∧
  (¬ Addable c p.H → r = .error "CircuitValidationError")

theorem applyRw_carries (c : Circuit) (g : Gate) (p : Rw) (k : Nat) : Carries c g k (applyRw c g p k) p := by
  unfold applyRw Carries
  rcases p with ⟨g', _ | ⟨new, target⟩, lost, gained⟩
  · obtain ⟨e1, e2, e3, e4⟩ := Rw.edit_fields ⟨g', none, lost, gained⟩ g.label c
    refine ⟨fun _ => ⟨_, rfl, e1.trans (by simp [Rw.H]), e2, e3, fun b' hb' => ⟨b', e4 ▸ hb', rfl, fun l hl => .inl hl⟩,
      fun l u => ?_⟩, fun hA => absurd nofun hA⟩
    rw [Rw.edit_users]; simp [Rw.H, contrib_nil]
  · have hH : (⟨g', some (new, target), lost, gained⟩ : Rw).H = [⟨new, NOT, [target]⟩] := rfl
    rw [hH]
    constructor
    · intro hA
      obtain ⟨hn, ho⟩ := hA _ List.mem_cons_self
      obtain ⟨hg, hi, hou, hb, hu⟩ := rawAddGate_fields (g := ⟨new, NOT, [target]⟩) hn
      obtain ⟨e1, e2, e3, e4⟩ := Rw.edit_fields ⟨g', some (new, target), lost, gained⟩ g.label
        (c.rawAddGate ⟨new, NOT, [target]⟩)
      simp only [addGate_ok_iff.mpr ⟨hn, ho, rfl⟩]
      refine ⟨_, rfl, e1.trans (by rw [hg, hH]), e2.trans (by simpa using hi), e3.trans hou, fun b' hb' => ?_,
        fun l u => ?_⟩
      · obtain ⟨b, hb0, rfl⟩ := List.mem_map.mp (show b' ∈ (Rw.edit _ _ _).blocks.map _ from hb')
        rw [e4, hb] at hb0
        refine ⟨b, hb0, ?_⟩
        split
        · exact ⟨rfl, fun l hl => (List.mem_append.mp hl).imp id (by simp [hH])⟩
        · exact ⟨rfl, fun l hl => .inl hl⟩
      · show ((Rw.edit _ _ _).usersOf l).count u = _
        rw [Rw.edit_users, hu, List.count_append, count_replicate_label, hH, contrib_single, count_single]
    · intro hA
      simp only [addGate_refused (g := ⟨new, NOT, [target]⟩) fun h' => hA fun x hx => List.mem_singleton.mp hx ▸ h']

theorem convertGate_outcome (c : Circuit) (g : Gate) (k : Nat) :
    match convPlan c g k with
    | .error e => c.convertGate g k = .error e
    | .ok none => c.convertGate g k = .ok (c, k)
    | .ok (some p) => Carries c g k (c.convertGate g k) p := by
  rw [convertGate_plan]
  rcases convPlan c g k with e | _ | p
  · rfl
  · rfl
  · exact applyRw_carries c g p k

theorem convertGate_ok {c c1 : Circuit} {g : Gate} {k k1 : Nat} (h : c.convertGate g k = .ok (c1, k1)) :
    (convPlan c g k = .ok none ∧ c1 = c ∧ k1 = k) ∨
    ∃ p, convPlan c g k = .ok (some p) ∧ Addable c p.H ∧ Rewired c c1 g p ∧ k1 = k + p.H.length := by
  have ho := convertGate_outcome c g k
  rcases hp : convPlan c g k with e | _ | p <;> rw [hp] at ho <;> simp only at ho
  · rw [ho] at h; cases h
  · rw [ho] at h; cases h; exact .inl ⟨rfl, rfl, rfl⟩
  · by_cases hA : Addable c p.H
    · obtain ⟨c1', he, hr⟩ := ho.1 hA
      rw [he] at h; cases h
      exact .inr ⟨p, rfl, hA, hr, rfl⟩
    · rw [ho.2 hA] at h; cases h

theorem convPlan_label {c : Circuit} {g : Gate} {k : Nat} {p : Rw} (hp : convPlan c g k = .ok (some p)) :
    p.g'.label = g.label := by
  unfold convPlan at hp
  split at hp
  · cases hp
  all_goals (split at hp <;> cases hp <;> rfl)

theorem convertGate_stay {c c1 : Circuit} {g : Gate} {k k1 : Nat} (h : c.convertGate g k = .ok (c1, k1)) :
    ∀ g2 ∈ c.gates, g2.label ≠ g.label → g2 ∈ c1.gates := by
  obtain ⟨_, rfl, _⟩ | ⟨p, hp, _, hR, _⟩ := convertGate_ok h
  · exact fun _ h _ => h
  · exact fun g2 h2 hne => hR.stay h2 (convPlan_label hp ▸ hne)

theorem convPlan_none {c : Circuit} {g : Gate} {k : Nat} (hp : convPlan c g k = .ok none) : convKind g.ty = .keep := by
  unfold convPlan at hp
  split at hp
  · assumption
  all_goals (split at hp <;> cases hp)

/-- the gate `g` becomes `g'` and fresh helper gates `H` are appended; if `v1` extends `v` to the helpers, satisfies
their equations and gives `g'` the value that `g` had, it is a valuation of the result -/
theorem rewrite_res {c c1 : Circuit} (hnl : NL c) {g g' : Gate} (hg : g ∈ c.gates) {b v v1 : Label → Bool}
    (hv : ValG c.gates b v) (H : List Gate) (hgl : g'.label = g.label) (hgty : g.ty ≠ INPUT)
    (hg'b : benchTy g'.ty = true) (hg'ty : g'.ty ≠ INPUT) (hg'ar : arityOk g'.ty g'.ops.length = true)
    (hgates : c1.gates = (c.gates ++ H).map (replG g')) (hins : c1.inputs = c.inputs)
    (houts : c1.outputs = c.outputs) (hnd : (c.labels ++ H.map (·.label)).Nodup)
    (hagree : ∀ l ∈ c.labels, v1 l = v l)
    (hH : ∀ h ∈ H, benchTy h.ty = true ∧ h.ty ≠ INPUT ∧ arityOk h.ty h.ops.length = true ∧
      (∀ o ∈ h.ops, o ∈ c.labels ++ H.map (·.label)) ∧ bfun h.ty (h.ops.map v1) = some (v1 h.label))
    (hg'ops : ∀ o ∈ g'.ops, o ∈ c.labels ++ H.map (·.label))
    (hsem : bfun g'.ty (g'.ops.map v1) = bfun g.ty (g.ops.map v)) : ConvRes c c1 g b v v1 := by
  have hlabels : c1.labels = c.labels ++ H.map (·.label) := by
    unfold labels; rw [hgates, labels_map_replG, List.map_append]
  have hsub : ∀ l ∈ c.labels, l ∈ c1.labels := fun l hl => hlabels ▸ List.mem_append_left _ hl
  -- a gate of the result is an old gate other than `g`, a helper, or `g'`
  have hmem : ∀ h ∈ c1.gates, ((h ∈ c.gates ∧ h.label ≠ g.label) ∨ h ∈ H) ∨ h = g' := by
    intro h hh
    rw [hgates] at hh
    rcases mem_map_replG_cases hh with ⟨h1, h2⟩ | rfl
    · exact Or.inl ((List.mem_append.mp h1).imp (fun h1 => ⟨h1, hgl ▸ h2⟩) id)
    · exact Or.inr rfl
  have hHnew : ∀ h ∈ H, h ∉ c.gates ∧ h.label ≠ g.label := fun h hh =>
    have hd := (List.nodup_append.mp hnd).2.2
    ⟨fun hc => hd _ (mem_labels_of_mem hc) _ (List.mem_map.mpr ⟨h, hh, rfl⟩) rfl,
      fun e => hd _ (mem_labels_of_mem hg) _ (List.mem_map.mpr ⟨h, hh, rfl⟩) e.symm⟩
  refine ⟨fun h hh => ?_, hagree, hins, houts, ⟨hlabels ▸ hnd, fun h hh o ho => ?_, fun h hh => ?_⟩,
    fun h hh hne => ?_, hsub, fun h hh hnin => ?_, fun h hh hl => ?_⟩
  · rcases hmem h hh with (⟨h1, _⟩ | h1) | rfl
    · have hops : h.ops.map v1 = h.ops.map v :=
        List.map_congr_left fun o ho => hagree o (hnl.closed h h1 o ho)
      rw [hops, hagree _ (mem_labels_of_mem h1)]
      exact hv h h1
    · rw [if_neg (hH h h1).2.1]; exact (hH h h1).2.2.2.2
    · have := hv g hg
      rw [if_neg hgty] at this
      rw [if_neg hg'ty, hsem, this, hgl, hagree _ (mem_labels_of_mem hg)]
  · rw [hlabels]
    rcases hmem h hh with (⟨h1, _⟩ | h1) | rfl
    · exact List.mem_append_left _ (hnl.closed h h1 o ho)
    · exact (hH h h1).2.2.2.1 o ho
    · exact hg'ops o ho
  · rcases hmem h hh with (⟨h1, _⟩ | h1) | rfl
    · exact hnl.arity h h1
    · rw [if_neg (hH h h1).2.1]; exact (hH h h1).2.2.1
    · rw [if_neg hg'ty]; exact hg'ar
  · rw [hgates]; exact mem_map_replG_of_ne (List.mem_append_left _ hh) (hgl ▸ hne)
  · rcases hmem h hh with (⟨h1, _⟩ | h1) | rfl
    · exact absurd h1 hnin
    · exact (hH h h1).1
    · exact hg'b
  · rcases hmem h hh with (⟨_, h2⟩ | h1) | rfl
    · exact absurd hl h2
    · exact absurd hl (hHnew h h1).2
    · exact hg'b

/-- the valuation of the rewired circuit: the helper gets the negation of its operand -/
def Rw.ext (p : Rw) (v : Label → Bool) : Label → Bool := match p.helper with
  | none => v
  | some (new, target) => updV v new (!v target)

theorem Rewired.convRes {c c1 : Circuit} {g : Gate} {p : Rw} (hR : Rewired c c1 g p) (hnl : NL c) (hg : g ∈ c.gates)
    {b v : Label → Bool} (hv : ValG c.gates b v) (hA : Addable c p.H) (hgl : p.g'.label = g.label)
    (hgty : g.ty ≠ INPUT) (hg'b : benchTy p.g'.ty = true) (hg'ty : p.g'.ty ≠ INPUT)
    (hg'ar : arityOk p.g'.ty p.g'.ops.length = true) (hg'ops : ∀ o ∈ p.g'.ops, o ∈ c.labels ++ p.H.map (·.label))
    (hsem : bfun p.g'.ty (p.g'.ops.map (p.ext v)) = bfun g.ty (g.ops.map v)) : ConvRes c c1 g b v (p.ext v) := by
  rcases p with ⟨g', _ | ⟨new, target⟩, lost, gained⟩
  · exact rewrite_res hnl hg hv [] hgl hgty hg'b hg'ty hg'ar hR.gates hR.inputs hR.outputs (by simpa using hnl.nodup)
      (fun _ _ => rfl) nofun hg'ops hsem
  · obtain ⟨hnew, htl⟩ := hA _ List.mem_cons_self
    have hagree : ∀ l ∈ c.labels, updV v new (!v target) l = v l := fun l hl => by
      simp [updV, show l ≠ new from fun e => hnew (e ▸ hl)]
    refine rewrite_res hnl hg hv [⟨new, NOT, [target]⟩] hgl hgty hg'b hg'ty hg'ar hR.gates hR.inputs hR.outputs ?_
      hagree ?_ hg'ops hsem
    · exact List.nodup_append.mpr ⟨hnl.nodup, by simp, fun a ha b hb e => hnew (by simp at hb; exact hb ▸ e ▸ ha)⟩
    · intro h hh
      rw [List.mem_singleton.mp hh]
      refine ⟨rfl, nofun, rfl, fun o ho => List.mem_append_left _ (htl o ho), ?_⟩
      show bfun NOT [updV v new (!v target) target] = some (updV v new (!v target) new)
      rw [hagree target (htl target (by simp)), show updV v new (!v target) new = !v target from if_pos rfl]
      rfl

theorem ops_pair {g : Gate} (h : g.ops.length = 2) : ∃ x y, g.ops = [x, y] := by
  rcases hops : g.ops with _ | ⟨x, _ | ⟨y, _ | ⟨z, rest⟩⟩⟩ <;> rw [hops] at h <;> simp at h
  exact ⟨x, y, rfl⟩

theorem convertGate_sem {c c1 : Circuit} (hnl : NL c) {g : Gate} (hg : g ∈ c.gates) {k k1 : Nat}
    {b v : Label → Bool} (hv : ValG c.gates b v) (h : c.convertGate g k = .ok (c1, k1)) :
    ∃ v1, ConvRes c c1 g b v v1 := by
  have har := hnl.arity g hg
  have hcl := hnl.closed g hg
  have two : g.ty ≠ INPUT → (∀ n, arityOk g.ty n = (n == 2)) → ∃ x y, g.ops = [x, y] := fun hne hall =>
    ops_pair (by simpa [hne, hall] using har)
  obtain ⟨hn, rfl, _⟩ | ⟨p, hp, hA, hR, _⟩ := convertGate_ok h
  · exact ⟨v, hv, fun _ _ => rfl, rfl, rfl, hnl, fun h hh _ => hh, fun l hl => hl,
      fun h hh hn => absurd hh hn, fun h hh hl => gate_unique hnl.nodup hh hg hl ▸ convKind_keep (convPlan_none hn)⟩
  refine ⟨p.ext v, ?_⟩
  unfold convPlan at hp
  cases hk : convKind g.ty with
  | keep => rw [hk] at hp; cases hp
  | neg tag idx ty =>
    obtain ⟨hidx, ⟨hb, hni, har2⟩, hgty, hall, hsemT⟩ := convKind_neg hk
    obtain ⟨x, y, hops⟩ := two hgty hall
    simp only [hk, hops, Except.ok.injEq, Option.some.injEq] at hp
    subst hp
    have hnew := (hA _ List.mem_cons_self).1
    have hxL : x ∈ c.labels := hcl x (by simp [hops])
    have hyL : y ∈ c.labels := hcl y (by simp [hops])
    have hxn : x ≠ convLabel tag g k := fun e => hnew (e ▸ hxL)
    have hyn : y ≠ convLabel tag g k := fun e => hnew (e ▸ hyL)
    refine hR.convRes hnl hg hv hA rfl hgty hb hni ?_ (fun o ho => ?_) ?_
    · rcases hidx with rfl | rfl <;> exact har2
    · rcases hidx with rfl | rfl <;> simp at ho <;> rcases ho with rfl | rfl <;> simp [Rw.H, hxL, hyL]
    · rw [hops]
      have := hsemT (v x) (v y)
      rcases hidx with rfl | rfl
      · simpa [Rw.ext, updV, hyn] using this
      · simpa [Rw.ext, updV, hxn] using this
  | drop idx ty =>
    obtain ⟨hidx, ⟨hb, hni, har1⟩, hgty, hall, hsemT⟩ := convKind_drop hk
    obtain ⟨x, y, hops⟩ := two hgty hall
    simp only [hk, hops, Except.ok.injEq, Option.some.injEq] at hp
    subst hp
    have hxL : x ∈ c.labels := hcl x (by simp [hops])
    have hyL : y ∈ c.labels := hcl y (by simp [hops])
    refine hR.convRes hnl hg hv hA rfl hgty hb hni har1 (fun o ho => ?_) ?_
    · rcases hidx with rfl | rfl <;> simp at ho <;> subst ho <;> simp [*]
    · rw [hops]
      have := hsemT (v x) (v y)
      rcases hidx with rfl | rfl <;> simpa [Rw.ext] using this
  | const tag ty =>
    obtain ⟨⟨hb, hni, har2⟩, hgty, val, hconst, hsemT⟩ := convKind_const hk
    rcases hi : c.inputs with _ | ⟨f, rest⟩
    · simp [hk, hi] at hp
    simp only [hk, hi, Except.ok.injEq, Option.some.injEq] at hp
    subst hp
    obtain ⟨hnew, htgt⟩ := hA _ List.mem_cons_self
    have hfL : f ∈ c.labels := htgt f (by simp)
    have hfn : f ≠ convLabel tag g k := fun e => hnew (e ▸ hfL)
    refine hR.convRes hnl hg hv hA rfl hgty hb hni har2 (fun o ho => ?_) ?_
    · simp at ho; rcases ho with rfl | rfl <;> simp [Rw.H, hfL]
    · rw [hconst]
      simpa [Rw.ext, updV, hfn] using hsemT (v f)

theorem convStep_error (e : String) (g : Gate) : convStep (.error e) g = .error e := rfl

theorem intoBench_fold {b : Label → Bool} : ∀ (todo : List Gate) (cur : Circuit) (k : Nat) (v : Label → Bool)
    (c' : Circuit) (k' : Nat), NL cur → ValG cur.gates b v → (todo.map (·.label)).Nodup →
    (∀ g ∈ todo, g ∈ cur.gates) → (∀ h ∈ cur.gates, benchTy h.ty = true ∨ h ∈ todo) →
    todo.foldl convStep (.ok (cur, k)) = .ok (c', k') →
    ∃ v', ValG c'.gates b v' ∧ (∀ l ∈ cur.labels, v' l = v l) ∧ c'.inputs = cur.inputs ∧
      c'.outputs = cur.outputs ∧ NL c' ∧ (∀ h ∈ c'.gates, benchTy h.ty = true) ∧
      (∀ l ∈ cur.labels, l ∈ c'.labels) := by
  intro todo
  induction todo with
  | nil =>
    intro cur k v c' k' hnl hv _ _ hb h
    cases h
    exact ⟨v, hv, fun _ _ => rfl, rfl, rfl, hnl, fun h hh => (hb h hh).elim id nofun, fun l hl => hl⟩
  | cons g rest ih =>
    intro cur k v c' k' hnl hv hnd hin hb h
    obtain ⟨⟨c1, k1⟩, hc, h⟩ := foldlR_cons_ok convStep_error h
    obtain ⟨v1, res⟩ := convertGate_sem hnl (hin g List.mem_cons_self) hv hc
    simp only [List.map_cons, List.nodup_cons] at hnd
    have hin1 : ∀ g2 ∈ rest, g2 ∈ c1.gates := fun g2 hg2 =>
      res.stay g2 (hin g2 (List.mem_cons_of_mem _ hg2)) fun e => hnd.1 (List.mem_map.mpr ⟨g2, hg2, e⟩)
    have hb1 : ∀ x ∈ c1.gates, benchTy x.ty = true ∨ x ∈ rest := by
      intro x hx
      by_cases hcur : x ∈ cur.gates
      · rcases hb x hcur with hbt | hm
        · exact Or.inl hbt
        · rcases List.mem_cons.mp hm with e | hm
          · exact Or.inl (res.typesG x hx (congrArg Gate.label e))
          · exact Or.inr hm
      · exact Or.inl (res.typesNew x hx hcur)
    obtain ⟨v', a1, a2, a3, a4, a5, a6, a7⟩ := ih c1 k1 v1 c' k' res.nl res.val hnd.2 hin1 hb1 h
    exact ⟨v', a1, fun l hl => (a2 l (res.sub l hl)).trans (res.agree l hl), a3.trans res.ins,
      a4.trans res.outs, a5, a6, fun l hl => a7 l (res.sub l hl)⟩

theorem intoBench_sem {c c' : Circuit} {k k' : Nat} (hnl : NL c) {b v : Label → Bool}
    (hv : IsValB c b v) (h : c.intoBench k = .ok (c', k')) :
    ∃ v', IsValB c' b v' ∧ (∀ l ∈ c.labels, v' l = v l) ∧ c'.inputs = c.inputs ∧
      c'.outputs = c.outputs ∧ NL c' ∧ (∀ g ∈ c'.gates, benchTy g.ty = true) := by
  obtain ⟨v', a1, a2, a3, a4, a5, a6, _⟩ := intoBench_fold (b := b) c.gates c k v c' k' hnl hv
    hnl.nodup (fun g hg => hg) (fun h hh => Or.inr hh) h
  exact ⟨v', a1, a2, a3, a4, a5, a6⟩

end Cirbo
