import Cirbo.Proofs.GenTotalSum
import Cirbo.Proofs.GenWallace
/-!
# Totality of the Wallace-tree multiplier (`add_mul_wallace`)

Every entry of the matrix that is not the placeholder `PH` is a label the generator itself drew, never an operand label,
and every drawn label is `"new_…" ≠ PH`: no precondition relating the operand labels to `PH` is needed.  A round reads its
operands from the old matrix only, so its contract returns no labels; what the new matrix looks like, and that its
entries are gates, is read off the `SemF` witness of the run (`Yields.semF`).
-/
namespace Cirbo

theorem QM.mono {Q Q' : Label → Prop} {c : Mat} (h : QM Q c) (hs : ∀ l, Q l → Q' l) : QM Q' c :=
  fun col hcol x hx => (h col hcol x hx).imp_right (hs x)

theorem QM.entry {Q : Label → Prop} {c : Mat} (h : QM Q c) {col row : Nat} (hne : entry c col row ≠ PH) : Q (entry c col row) :=
  (qm_getD h col _ (List.getD_mem_of_ne hne)).resolve_left hne

def mlabs (c : Mat) : List Label := c.flatten.filter (· != PH)

theorem qm_iff_mlabs {Q : Label → Prop} {c : Mat} : QM Q c ↔ ∀ l ∈ mlabs c, Q l := by
  unfold QM mlabs
  simp only [List.mem_filter, List.mem_flatten, bne_iff_ne, ne_eq]
  constructor
  · rintro h l ⟨⟨col, hc, hl⟩, hne⟩
    exact (h col hc l hl).resolve_left hne
  · intro h col hc x hx
    by_cases e : x = PH
    · exact Or.inl e
    · exact Or.inr (h x ⟨⟨col, hc, hx⟩, e⟩)

theorem QM.got {H : Label → Prop} {c : Mat} (hd : QM Drawn c) (h : ∀ l ∈ mlabs c, H l) : QM (Got Drawn H) c :=
  qm_iff_mlabs.mpr fun l hl => ⟨qm_iff_mlabs.mp hd l hl, h l hl⟩

theorem yields_wColStep {I : List Label} {c : Mat} (hq : QM (· ∈ I) c) (W row : Nat) (cn : Mat) (col : Nat) :
    YieldsL I (wColStep c W row cn col) (fun _ => []) := by
  unfold wColStep
  simp only
  split
  · exact .ret (by lmem) trivial
  · exact (yields_addSumNBits false (sa_resolve_enum .xaig)).bind (inp3_q (qm_getD hq col) row) fun _ _ =>
      .ret (by lmem) trivial

theorem yields_wallaceRound {I : List Label} (W : Nat) {c : Mat} (hq : QM (· ∈ I) c) :
    YieldsL I (wallaceRound W c) (fun _ => []) := by
  unfold wallaceRound
  dsimp only
  rw [progFold_map]
  exact (Yields.progFold (I := I) (fun _ => []) (fun _ => True) _ (fun g _ cn _ =>
    Yields.progFold (f := wColStep c W (g * 3)) (fun _ => []) (fun _ => True) _
      (fun col _ cn' _ => (yields_wColStep hq W (g * 3) cn' col).sub (by lmem)) cn trivial) _ trivial).bind (by lmem)
    fun cn _ => .ret (by lmem) trivial

/-- `fuel ≥ R − 1` suffices: every round on `R ≥ 3` rows leaves `2·(R/3) + R%3 < R` rows, at least two -/
theorem yields_wallaceRounds {W : Nat} (hW : 1 ≤ W) : ∀ (fuel : Nat) (c : Mat) (R : Nat), Rect c W R → QM Drawn c →
    2 ≤ R → R ≤ fuel + 1 → YieldsL (mlabs c) (wallaceRounds W fuel c) mlabs
  | 0, _, _, _, _, h2, hf => by omega
  | fuel + 1, c, R, hr, hd, h2, hf => by
    simp only [wallaceRounds, rect_headD hW hr]
    split
    · exact .ret (fun _ => id) trivial
    · rename_i he
      have hR2 : R ≠ 2 := by simpa using he
      refine ((yields_wallaceRound W (qm_iff_mlabs.mpr fun _ => id)).semF (lab' := mlabs)
        (S' := fun c1 => Rect c1 W (2 * (R / 3) + R % 3) ∧ QM Drawn c1) fun c1 v H hI _ w => ?_).bind (fun _ => id)
        fun c1 ⟨r1, d1⟩ => (yields_wallaceRounds hW fuel c1 _ r1 d1 (by omega) (by omega)).sub (by lmem)
      obtain ⟨r1, q1, _⟩ := semF_wallaceRound (fun _ => Drawn.ne_PH) hW hr (hd.got hI) w
      exact ⟨qm_iff_mlabs.mp (q1.mono fun _ h => h.2), r1, q1.mono fun _ h => h.1⟩

/-- `c[i + j][i] = AND(a[j], b[i])` -/
theorem yields_ppMatrix {I : List Label} {a : List Label} (ha : ∀ l ∈ a, l ∈ I) : ∀ (bz : List (Label × Nat)) (c : Mat),
    (∀ x ∈ bz, x.1 ∈ I) → YieldsL I (ppMatrix a bz c) (fun _ => [])
  | [], _, _ => .ret (by lmem) trivial
  | (bi, i) :: r, c, hbz => by
    unfold ppMatrix
    refine (Yields.foldl (I := I) (fun cc (aj : Label × Nat) => do
        let g ← emitTT aj.1 bi t0001
        pure (matSet cc (i + aj.2) i g)) (fun _ => []) (fun _ => True) a.zipIdx (fun aj haj cc _ => ?_) c trivial).bind
      (by lmem) fun c1 _ => (yields_ppMatrix ha r c1 fun x hx => hbz x (by simp [hx])).sub (by lmem)
    obtain ⟨x, k⟩ := aj
    have hx : x ∈ I := ha _ (List.mem_of_getElem? (List.mem_zipIdx_iff_getElem?.mp haj))
    have hbi : bi ∈ I := hbz (bi, i) (by simp)
    exact Yields.emitTT_bind (by decide) (by lmem) (by lmem) fun g => .ret (by lmem) trivial

theorem rowBits_mem {c : Mat} {k f t : Nat} {zero l : Label} (h : l ∈ rowBits c k f t zero) :
    ∃ i, f ≤ i ∧ i ≤ t ∧ ((entry c i k = PH ∧ l = zero) ∨ (entry c i k ≠ PH ∧ l = entry c i k)) := by
  rw [rowBits_eq] at h
  obtain ⟨i, hi, rfl⟩ := List.mem_map.mp h
  have := List.mem_range'_1.mp hi
  refine ⟨i, this.1, by omega, ?_⟩
  unfold selBit
  by_cases hp : entry c i k = PH
  · left; refine ⟨hp, ?_⟩
    have : (entry c i k == PH) = true := by simpa using hp
    rw [this]; rfl
  · right; refine ⟨hp, ?_⟩
    have : (entry c i k == PH) = false := by simpa using hp
    rw [this]; rfl

/-- a bit of a remaining row is an entry of the matrix, or the constant-false bit where a placeholder is read -/
theorem finalRow_mem {c : Mat} (k : Nat) (zero : Label) (first : Nat) {K : List Label} (hq : QM (fun l => l ∈ K) c)
    (hz : (usedCols c k).isEmpty = false → ∀ i, first ≤ i → i ≤ (usedCols c k).getLast?.getD 0 → entry c i k = PH → zero ∈ K) :
    ∀ l ∈ (if (usedCols c k).isEmpty then [] else rowBits c k first ((usedCols c k).getLast?.getD 0) zero), l ∈ K := by
  cases hne : (usedCols c k).isEmpty with
  | true => intro l hl; cases hl
  | false =>
    rw [if_neg Bool.false_ne_true]
    intro l hl
    obtain ⟨i, hi1, hi2, ⟨hph, rfl⟩ | ⟨hnp, rfl⟩⟩ := rowBits_mem hl
    · exact hz hne i hi1 hi2 hph
    · exact hq.entry hnp

/-- the first operand of the final adder: row 0 of the final matrix (placeholders read as `zero`) -/
def wallaceRowA (c : Mat) (zero : Label) : List Label :=
  if (usedCols c 0).isEmpty then [] else rowBits c 0 0 ((usedCols c 0).getLast?.getD 0) zero
/-- the second operand: row 1 from its first used column on -/
def wallaceRowB (c : Mat) (W : Nat) (zero : Label) : List Label :=
  if (usedCols c 1).isEmpty then [] else rowBits c 1 ((usedCols c 1).headD W) ((usedCols c 1).getLast?.getD 0) zero
/-- that column: the shift of the final addition -/
def wallaceShift (c : Mat) (W : Nat) : Nat := (usedCols c 1).headD W

theorem wallaceFinal_shape {c : Mat} {W : Nat} (hw : c.length = W) (zero : Label) (hW : 0 < W) (h00 : entry c 0 0 ≠ PH) :
    wallaceRowA c zero ≠ [] ∧ (wallaceShift c W < (wallaceRowA c zero).length → wallaceRowB c W zero ≠ []) := by
  unfold wallaceRowA wallaceRowB wallaceShift
  rcases usedCols_cases hw 0 with ⟨_, noA⟩ | ⟨neA, spA⟩
  · exact absurd (noA 0 hW) h00
  · rw [neA, if_neg Bool.false_ne_true]
    have hlenA := rowBits_length c 0 0 ((usedCols c 0).getLast?.getD 0) zero
    refine ⟨fun e => by rw [e, List.length_nil] at hlenA; omega, ?_⟩
    rw [hlenA]
    have := spA.lt
    rcases usedCols_cases hw 1 with ⟨nilB, _⟩ | ⟨neB, spB⟩
    · rw [nilB, List.headD_nil]; omega
    · rw [neB, if_neg Bool.false_ne_true]
      intro _ e
      have hlenB := rowBits_length c 1 ((usedCols c 1).headD W) ((usedCols c 1).getLast?.getD 0) zero
      have := spB.le
      rw [e, List.length_nil] at hlenB; omega

/-- the end of `add_mul_wallace` -/
def wallaceFinal (A : List Label) (W : Nat) (c' : Mat) (be : Bool) : Prog (List Label) := do
  let zero ← (if hasGaps c' W then
    match A with
    | x :: _ => emitTT x x t0000
    | [] => .fail "Py:IndexError"
    else pure PH)
  let r ← addSumTwoNumbersWithShift (wallaceShift c' W) (wallaceRowA c' zero) (wallaceRowB c' W zero) false
  pure (revIf (r.take W) be)

theorem yields_wallaceFinal {A : List Label} {W : Nat} {c' : Mat} (be : Bool) (hA : A ≠ []) (hw : c'.length = W)
    (hW : 0 < W) (h00 : entry c' 0 0 ≠ PH) : YieldsL (A ++ mlabs c') (wallaceFinal A W c' be) id := by
  have rest : ∀ {J : List Label} (zero : Label), (∀ l ∈ A ++ mlabs c', l ∈ J) → (hasGaps c' W = true → zero ∈ J) →
      YieldsL J (do
        let r ← addSumTwoNumbersWithShift (wallaceShift c' W) (wallaceRowA c' zero) (wallaceRowB c' W zero) false
        pure (revIf (r.take W) be)) id := by
    intro J zero hJ hz
    have hq : QM (· ∈ J) c' := qm_iff_mlabs.mpr fun l hl => hJ l (List.mem_append_right _ hl)
    obtain ⟨s1, s2⟩ := wallaceFinal_shape hw zero hW h00
    refine (yields_addSumTwoNumbersWithShift false (fun _ => List.length_pos_iff.mpr s1)
      fun h => List.length_pos_iff.mpr (s2 h)).bind (fun l hl => ?_) fun r _ =>
      .ret (fun l h => List.mem_append_right _ (List.mem_of_mem_take (mem_revIf.mp h))) trivial
    exact (List.mem_append.mp hl).elim
      (finalRow_mem 0 zero 0 hq (fun hne _ h1 h2 hph => hz (hasGaps_of_ph hw (.inl ⟨rfl, rfl⟩) hne h1 h2 hph)) l)
      (finalRow_mem 1 zero _ hq (fun hne _ h1 h2 hph => hz (hasGaps_of_ph hw (.inr ⟨rfl, rfl⟩) hne h1 h2 hph)) l)
  unfold wallaceFinal
  cases hg : hasGaps c' W with
  | true =>
    match A, hA with
    | x :: _, _ =>
      simp only [if_true]
      exact Yields.emitTT_bind (by decide) (by lmem) (by lmem) fun zero =>
        rest zero (by lmem) fun _ => by lmem
  | false =>
    simp only [Bool.false_eq_true, if_false]
    exact rest PH (fun _ => id) fun h => by rw [hg] at h; cases h

/-- `n ≥ 1`, `m ≥ 1` are needed: with `m = 0` (and `n ≠ 1`) the matrix has no rows and the `while` loop of the Python
code never reaches two rows (the model runs out of fuel); with `n = 0`, `m ≥ 2` the padding zero is built from `a[0]`
(IndexError).  (`n = 0, m = 1` and `n = 1, m = 0` happen to return the empty list.) -/
theorem yields_addMulWallace {a b : List Label} (be : Bool) (hna : 1 ≤ a.length) (hnb : 1 ≤ b.length) :
    Yields (a ++ b) (addMulWallace a b be) id
      (fun out => out.length = if a.length = 1 ∨ b.length = 1 then a.length + b.length - 1 else a.length + b.length) := by
  suffices h : YieldsL (a ++ b) (addMulWallace a b be) id from
    h.shapeR fun out _ r => let ⟨_, w⟩ := r.semF; (semF_addMulWallace (fun _ => Drawn.ne_PH) w).2 hna hnb
  unfold addMulWallace
  have ha' : ∀ l ∈ revIf a be, l ∈ a ++ b := by lmem [mem_revIf]
  have hb' : ∀ l ∈ revIf b be, l ∈ a ++ b := by lmem [mem_revIf]
  rw [← revIf_length a be] at hna
  rw [← revIf_length b be] at hnb
  generalize revIf a be = A at hna ha' ⊢
  generalize revIf b be = B at hnb hb' ⊢
  dsimp only
  have hBz : ∀ x ∈ B.zipIdx, x.1 ∈ a ++ b := fun x hx =>
    hb' _ (List.mem_of_getElem? (List.mem_zipIdx_iff_getElem?.mp hx))
  refine ((yields_ppMatrix ha' B.zipIdx _ hBz).semF (lab' := mlabs) (S' := fun c => Rect c (A.length + B.length) B.length ∧
    QM Drawn c ∧ ∀ col row, row < B.length → row ≤ col → col < row + A.length → entry c col row ≠ PH)
    fun c v H _ _ w => ?_).bind (fun _ => id) fun c ⟨cr, cd, cne⟩ => ?_
  · obtain ⟨cr, cq, _, cph⟩ := semF_partialProducts (fun _ => Drawn.ne_PH) w
    exact ⟨qm_iff_mlabs.mp (cq.mono fun _ h => h.2), cr, cq.mono (fun _ h => h.1), fun col row h1 h2 h3 h => (cph col row).mp h ⟨h1, h2, h3⟩⟩
  -- a single bit in one operand: the result is read off the matrix (the diagonal, or row 0)
  have hread : ∀ (N : Nat) (f : Nat → Nat), (∀ i, i < N → entry c i (f i) ≠ PH) →
      YieldsL (a ++ b ++ mlabs c) (Pure.pure (revIf ((List.range N).map (fun i => (c.getD i []).getD (f i) PH)) be)) id := by
    intro N f hf
    refine .ret (fun l hl => ?_) trivial
    obtain ⟨i, hi, rfl⟩ := List.mem_map.mp (mem_revIf.mp hl)
    exact List.mem_append_right _ ((qm_iff_mlabs (Q := (· ∈ mlabs c))).mpr (fun _ => id) |>.entry (hf i (List.mem_range.mp hi)))
  by_cases hA1 : A.length = 1
  · simp only [hA1, beq_self_eq_true, if_true]
    exact hread B.length id fun i hi => cne i i hi (Nat.le_refl _) (by omega)
  · simp only [beq_iff_eq, hA1, if_false]
    by_cases hB1 : B.length = 1
    · simp only [hB1, if_true]
      exact hread A.length (fun _ => 0) fun i hi => cne i 0 (by omega) (Nat.zero_le _) (by omega)
    · simp only [hB1, if_false]
      have hW : 1 ≤ A.length + B.length := Nat.le_add_right_of_le hna
      refine ((yields_wallaceRounds hW (B.length + 2) c B.length cr cd (by omega) (by omega)).shapeR
        (S' := fun c' => c'.length = A.length + B.length ∧ entry c' 0 0 ≠ PH) fun c' _ r => ?_).bind (by lmem)
        fun c' ⟨hw, h00⟩ => (yields_wallaceFinal be (List.length_pos_iff.mp hna) hw hW h00).sub fun l hl =>
          (List.mem_append.mp hl).elim (fun h => by lmem [ha' l h]) (List.mem_append_right _)
      obtain ⟨v, w⟩ := r.semF
      obtain ⟨r2, _, _, o⟩ := semF_wallaceRounds (fun _ => Drawn.ne_PH) hW _ c c' _ cr (cd.got fun _ _ => trivial) w
      -- column 0 ends in row 0 (or the matrix had two rows from the start)
      have c00 : entry c 0 0 ≠ PH := cne 0 0 hnb (Nat.le_refl _) (by omega)
      obtain ⟨e2, o2⟩ := o 0 hW ⟨0, hnb, c00⟩
      refine ⟨r2.w, ?_⟩
      by_cases hR2 : B.length = 2
      · rw [e2 hR2]; exact c00
      · exact o2 hR2

end Cirbo
