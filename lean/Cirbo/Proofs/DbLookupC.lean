import Cirbo.Proofs.DbLookup
import Cirbo.Proofs.Lists
import Cirbo.Proofs.BoolVec
/-!
# The completions of a table with don't-cares: exactly the fully defined tables that agree with it
-/
namespace Cirbo
namespace Norm

/-- entry `(i, j)` of a table, `false` outside it -/
def E (t : List Row) (i j : Nat) : Bool := (t.getD i []).getD j false

theorem E_set (t : List Row) (i j : Nat) (b : Bool) (a c : Nat) :
    E (t.set i ((t.getD i []).set j b)) a c = if a = i ∧ c = j ∧ j < (t.getD i []).length then b else E t a c := by
  unfold E
  rw [List.getD_set]
  by_cases ha : a = i ∧ i < t.length
  · rw [if_pos ha, List.getD_set, ha.1]
    simp
  · rw [if_neg ha, if_neg]
    intro h
    apply ha ⟨h.1, Nat.lt_of_not_le fun hi => ?_⟩
    simp [List.getD_eq_getElem?_getD, List.getElem?_eq_none hi] at h

theorem shape_set (t : List Row) (i j : Nat) (b : Bool) :
    (t.set i ((t.getD i []).set j b)).length = t.length ∧
    ∀ k, ((t.set i ((t.getD i []).set j b)).getD k []).length = (t.getD k []).length := by
  refine ⟨by simp, ?_⟩
  intro k
  rw [List.getD_set]
  split
  · rename_i h; rw [h.1]; simp
  · rfl

theorem substitute_keeps : ∀ (pos : List (Nat × Nat)) (vals : List Bool) (t : List Row),
    (substitute t pos vals).length = t.length ∧
    (∀ k, ((substitute t pos vals).getD k []).length = (t.getD k []).length) ∧
    ∀ a c, (a, c) ∉ pos → E (substitute t pos vals) a c = E t a c
  | [], _, t => ⟨rfl, fun _ => rfl, fun _ _ _ => rfl⟩
  | _ :: _, [], t => ⟨rfl, fun _ => rfl, fun _ _ _ => rfl⟩
  | p :: rest, v :: vs, t => by
    obtain ⟨s1, s2, s3⟩ := substitute_keeps rest vs (t.set p.1 ((t.getD p.1 []).set p.2 v))
    obtain ⟨h1, h2⟩ := shape_set t p.1 p.2 v
    refine ⟨s1.trans h1, fun k => (s2 k).trans (h2 k), fun a c hac => ?_⟩
    simp only [List.mem_cons, not_or] at hac
    exact (s3 a c hac.2).trans (by rw [E_set, if_neg fun h => hac.1 (by rw [h.1, h.2.1])])

/-- values read off a function of the position: a position that occurs twice is written twice the same -/
theorem substitute_map (g : Nat × Nat → Bool) : ∀ (pos : List (Nat × Nat)) (t : List Row),
    (∀ p ∈ pos, p.2 < (t.getD p.1 []).length) →
    ∀ a c, E (substitute t pos (pos.map g)) a c = if (a, c) ∈ pos then g (a, c) else E t a c
  | [], t, _, a, c => by simp [substitute]
  | p :: rest, t, hin, a, c => by
    have ih := substitute_map g rest (t.set p.1 ((t.getD p.1 []).set p.2 (g p))) (fun q hq => by
      rw [(shape_set t p.1 p.2 (g p)).2]; exact hin q (List.mem_cons_of_mem _ hq)) a c
    rw [E_set] at ih
    refine ih.trans ?_
    by_cases hr : (a, c) ∈ rest
    · rw [if_pos hr, if_pos (List.mem_cons_of_mem _ hr)]
    · rw [if_neg hr]
      by_cases hp : (a, c) = p
      · subst hp
        rw [if_pos ⟨rfl, rfl, hin _ List.mem_cons_self⟩, if_pos List.mem_cons_self]
      · rw [if_neg fun h => hp (by rw [h.1, h.2.1]), if_neg fun h => (List.mem_cons.mp h).elim hp hr]

theorem rows_ext (t1 t2 : List Row) (hl : t1.length = t2.length) (hr : ∀ i, (t1.getD i []).length = (t2.getD i []).length)
    (he : ∀ i j, i < t1.length → j < (t1.getD i []).length → E t1 i j = E t2 i j) : t1 = t2 := by
  apply List.ext_getElem hl
  intro i h1 h2
  have e1 : t1.getD i [] = t1[i] := by simp [List.getD_eq_getElem?_getD, h1]
  have e2 : t2.getD i [] = t2[i] := by simp [List.getD_eq_getElem?_getD, h2]
  have hri := hr i
  rw [e1, e2] at hri
  apply List.ext_getElem hri
  intro j g1 g2
  have := he i j h1 (by rw [e1]; exact g1)
  unfold E at this
  rw [e1, e2] at this
  simpa [List.getD_eq_getElem?_getD, g1, g2] using this

/-- `itertools.product((False, True), repeat=k)` is the enumeration `allInputs` of the evaluator -/
theorem allSubs_eq_allInputs : ∀ k, allSubs k = allInputs k
  | 0 => rfl
  | k + 1 => by rw [allSubs, allInputs, allSubs_eq_allInputs k]

theorem mem_allSubs {k : Nat} {l : List Bool} : l ∈ allSubs k ↔ l.length = k := by
  rw [allSubs_eq_allInputs]
  exact mem_allInputs l k

theorem mem_undefinedPositions (tt : List (List TEntry)) (i j : Nat) :
    (i, j) ∈ undefinedPositions tt ↔ (tt.getD i [])[j]? = some none := by
  simp only [undefinedPositions, ← List.flatMap_def, List.mem_flatMap, List.mem_map, List.mem_filter,
    List.mem_zipIdx_iff_getElem?, Prod.exists, Prod.mk.injEq, List.getD_eq_getElem?_getD]
  constructor
  · rintro ⟨row, _, hri, e, _, ⟨hej, hnone⟩, rfl, rfl⟩
    cases e with
    | none => simpa [hri] using hej
    | some b => simp at hnone
  · intro h
    cases hr : tt[i]? with
    | none => simp [hr] at h
    | some row =>
      rw [hr] at h
      exact ⟨row, i, hr, none, j, ⟨h, rfl⟩, rfl, rfl⟩

/-- a full table that has the shape of the model and its defined entries -/
def Agrees (tt : List (List TEntry)) (t : List Row) : Prop :=
  t.length = tt.length ∧ (∀ i, (t.getD i []).length = (tt.getD i []).length) ∧
  ∀ i j b, (tt.getD i [])[j]? = some (some b) → E t i j = b

theorem baseTable_shape (tt : List (List TEntry)) :
    (baseTable tt).length = tt.length ∧ ∀ i, ((baseTable tt).getD i []).length = (tt.getD i []).length := by
  unfold baseTable
  refine ⟨by simp, ?_⟩
  intro i
  simp only [List.getD_eq_getElem?_getD, List.getElem?_map]
  cases tt[i]? <;> simp

theorem baseTable_E (tt : List (List TEntry)) (i j : Nat) (e : TEntry) (h : (tt.getD i [])[j]? = some e) :
    E (baseTable tt) i j = e.getD false := by
  unfold E baseTable
  simp only [List.getD_eq_getElem?_getD, List.getElem?_map] at h ⊢
  cases hr : tt[i]? with
  | none => rw [hr] at h; simp at h
  | some r =>
    rw [hr] at h
    simp only [Option.getD_some] at h
    simp [h]

theorem pos_in_bounds (tt : List (List TEntry)) :
    ∀ p ∈ undefinedPositions tt, p.2 < ((baseTable tt).getD p.1 []).length := by
  intro p hp
  rw [(baseTable_shape tt).2]
  exact (List.getElem?_eq_some_iff.mp ((mem_undefinedPositions tt p.1 p.2).mp hp)).1

theorem mem_completions_iff (tt : List (List TEntry)) (t : List Row) : t ∈ completions tt ↔ Agrees tt t := by
  obtain ⟨hbl, hbr⟩ := baseTable_shape tt
  unfold completions
  rw [List.mem_map]
  constructor
  · rintro ⟨vals, -, rfl⟩
    obtain ⟨s1, s2, s3⟩ := substitute_keeps (undefinedPositions tt) vals (baseTable tt)
    refine ⟨s1.trans hbl, fun i => (s2 i).trans (hbr i), fun i j b hb => ?_⟩
    rw [s3 i j (by rw [mem_undefinedPositions, hb]; simp), baseTable_E tt i j _ hb]; rfl
  · intro ⟨hl, hr, he⟩
    refine ⟨(undefinedPositions tt).map (fun p => E t p.1 p.2), mem_allSubs.mpr (by simp), ?_⟩
    obtain ⟨s1, s2, -⟩ := substitute_keeps (undefinedPositions tt)
      ((undefinedPositions tt).map (fun p => E t p.1 p.2)) (baseTable tt)
    apply rows_ext
    · rw [s1, hbl, hl]
    · intro i; rw [s2, hbr, hr]
    · intro i j hi hj
      rw [s2, hbr] at hj
      have hje := List.getElem?_eq_getElem hj
      rw [substitute_map _ _ _ (pos_in_bounds tt)]
      -- a don't-care is given the entry of `t`; both tables have the defined entries of the model
      generalize (tt.getD i [])[j] = e at hje
      cases e with
      | none => rw [if_pos ((mem_undefinedPositions tt i j).mpr hje)]
      | some b =>
        rw [if_neg (by rw [mem_undefinedPositions, hje]; simp), baseTable_E tt i j _ hje, he i j b hje]; rfl

example : completions [[some true, none], [none, some false]] =
    [[[true, false], [false, false]], [[true, false], [true, false]], [[true, true], [false, false]], [[true, true], [true, false]]] := by decide

end Norm
end Cirbo
