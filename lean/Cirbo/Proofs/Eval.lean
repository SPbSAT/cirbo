import Cirbo.Model.Eval
import Cirbo.Model.Val3
import Cirbo.Proofs.Graph
import Cirbo.Proofs.DictLemmas
import Cirbo.Proofs.Ops
/-!
# The topological evaluator (`evaluate_full_circuit`) computes a valuation (C01, C15)
-/
namespace Cirbo
open GateType

/-- the value a dictionary gives to `l`, `Undefined` where it has no entry. `asgFun` is the same function: statements
write `valOf d` for what an evaluator returns and `asgFun asg` for the assignment it is given. -/
def valOf (d : Asg) (l : Label) : V3 := (d.get? l).getD .U
def asgFun (asg : Asg) : Label → V3 := fun l => (asg.get? l).getD .U

theorem foldl_setDefault_get? (ls : List Label) (d : Asg) (k : Label) :
    (ls.foldl (fun d i => d.setDefault i V3.U) d).get? k
      = if k ∈ ls then some ((d.get? k).getD V3.U) else d.get? k := by
  induction ls generalizing d with
  | nil => simp
  | cons i r ih =>
    simp only [List.foldl_cons, ih, Dict.get?_setDefault, List.mem_cons]
    by_cases hki : k = i
    · subst hki; simp
    · simp [hki]

theorem initAsg_get? (c : Circuit) (asg : Asg) (k : Label) :
    (initAsg c asg).get? k = if k ∈ c.inputs then some (asgFun asg k) else asg.get? k := by
  unfold initAsg asgFun; exact foldl_setDefault_get? _ _ _

theorem get?_eq_some_valOf {d : Asg} {l : Label} (h : (d.get? l).isSome = true) : d.get? l = some (valOf d l) := by
  cases hx : d.get? l <;> simp_all [valOf]

theorem valOf_set (d : Asg) (l x : Label) (r : V3) :
    valOf (d.set l r) x = if x = l then r else valOf d x := by
  unfold valOf; rw [Dict.get?_set]; by_cases h : x = l <;> simp [h]

theorem mapM_get? (d : Asg) (ops : List Label) :
    ops.mapM (fun o => d.get? o) =
      if ∀ o ∈ ops, d.contains o = true then some (ops.map (valOf d)) else none := by
  induction ops with
  | nil => rfl
  | cons o r ih =>
    have hc : d.contains o = (d.get? o).isSome := rfl
    rw [List.mapM_cons, ih]
    cases ho : d.get? o with
    | none => simp [hc, ho]
    | some x =>
      by_cases hr : ∀ o ∈ r, d.contains o = true
      · rw [if_pos hr, if_pos (by simpa [hc, ho] using hr)]
        simp [valOf, ho]
      · rw [if_neg hr, if_neg fun h => hr fun o ho => h o (List.mem_cons_of_mem _ ho)]
        rfl

theorem evalGate_ok_iff {g : Gate} {d : Asg} {r : V3} (hty : g.ty ≠ INPUT) :
    evalGate g d = .ok r ↔
      (∀ o ∈ g.ops, d.contains o = true) ∧ applyOp g.ty (g.ops.map (valOf d)) = some r := by
  unfold evalGate
  rw [if_neg hty, mapM_get?]
  by_cases hall : ∀ o ∈ g.ops, d.contains o = true
  · rw [if_pos hall, and_iff_right hall]
    dsimp only
    cases applyOp g.ty (g.ops.map (valOf d)) <;> simp
  · simp [hall]

/-- along `evaluate_full_circuit`: the gates done so far have entries, their operands are done too, and
the entry of a non-INPUT one is the operator's value on the entries of its operands -/
structure FInv (c : Circuit) (a : Label → V3) (d : Asg) (done : List Label) : Prop where
  inp : ∀ g ∈ c.gates, g.ty = INPUT → d.get? g.label = some (a g.label)
  dom : ∀ l ∈ done, d.contains l = true
  ev : ∀ g ∈ c.gates, g.ty ≠ INPUT → g.label ∈ done →
    (∀ o ∈ g.ops, o ∈ done) ∧ applyOp g.ty (g.ops.map (valOf d)) = some (valOf d g.label)

theorem evalFullLoop_inv {c : Circuit} (h : WFU c) (a : Label → V3) (order : List Label)
    (hnd : order.Nodup) (hsub : ∀ l ∈ order, l ∈ c.labels)
    (hord : ∀ pre l post, order = pre ++ l :: post → ∀ g ∈ c.gates, g.label = l → ∀ o ∈ g.ops, o ∈ pre) :
    ∀ rest pre d, order = pre ++ rest → FInv c a d pre →
      ∃ d', evalFullLoop c rest d = .ok d' ∧ FInv c a d' order ∧ (NodupKeys d → NodupKeys d')
  | [], pre, d, ho, inv => ⟨d, rfl, by simpa [ho] using inv, id⟩
  | l :: rest, pre, d, ho, inv => by
    obtain ⟨g, hg, rfl⟩ := gate_of_label (hsub l (by simp [ho]))
    have hlpre : g.label ∉ pre := fun hm => by
      rw [ho] at hnd; exact (List.nodup_append.mp hnd).2.2 _ hm _ (by simp) rfl
    have hops : ∀ o ∈ g.ops, o ∈ pre := hord pre _ rest ho g hg rfl
    have ho' : order = (pre ++ [g.label]) ++ rest := by simp [ho]
    simp only [evalFullLoop, evalFullStep, find_label h.nodup hg]
    by_cases hty : g.ty = INPUT
    · rw [if_pos hty]
      refine evalFullLoop_inv h a order hnd hsub hord rest _ d ho'
        ⟨inv.inp, fun l hl => ?_, fun g' hg' hty' hin => ?_⟩
      · rcases List.mem_append.mp hl with hl | hl
        · exact inv.dom l hl
        · simp [List.mem_singleton.mp hl, Dict.contains, inv.inp g hg hty]
      · have hin : g'.label ∈ pre := (List.mem_append.mp hin).resolve_right fun e =>
          hty' (gate_unique h.nodup hg' hg (List.mem_singleton.mp e) ▸ hty)
        exact (inv.ev g' hg' hty' hin).imp_left fun e1 o ho => List.mem_append_left _ (e1 o ho)
    · rw [if_neg hty]
      have har := h.arity g hg
      rw [if_neg hty] at har
      obtain ⟨r, hr⟩ := Option.isSome_iff_exists.mp
        ((applyOp_isSome_iff g.ty (g.ops.map (valOf d))).trans (by simpa using har))
      rw [(evalGate_ok_iff hty).mpr ⟨fun o ho => inv.dom o (hops o ho), hr⟩]
      -- the new entry is for a label not done before, and operands of done gates are done
      have hkeep : ∀ o ∈ pre, valOf (d.set g.label r) o = valOf d o := fun o ho => by
        rw [valOf_set, if_neg (fun e : o = g.label => hlpre (e ▸ ho))]
      refine (evalFullLoop_inv h a order hnd hsub hord rest _ _ ho'
        ⟨fun g' hg' hty' => ?_, fun l hl => ?_, fun g' hg' hty' hin => ?_⟩).imp
        fun _ h => ⟨h.1, h.2.1, h.2.2 ∘ nodupKeys_set d _ r⟩
      · rw [Dict.get?_set, if_neg (fun e => hty (gate_unique h.nodup hg' hg e ▸ hty')), inv.inp g' hg' hty']
      · rcases List.mem_append.mp hl with hl | hl
        · simp [contains_set, inv.dom l hl]
        · simp [contains_set, List.mem_singleton.mp hl]
      · rcases List.mem_append.mp hin with hin | hin
        · obtain ⟨e1, e2⟩ := inv.ev g' hg' hty' hin
          exact ⟨fun o ho => List.mem_append_left _ (e1 o ho),
            by rw [List.map_congr_left fun o ho => hkeep o (e1 o ho), hkeep _ hin, e2]⟩
        · obtain rfl := gate_unique h.nodup hg' hg (List.mem_singleton.mp hin)
          exact ⟨fun o ho => List.mem_append_left _ (hops o ho),
            by rw [List.map_congr_left fun o ho => hkeep o (hops o ho), valOf_set, if_pos rfl, hr]⟩

theorem evalFull_spec {c : Circuit} (h : WFU c) (asg : Asg) :
    ∃ d, evalFull c asg = .ok d ∧ IsVal3 c (asgFun asg) (valOf d) ∧
      (∀ g ∈ c.gates, (d.get? g.label).isSome = true) ∧ (NodupKeys asg → NodupKeys d) := by
  obtain ⟨order, hts, hperm, hord⟩ := topSort_inv_spec h.toWFG
  have hnd : order.Nodup := hperm.nodup_iff.mpr h.nodup
  have hsub : ∀ l ∈ order, l ∈ c.labels := fun l hl => hperm.mem_iff.mp hl
  have hinp : ∀ g ∈ c.gates, g.ty = INPUT →
      (initAsg c asg).get? g.label = some (asgFun asg g.label) := by
    intro g hg hty
    rw [initAsg_get?]
    have : g.label ∈ c.inputs := (h.inputsOK g.label).mpr ⟨g, hg, rfl, hty⟩
    simp [this]
  have inv0 : FInv c (asgFun asg) (initAsg c asg) [] := ⟨hinp, nofun, by intro g _ _ hin; cases hin⟩
  obtain ⟨d, hd, inv, hk⟩ := evalFullLoop_inv h (asgFun asg) order hnd hsub hord order [] _ rfl inv0
  refine ⟨d, by simp [evalFull, hts, hd], ?_, ?_, fun ha => hk ?_⟩
  · intro g hg
    by_cases hty : g.ty = INPUT
    · simp only [hty, if_true]; unfold valOf; rw [inv.inp g hg hty]; rfl
    · simp only [hty, if_false]
      exact (inv.ev g hg hty (hperm.mem_iff.mpr (mem_labels_of_mem hg))).2
  · exact fun g hg => inv.dom _ (hperm.mem_iff.mpr (mem_labels_of_mem hg))
  · exact List.foldlRecOn c.inputs _ ha fun d hd i _ => nodupKeys_setDefault d i _ hd

end Cirbo
