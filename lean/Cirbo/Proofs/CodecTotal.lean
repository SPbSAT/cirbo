import Cirbo.Proofs.CodecFields
/-!
# Which circuits `encode_circuit` accepts, and which errors it raises otherwise (C16)

On a well-formed circuit every field has a known outcome, hence so has the encoder (`encode_outcome`).
-/
namespace Cirbo
open GateType

theorem lt_two_pow_bitLength {k m : Nat} (h : k ≤ m) : k < 2 ^ bitLength m := by
  unfold bitLength
  by_cases hm : m = 0
  · subst hm
    have : k = 0 := by omega
    subst this
    simp
  · simp only [hm, if_false]
    exact Nat.lt_of_le_of_lt h Nat.lt_log2_self

theorem bitLength_lt {m k : Nat} (h : m < 2 ^ k) : bitLength m < k + 1 := by
  unfold bitLength
  by_cases hm : m = 0
  · simp [hm]
  · simp only [hm, if_false]
    have := (Nat.log2_lt hm).mpr h
    omega

theorem bitLength_ge {m k : Nat} (h : 2 ^ k ≤ m) : k + 1 ≤ bitLength m := by
  unfold bitLength
  have hm : m ≠ 0 := by
    intro h0; subst h0
    have := Nat.two_pow_pos k
    omega
  simp only [hm, if_false]
  have : ¬ Nat.log2 m < k := fun hl => by
    have := (Nat.log2_lt hm).mp hl
    omega
  omega

theorem wordSize_nil {c : Circuit} (h : c.gates = []) : wordSize c = 1 := by
  simp [wordSize, h]

theorem wordSize_ne {c : Circuit} (h : c.gates ≠ []) :
    wordSize c = bitLength (max (max c.inputs.length c.outputs.length) (c.gates.length - 1)) := by
  unfold wordSize
  cases hg : c.gates with
  | nil => exact absurd hg h
  | cons g t => simp

theorem enumerateGates_wfs {c : Circuit} (hw : WFS c) : EnumOK c (enumerateGates c) :=
  enumerateGates_ok hw.nodup hw.closed hw.rank hw.inputsNodup (by
    intro l hl
    obtain ⟨g, hg, hgl, hty⟩ := (hw.inputsOK l).mp hl
    exact ⟨g, hg, hgl, hw.inputOps g hg hty⟩)

theorem enumerateGates_length {c : Circuit} (hw : WFS c) : (enumerateGates c).length = c.gates.length := by
  have e := enumerateGates_wfs hw
  have hp : (enumerateGates c).Perm c.labels := (List.perm_ext_iff_of_nodup e.nodup hw.nodup).mpr e.all
  rw [hp.length_eq]
  simp [Circuit.labels]

theorem inputs_length_le {c : Circuit} (hw : WFS c) : c.inputs.length ≤ c.gates.length := by
  obtain ⟨rest, hr⟩ := (enumerateGates_wfs hw).inputsFirst
  have := enumerateGates_length hw
  rw [hr, List.length_append] at this
  omega

theorem wordSize_fit {c : Circuit} (hw : WFS c) {k : Nat}
    (hk : k ≤ max (max c.inputs.length c.outputs.length) (c.gates.length - 1)) : k < 2 ^ wordSize c := by
  by_cases hne : c.gates = []
  · -- without gates there are neither inputs nor outputs
    have hi := inputs_length_le hw
    have ho : c.outputs = [] := List.eq_nil_iff_forall_not_mem.mpr fun o h => by
      simpa [Circuit.labels, hne] using hw.outputsOK o h
    simp only [hne, ho, List.length_nil] at hi hk
    rw [wordSize_nil hne]
    omega
  · rw [wordSize_ne hne]
    exact lt_two_pow_bitLength hk

theorem exists_input {c : Circuit} (hw : WFS c) (hpos : ∀ g ∈ c.gates, g.ty ≠ INPUT → g.ops ≠ [])
    (hne : c.gates ≠ []) : ∃ g ∈ c.gates, g.ty = INPUT := by
  obtain ⟨r, hr⟩ := hw.rank
  -- follow first operands down the rank
  have key : ∀ n, ∀ g ∈ c.gates, r g.label = n → ∃ g' ∈ c.gates, g'.ty = INPUT := by
    intro n
    induction n using Nat.strongRecOn with
    | _ n ih =>
      intro g hg hn
      by_cases ht : g.ty = INPUT
      · exact ⟨g, hg, ht⟩
      · cases hops : g.ops with
        | nil => exact absurd hops (hpos g hg ht)
        | cons o t =>
          have ho : o ∈ g.ops := by simp [hops]
          obtain ⟨g', hg', hl⟩ := gate_of_label (hw.closed g hg o ho)
          exact ih (r g'.label) (by rw [hl, ← hn]; exact hr g hg o ho) g' hg' rfl
  cases hgs : c.gates with
  | nil => exact absurd hgs hne
  | cons g t =>
    obtain ⟨g', hg', ht⟩ := key _ g (by simp [hgs]) rfl
    exact ⟨g', by simpa [hgs] using hg', ht⟩

theorem codecArity_pos (ty : GateType) : 0 < Gen.codecArity ty := by
  cases ty <;> decide

theorem nonInputCount_fit {c : Circuit} (hin : c.gates = [] ∨ ∃ g ∈ c.gates, g.ty = INPUT) :
    nonInputCount c < 2 ^ wordSize c := by
  rcases hin with hnil | ⟨g, hg, ht⟩
  · rw [wordSize_nil hnil]; simp [nonInputCount, hnil]
  · have hne : c.gates ≠ [] := by intro h; rw [h] at hg; cases hg
    have hlt : (c.gates.filter (fun g => g.ty != INPUT)).length < c.gates.length :=
      List.length_filter_lt_length_iff_exists.mpr ⟨g, hg, by simp [ht]⟩
    rw [wordSize_ne hne]
    apply lt_two_pow_bitLength
    unfold nonInputCount
    omega

/-- a gate of the format: a type with a code, and as many operands as the decoder will read for it -/
abbrev Conforms (g : Gate) : Prop :=
  g.ty ≠ INPUT → (Gen.codecTypeId g.ty).isSome ∧ g.ops.length = Gen.codecArity g.ty

theorem id_fits {c : Circuit} (hw : WFS c) {o : Label} (ho : o ∈ c.labels) :
    o ∈ enumerateGates c ∧ (enumerateGates c).idxOf o < 2 ^ wordSize c := by
  have hm := ((enumerateGates_wfs hw).all o).mpr ho
  have := List.idxOf_lt_length_iff.mpr hm
  rw [enumerateGates_length hw] at this
  exact ⟨hm, wordSize_fit hw (by omega)⟩

theorem idField_wfs {c : Circuit} (hw : WFS c) {o : Label} (ho : o ∈ c.labels) :
    idField (enumerateGates c) (wordSize c) o = .ok (numBits ((enumerateGates c).idxOf o) (wordSize c)) := by
  simp [idField, numField, id_fits hw ho]

theorem mem_enumGates {c : Circuit} (hw : WFS c) {g : Gate} :
    g ∈ (enumerateGates c).filterMap c.find? ↔ g ∈ c.gates :=
  ⟨fun h => by obtain ⟨l, -, hf⟩ := List.mem_filterMap.mp h; exact (find_some_mem hf).1,
    fun hg => List.mem_filterMap.mpr ⟨g.label, ((enumerateGates_wfs hw).all _).mpr (mem_labels_of_mem hg),
      find_label hw.nodup hg⟩⟩

theorem gateField_wfs {c : Circuit} (hw : WFS c) {g : Gate} (hg : g ∈ c.gates) :
    gateField (enumerateGates c) (wordSize c) g =
      if Conforms g then .ok (if g.ty = INPUT then [] else recBits (wordSize c) (recOf (enumerateGates c) g))
      else .error "CircuitEncodingError" := by
  unfold gateField
  by_cases ht : g.ty = INPUT
  · simp [ht, Conforms]
  · rcases Option.eq_none_or_eq_some (Gen.codecTypeId g.ty) with htid | ⟨tid, htid⟩
    · simp [ht, htid, Conforms]
    · by_cases har : g.ops.length = Gen.codecArity g.ty
      · have hops := cat_map_ok fun o ho => idField_wfs hw (hw.closed g hg o ho)
        simp [ht, htid, har, Conforms, cat, numField, (codecType_table htid).1, hops, thenField, recBits, recOf, idsBits,
          List.flatMap_map]
      · simp [ht, htid, har, Conforms]

theorem map_labelField {c : Circuit} {ids : List Label} {ws : Nat} : ∀ {ls : List Label},
    (∀ l ∈ ls, ∃ g, c.find? l = some g) →
    ls.map (labelField c ids ws) = (ls.filterMap c.find?).map (gateField ids ws)
  | [], _ => rfl
  | l :: t, h => by
    obtain ⟨g, hf⟩ := h l List.mem_cons_self
    rw [List.map_cons, List.filterMap_cons_some hf, List.map_cons, map_labelField fun x hx => h x (List.mem_cons_of_mem _ hx),
      labelField, hf]

theorem flatMap_recBits (ids : List Label) (ws : Nat) : ∀ gs : List Gate,
    gs.flatMap (fun g => if g.ty = INPUT then [] else recBits ws (recOf ids g))
      = recsBits ws ((gs.filter fun g => g.ty != INPUT).map (recOf ids))
  | [] => rfl
  | g :: t => by
    have := flatMap_recBits ids ws t
    by_cases ht : g.ty = INPUT <;> simp_all [recsBits]

/-- The header comes first: a word size that does not fit its byte, or a number of non-input gates that does not fit a
word (a circuit without inputs), is a `BitIOError` whatever the gates are; then a gate outside the format is a
`CircuitEncodingError`; nothing else fails. -/
theorem encode_outcome {c : Circuit} (hw : WFS c) :
    encodeCircuit c =
      if wordSize c < 256 ∧ nonInputCount c < 2 ^ wordSize c then
        if ∀ g ∈ c.gates, Conforms g then .ok (packBytes (encBits c)) else .error "CircuitEncodingError"
      else .error "BitIOError" := by
  have h1 := wordSize_fit hw (k := c.inputs.length) (by omega)
  have h2 := wordSize_fit hw (k := c.outputs.length) (by omega)
  have hfound : ∀ l ∈ enumerateGates c, ∃ g, c.find? l = some g := fun l hl => by
    obtain ⟨g, hg, rfl⟩ := gate_of_label (((enumerateGates_wfs hw).all l).mp hl)
    exact ⟨g, find_label hw.nodup hg⟩
  have hG := cat_map_ite fun g hg => gateField_wfs hw ((mem_enumGates hw).mp hg)
  simp only [mem_enumGates hw, flatMap_recBits] at hG
  have hO := cat_map_ok fun o ho => idField_wfs hw (hw.outputsOK o ho)
  rw [encode_fields, fields, cat_append, cat_append, map_labelField hfound, hG, hO]
  by_cases hh : wordSize c < 256 ∧ nonInputCount c < 2 ^ wordSize c
  · by_cases hc : ∀ g ∈ c.gates, Conforms g
    · simp [cat, numField, thenField, hh, h1, h2, if_pos hc, encBits, nonInputGates, idsBits, List.flatMap_map]
    · simp [cat, numField, thenField, hh, h1, h2, if_neg hc]
  · rw [if_neg hh]
    by_cases h0 : wordSize c < 256
    · simp [cat, numField, thenField, h0, h1, h2, show ¬nonInputCount c < 2 ^ wordSize c from fun h => hh ⟨h0, h⟩]
    · simp [cat, numField, thenField, h0]

theorem encode_unfold {c : Circuit} (hw : WFS c) {bytes : List Nat} (h : encodeCircuit c = .ok bytes) :
    bytes = packBytes (encBits c) ∧ (wordSize c < 256 ∧ nonInputCount c < 2 ^ wordSize c) ∧ ∀ g ∈ c.gates, Conforms g := by
  rw [encode_outcome hw] at h
  split at h
  · split at h
    · exact ⟨(Except.ok.inj h).symm, ‹_›, ‹_›⟩
    · cases h
  · cases h

/-- conforming gates have operands, so a well-formed conforming circuit with a gate has an input -/
theorem conforms_input {c : Circuit} (hw : WFS c)
    (hconf : ∀ g ∈ c.gates, Conforms g) : c.gates = [] ∨ ∃ g ∈ c.gates, g.ty = INPUT := by
  by_cases hne : c.gates = []
  · exact Or.inl hne
  · refine Or.inr (exists_input hw (fun g hg ht hops => ?_) hne)
    have := (hconf g hg ht).2
    have := codecArity_pos g.ty
    simp [hops] at *
    omega

theorem ct_encode_error_range {c : Circuit} (hw : WFS c) {e : String} (h : encodeCircuit c = .error e) :
    e = "CircuitEncodingError" ∨ e = "BitIOError" := by
  rw [encode_outcome hw] at h
  split at h
  · split at h
    · cases h
    · exact .inl (Except.error.inj h).symm
  · exact .inr (Except.error.inj h).symm

theorem ct_encode_total {c : Circuit} (hw : WFS c)
    (hconf : ∀ g ∈ c.gates, Conforms g) (hws : wordSize c < 256) : ∃ bytes, encodeCircuit c = .ok bytes := by
  rw [encode_outcome hw, if_pos ⟨hws, nonInputCount_fit (conforms_input hw hconf)⟩, if_pos hconf]
  exact ⟨_, rfl⟩

theorem ct_encode_wordsize_error {c : Circuit} (h : 256 ≤ wordSize c) :
    encodeCircuit c = .error "BitIOError" := by
  simp [encode_fields, fields, cat, numField, show ¬wordSize c < 256 by omega, thenField]

theorem ct_encode_ok_iff {c : Circuit} (hw : WFS c) :
    (∃ bytes, encodeCircuit c = .ok bytes) ↔ (∀ g ∈ c.gates, Conforms g) ∧ wordSize c < 256 := by
  exact ⟨fun ⟨_, h⟩ => ⟨(encode_unfold hw h).2.2, (encode_unfold hw h).2.1.1⟩,
    fun ⟨hconf, hws⟩ => ct_encode_total hw hconf hws⟩

/-- with conforming gates the only possible error is the header overflow -/
theorem ct_encode_error_conf {c : Circuit} (hw : WFS c)
    (hconf : ∀ g ∈ c.gates, g.ty ≠ INPUT →
      (Gen.codecTypeId g.ty).isSome ∧ g.ops.length = Gen.codecArity g.ty)
    {e : String} (h : encodeCircuit c = .error e) : e = "BitIOError" ∧ 256 ≤ wordSize c := by
  have := nonInputCount_fit (conforms_input hw hconf)
  rw [encode_outcome hw] at h
  split at h
  · cases h
  · exact ⟨(Except.error.inj h).symm, by omega⟩

/-- if the header fits and the circuit has an input gate (or no gate), the only error is `CircuitEncodingError` -/
theorem ct_encode_error_cee {c : Circuit} (hw : WFS c) (hws : wordSize c < 256)
    (hin : c.gates = [] ∨ ∃ g ∈ c.gates, g.ty = INPUT)
    {e : String} (h : encodeCircuit c = .error e) : e = "CircuitEncodingError" := by
  rw [encode_outcome hw, if_pos ⟨hws, nonInputCount_fit hin⟩] at h
  split at h
  · cases h
  · exact (Except.error.inj h).symm

theorem ct_wordSize_lt_iff {c : Circuit} (hne : c.gates ≠ []) :
    wordSize c < 256 ↔ max (max c.inputs.length c.outputs.length) (c.gates.length - 1) < 2 ^ 255 := by
  rw [wordSize_ne hne]
  constructor
  · intro h
    apply Nat.lt_of_not_le
    intro hge
    have := bitLength_ge hge
    omega
  · intro h
    exact bitLength_lt h

theorem ct_wordSize_small {c : Circuit} (hi : c.inputs.length < 2 ^ 255) (ho : c.outputs.length < 2 ^ 255)
    (hg : c.gates.length ≤ 2 ^ 255) : wordSize c < 256 := by
  by_cases hne : c.gates = []
  · rw [wordSize_nil hne]; decide
  · rw [ct_wordSize_lt_iff hne]
    have hpos : 0 < c.gates.length := List.length_pos_iff.mpr hne
    have h1 : c.gates.length - 1 < 2 ^ 255 := Nat.lt_of_lt_of_le (Nat.sub_lt hpos (by decide)) hg
    exact Nat.max_lt.mpr ⟨Nat.max_lt.mpr ⟨hi, ho⟩, h1⟩

end Cirbo

#print axioms Cirbo.ct_encode_total
#print axioms Cirbo.ct_encode_ok_iff
#print axioms Cirbo.ct_encode_error_range
#print axioms Cirbo.ct_encode_error_conf
#print axioms Cirbo.ct_encode_error_cee
#print axioms Cirbo.ct_wordSize_small
