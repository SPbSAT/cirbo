import Cirbo.Model.Eval
/-! The enumerations `itertools.product((b, not b), repeat=n)` of the model list exactly the Boolean
vectors of length `n`, whichever value comes first. -/
namespace Cirbo

theorem mem_boolVectors {E : Nat → List (List Bool)} (b : Bool) (h0 : E 0 = [[]])
    (hs : ∀ n, E (n + 1) = (E n).map (b :: ·) ++ (E n).map ((!b) :: ·)) (x : List Bool) :
    ∀ n, x ∈ E n ↔ x.length = n := by
  induction x with
  | nil => intro n; cases n <;> simp [h0, hs]
  | cons a r ih => intro n; cases n <;> cases a <;> cases b <;> simp [h0, hs, ih]

theorem mem_allInputs (x : List Bool) : ∀ n, x ∈ allInputs n ↔ x.length = n :=
  mem_boolVectors false rfl (fun _ => rfl) x

theorem allInputs_ne_nil (n : Nat) : allInputs n ≠ [] :=
  List.ne_nil_of_mem ((mem_allInputs _ n).mpr (List.length_replicate (a := false)))

end Cirbo
