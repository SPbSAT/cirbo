import Cirbo.Proofs.Eval
import Cirbo.Proofs.Val
/-! Corollaries connecting the evaluators with the Boolean denotational semantics.

Input assignments: the model's is `zipInputs` (`zipAsg` in GatesTT is its fold, as `get_gates_truth_table` writes it);
proof-side, `asgOfBools c b` is the dictionary of a total Boolean assignment, in which C01/C15 are phrased, and
`asgOfBits` (GatesTT) the function that gives the inputs the bits of an enumerated vector. -/
namespace Cirbo
open GateType V3

/-- `{input_i: b(input_i)}` as a dictionary in input order; it reads like the one `zipInputs` builds
(`asgFun_asgOfBools`, `get?_foldSet_pairs`), and the theorems on the evaluators use only that reading -/
def asgOfBools (c : Circuit) (b : Label → Bool) : Asg := c.inputs.map (fun i => (i, ofBool (b i)))

theorem asgFun_asgOfBools (c : Circuit) (b : Label → Bool) (k : Label) :
    asgFun (asgOfBools c b) k = if k ∈ c.inputs then ofBool (b k) else U := by
  unfold asgFun asgOfBools; rw [get?_map_pair]; by_cases h : k ∈ c.inputs <;> simp [h]

theorem isVal3_asgOfBools {c : Circuit} (h : WFU c) {b : Label → Bool} {v : Label → V3}
    (hv : IsVal3 c (asgFun (asgOfBools c b)) v) : IsVal3 c (fun l => ofBool (b l)) v := by
  apply isVal3_congr _ hv
  intro g hg hty
  simp [asgFun_asgOfBools, (mem_inputs_iff h.toWF hg).mpr hty]

theorem asgOfBools_get?_gate {c : Circuit} (h : WFU c) (b : Label → Bool) :
    ∀ g ∈ c.gates, g.ty ≠ INPUT → (asgOfBools c b).get? g.label = none := by
  intro g hg hty
  unfold asgOfBools
  simp [get?_map_pair, mem_inputs_iff h.toWF hg, hty]

theorem isValB_of_isVal3 {c : Circuit} (h : WF c) {b : Label → Bool} {v3 : Label → V3}
    (h3 : IsVal3 c (fun l => ofBool (b l)) v3) : IsValB c b (fun l => toB (v3 l)) := by
  have hdef := val3_total_defined h h3
  intro g hg
  by_cases hty : g.ty = INPUT
  · have h1 := h3 g hg
    simp only [hty, if_true] at h1 ⊢
    rw [h1]; cases b g.label <;> rfl
  · rw [if_neg hty]
    refine (isVal3_bool_step h3 hg hty fun o ho => ?_).2
    obtain ⟨go, hgo, rfl⟩ := gate_of_label (h.closed g hg o ho)
    exact hdef go hgo

/-- a three-valued valuation exists under every assignment: the one `evaluate_full_circuit` computes -/
theorem val3_exists {c : Circuit} (h : WFU c) (asg : Asg) : ∃ v, IsVal3 c (asgFun asg) v :=
  let ⟨_, _, hv, _⟩ := evalFull_spec h asg
  ⟨_, hv⟩

theorem val3_exists_bool {c : Circuit} (h : WFU c) (b : Label → Bool) :
    ∃ v, IsVal3 c (asgFun (asgOfBools c b)) v ∧ IsVal3 c (fun l => ofBool (b l)) v :=
  let ⟨v, hv⟩ := val3_exists h (asgOfBools c b)
  ⟨v, hv, isVal3_asgOfBools h hv⟩

theorem valB_exists {c : Circuit} (h : WFU c) (b : Label → Bool) : ∃ vB, IsValB c b vB :=
  let ⟨_, _, hv⟩ := val3_exists_bool h b
  ⟨_, isValB_of_isVal3 h.toWF hv⟩

end Cirbo
