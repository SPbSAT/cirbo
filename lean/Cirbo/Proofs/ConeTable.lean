import Cirbo.Model.ConeTable
import Cirbo.Proofs.Pattern
import Cirbo.Proofs.Lists
import Cirbo.Proofs.ReplaceSem
/-!
# C04: the cone simulation computes the cone, and the table with don't-cares is sound
(see Model/ConeTable.lean)
-/
namespace Cirbo
namespace Cone
open Pattern GateType

theorem lsbRow_lt : ∀ bs : List Bool, lsbRow bs < 2 ^ bs.length
  | [] => by simp [lsbRow]
  | b :: r => by
    have := lsbRow_lt r
    simp only [lsbRow, List.length_cons, Nat.pow_succ]
    cases b <;> simp <;> omega

theorem lsbRow_testBit : ∀ (bs : List Bool) (j : Nat) (h : j < bs.length), (lsbRow bs).testBit j = bs[j]
  | b :: r, 0, _ => by
    simp only [lsbRow, List.getElem_cons_zero, Nat.testBit_zero]
    cases b <;> simp <;> omega
  | b :: r, j + 1, h => by
    have ih := lsbRow_testBit r j (by simpa using h)
    simp only [lsbRow, List.getElem_cons_succ, Nat.testBit_succ]
    rw [← ih]; congr 1
    cases b <;> simp <;> omega

theorem msbBits_lsbRow (bs : List Bool) : msbBits bs.length (lsbRow bs) = bs.reverse := by
  apply List.ext_getElem
  · simp [msbBits]
  · intro i h1 h2
    simp only [msbBits, List.length_map, List.length_range] at h1
    simp only [msbBits, List.getElem_map, List.getElem_range, List.getElem_reverse]
    exact lsbRow_testBit bs _ (by omega)

/-- every entry of `tt` is a pattern below the bound whose bit `r` is the gate's value under `v` -/
def TTInv (n : Nat) (v : Label → Bool) (r : Nat) (tt : List (Label × Nat)) : Prop :=
  ∀ l p, tt.lookup l = some p → p < 2 ^ (2 ^ n) ∧ p.testBit r = v l

theorem TTInv.get {n r : Nat} {v : Label → Bool} {tt : List (Label × Nat)} (hinv : TTInv n v r tt) {l : Label}
    (hd : (tt.lookup l).isSome) : ttGet tt l < 2 ^ (2 ^ n) ∧ (ttGet tt l).testBit r = v l := by
  cases hl : tt.lookup l with
  | none => simp [hl] at hd
  | some q => simpa [ttGet, hl] using hinv l q hl

theorem lsbRow_map_lt (leaves : List Label) (v : Label → Bool) : lsbRow (leaves.map v) < 2 ^ leaves.length := by
  simpa using lsbRow_lt (leaves.map v)

theorem initTT_inv (leaves : List Label) (v : Label → Bool) :
    TTInv leaves.length v (lsbRow (leaves.map v)) (initTT leaves) := by
  intro l p h
  have hm := List.mem_of_lookup h
  simp only [initTT, List.mem_map, Prod.mk.injEq] at hm
  obtain ⟨⟨l', j⟩, hmem, rfl, rfl⟩ := hm
  obtain ⟨hj0, hj, hl⟩ := List.mem_zipIdx hmem
  simp only [Nat.zero_add, Nat.sub_zero] at hj hl
  obtain ⟨h1, h2⟩ := leafPattern_testBit leaves.length j _ (lsbRow_map_lt leaves v)
  refine ⟨h2, ?_⟩
  rw [h1, lsbRow_testBit _ j (by simpa using hj)]
  simp [hl]

theorem initTT_dom (leaves : List Label) : ∀ l ∈ leaves, ((initTT leaves).lookup l).isSome := by
  intro l hl
  cases h : (initTT leaves).lookup l with
  | some _ => rfl
  | none =>
    rw [List.lookup_eq_none_iff] at h
    obtain ⟨j, hj, rfl⟩ := List.getElem_of_mem hl
    have : (leaves[j], leafPattern leaves.length j) ∈ initTT leaves := by
      simp only [initTT, List.mem_map]
      exact ⟨(leaves[j], j), by simp [List.mem_zipIdx_iff_getElem?, hj], rfl⟩
    have := h _ this
    simp at this

theorem simStep_inv {c : Circuit} {leaves : List Label} {b v : Label → Bool} {r : Nat} {tt tt' : List (Label × Nat)}
    {node : Label} (hv : IsValB c b v) (har : ∀ g ∈ c.gates, g.ty ≠ INPUT → arityOk g.ty g.ops.length = true)
    (hr : r < 2 ^ leaves.length) (hinv : TTInv leaves.length v r tt)
    (hleaf : ∀ l ∈ leaves, (tt.lookup l).isSome)
    (hops : node ∉ leaves → ∀ g, c.find? node = some g → ∀ o ∈ g.ops, (tt.lookup o).isSome)
    (h : simStep c leaves (.ok tt) node = .ok tt') :
    TTInv leaves.length v r tt' ∧ (∀ l, (tt.lookup l).isSome → (tt'.lookup l).isSome) ∧ (tt'.lookup node).isSome := by
  simp only [simStep, bind, Except.bind, pure, Except.pure] at h
  by_cases hn : node ∈ leaves
  · simp only [hn, if_true, Except.ok.injEq] at h
    subst h
    exact ⟨hinv, fun _ h => h, hleaf node hn⟩
  · simp only [hn, if_false] at h
    cases hf : c.find? node with
    | none => simp [hf] at h
    | some g =>
      simp only [hf] at h
      cases he : evalPattern leaves.length g.ty (g.ops.map (ttGet tt)) with
      | error e => simp [he] at h
      | ok p =>
        simp only [he, Except.ok.injEq] at h
        subst h
        obtain ⟨hg, hgl⟩ := find_some_mem hf
        have hty : g.ty ≠ INPUT := by
          intro ht; rw [ht] at he; simp [evalPattern] at he
        have hdom := hops hn g hf
        have hop : ∀ o ∈ g.ops, ttGet tt o < 2 ^ (2 ^ leaves.length) ∧ (ttGet tt o).testBit r = v o :=
          fun o ho => hinv.get (hdom o ho)
        obtain ⟨s1, s2⟩ := evalPattern_sound leaves.length g.ty _ p he
          (by intro x hx; obtain ⟨o, ho, rfl⟩ := List.mem_map.mp hx; exact (hop o ho).1)
          (by simpa using har g hg hty)
        have hbits : bitsAt (g.ops.map (ttGet tt)) r = g.ops.map v := by
          simp only [bitsAt, List.map_map]
          exact List.map_congr_left (fun o ho => (hop o ho).2)
        have hval := hv g hg
        simp only [hty, if_false] at hval
        have hpr : p.testBit r = v node := by
          have := s2 r hr
          rw [hbits, hval] at this
          rw [← hgl]; exact (Option.some.inj this).symm
        refine ⟨?_, ?_, by simp⟩
        · intro l q hq
          rw [List.lookup_cons] at hq
          split at hq
          · rename_i hk
            cases hq
            exact beq_iff_eq.mp hk ▸ ⟨s1, hpr⟩
          · exact hinv l q hq
        · intro l hl
          rw [List.lookup_cons]
          split
          · rfl
          · exact hl

/-- the cone is closed: every operand of a simulated gate is a leaf, an earlier node, or one of `seen` (the nodes
simulated before `nodes`; the theorems take `[]`) -/
def Closed (c : Circuit) (leaves : List Label) (seen nodes : List Label) : Prop :=
  ∀ pre x post, nodes = pre ++ x :: post → x ∉ leaves → ∀ g, c.find? x = some g →
    ∀ o ∈ g.ops, o ∈ leaves ∨ o ∈ seen ∨ o ∈ pre

theorem simulate_sound {c : Circuit} {leaves nodes : List Label} {tt : List (Label × Nat)} {b v : Label → Bool}
    (har : ∀ g ∈ c.gates, g.ty ≠ INPUT → arityOk g.ty g.ops.length = true)
    (hcl : Closed c leaves [] nodes) (h : simulate c leaves nodes = .ok tt) (hv : IsValB c b v) :
    ∀ l, l ∈ leaves ∨ l ∈ nodes → ttGet tt l < 2 ^ (2 ^ leaves.length) ∧
      (ttGet tt l).testBit (lsbRow (leaves.map v)) = v l := by
  have hr := lsbRow_map_lt leaves v
  -- along the loop: the table is right on row `r`, and defined on the leaves and the nodes seen
  have hfold := foldlR_inv (step := simStep c leaves) (fun _ _ => rfl)
    (I := fun seen t => TTInv leaves.length v (lsbRow (leaves.map v)) t ∧
      (∀ l ∈ leaves, (t.lookup l).isSome) ∧ ∀ l ∈ seen, (t.lookup l).isSome)
    (fun pre x post t t1 hn ⟨hinv, hl, hs⟩ h1 => by
      obtain ⟨i1, i2, i3⟩ := simStep_inv hv har hr hinv hl
        (fun hx g hg o ho => by
          rcases hcl pre x post hn hx g hg o ho with h' | h' | h'
          · exact hl o h'
          · cases h'
          · exact hs o h') h1
      refine ⟨i1, fun l h' => i2 l (hl l h'), fun l h' => ?_⟩
      rcases List.mem_append.mp h' with h' | h'
      · exact i2 l (hs l h')
      · rw [List.mem_singleton.mp h']; exact i3)
    nodes [] (initTT leaves) rfl ⟨initTT_inv leaves v, initTT_dom leaves, by simp⟩
  rw [show nodes.foldl (simStep c leaves) (.ok (initTT leaves)) = .ok tt from h] at hfold
  obtain ⟨j1, j2, j3⟩ := hfold
  exact fun l hl => j1.get (hl.elim (j2 l) (j3 l))

theorem ttDC_entry (n : Nat) (outPats : List Nat) (reach : List (List Bool)) (j r : Nat)
    (hj : j < outPats.length) (hr : r < 2 ^ n) :
    entry (ttDC n outPats reach) j r = if msbBits n r ∈ reach then some (outPats[j].testBit r) else none := by
  simp [entry, ttDC, List.getD, hj, hr]

theorem ttDC_defined_iff (n : Nat) (outPats : List Nat) (reach : List (List Bool)) (j r : Nat)
    (hj : j < outPats.length) (hr : r < 2 ^ n) :
    (entry (ttDC n outPats reach) j r).isSome ↔ msbBits n r ∈ reach := by
  rw [ttDC_entry n outPats reach j r hj hr]; split <;> simp [*]

/-- what C06 (`c06_returned_circuit_computes_the_table`) proves of the circuit exact synthesis returns for a table;
input 0 carries the most significant bit of the row -/
def Implements (sub : Circuit) (n : Nat) (tab : List (List (Option Bool))) : Prop :=
  sub.inputs.length = n ∧ sub.outputs.length = tab.length ∧
  ∀ bs vs t, t < 2 ^ n → IsValB sub bs vs →
    (∀ i (h : i < sub.inputs.length), bs sub.inputs[i] = t.testBit (n - 1 - i)) →
    ∀ j (hj : j < sub.outputs.length) x, entry tab j t = some x → vs sub.outputs[j] = x

/-- `_eval_dont_cares` collects the leaf vector of every valuation -/
def ReachComplete (c : Circuit) (ins : List Label) (reach : List (List Bool)) : Prop :=
  ∀ b v, IsValB c b v → ins.map v ∈ reach

theorem reachOf_complete (c : Circuit) (ins : List Label) (vals : List (Label → Bool))
    (h : ∀ b v, IsValB c b v → ∃ v' ∈ vals, ∀ l ∈ ins, v' l = v l) : ReachComplete c ins (reachOf ins vals) := by
  intro b v hv
  obtain ⟨v', hm, he⟩ := h b v hv
  exact List.mem_map.mpr ⟨v', hm, List.map_congr_left he⟩

theorem dc_table_slice_agrees {c sub : Circuit} {leaves nodes outs : List Label} {tt : List (Label × Nat)}
    {reach : List (List Bool)}
    (har : ∀ g ∈ c.gates, g.ty ≠ INPUT → arityOk g.ty g.ops.length = true)
    (hcl : Closed c leaves [] nodes) (hsim : simulate c leaves nodes = .ok tt)
    (houts : ∀ o ∈ outs, o ∈ leaves ∨ o ∈ nodes)
    (hreach : ReachComplete c leaves.reverse reach)
    (hin : ∀ l, l ∈ sub.inputs → ∃ g ∈ sub.gates, g.label = l ∧ g.ty = INPUT)
    (himpl : Implements sub leaves.length (ttDC leaves.length (outs.map (ttGet tt)) reach)) :
    SliceAgrees c sub (leaves.reverse.zip sub.inputs) (outs.zip sub.outputs) := by
  obtain ⟨hn, hm, hall⟩ := himpl
  intro b v bs vs hv hvs him p hp
  have hm' : sub.outputs.length = outs.length := by simpa [ttDC] using hm
  obtain ⟨r, hrdef⟩ : ∃ r, r = lsbRow (leaves.map v) := ⟨_, rfl⟩
  have hr : r < 2 ^ leaves.length := hrdef ▸ lsbRow_map_lt leaves v
  have hmsb : msbBits leaves.length r = leaves.reverse.map v := by
    have := msbBits_lsbRow (leaves.map v)
    rw [hrdef]; simpa [List.map_reverse] using this
  have hrow : ∀ i (h : i < sub.inputs.length), bs sub.inputs[i] = r.testBit (leaves.length - 1 - i) := by
    intro i hi
    obtain ⟨g, hg, hgl, hgt⟩ := hin _ (List.getElem_mem hi)
    have h1 := hvs g hg
    simp only [hgt, if_true, hgl] at h1
    have hi' : i < leaves.length := hn ▸ hi
    have h2 := him (leaves.reverse[i]'(by simpa using hi'), sub.inputs[i]) (by
      rw [List.mem_iff_getElem]; exact ⟨i, by simp; omega, by simp⟩)
    rw [← h1, h2, hrdef, lsbRow_testBit _ _ (by simp; omega)]
    simp [List.getElem_reverse]
  obtain ⟨j, hj, hpj⟩ := List.mem_iff_getElem.mp hp
  have hj1 : j < outs.length := by simp at hj; omega
  have hj2 : j < sub.outputs.length := by simp at hj; omega
  have hpe : p = (outs[j], sub.outputs[j]) := by rw [← hpj]; simp
  subst hpe
  simp only
  have hent := ttDC_entry leaves.length (outs.map (ttGet tt)) reach j r (by simpa using hj1) hr
  have hmem : msbBits leaves.length r ∈ reach := by rw [hmsb]; exact hreach b v hv
  rw [if_pos hmem] at hent
  have := hall bs vs r hr hvs hrow j hj2 _ hent
  rw [this]
  simp only [List.getElem_map]
  rw [hrdef]
  exact (simulate_sound har hcl hsim hv _ (houts _ (List.getElem_mem hj1))).2

end Cone
end Cirbo
