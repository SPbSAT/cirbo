import Cirbo.Proofs.LazyTerm
import Cirbo.Proofs.BoolVec
/-!
# The entry points `evaluate`, `evaluate_at`, `get_truth_table` return the projections of the denotation
-/
namespace Cirbo
open GateType

theorem zipInputs_keys {c : Circuit} {vals : List V3} {a : Asg} (h : zipInputs c vals = .ok a) :
    ∀ k, a.get? k ≠ none → k ∈ c.inputs := by
  unfold zipInputs at h
  split at h
  · cases h
  · simp only [Except.ok.injEq] at h; subst h
    intro k hk
    rw [Dict.get?_foldl_set_nil] at hk
    obtain ⟨x, hx⟩ := Option.ne_none_iff_exists'.mp hk
    exact (List.of_mem_zip (List.mem_reverse.mp (Dict.mem_of_get? hx))).1

/-- the dictionary built by `evaluate_circuit_outputs`: every output gets the value it has in `d` -/
theorem outputsFold_total (d : Asg) (f : Label → V3) : ∀ (outs : List Label) (acc : Asg),
    (∀ o ∈ outs, d.get? o = some (f o)) →
    ∃ acc', outs.foldlM (fun (acc : Asg) o => match d.get? o with
      | none => (.error "Py:KeyError" : Except String Asg)
      | some v => .ok (acc.set o v)) acc = .ok acc' ∧
      ∀ k, acc'.get? k = if k ∈ outs then some (f k) else acc.get? k
  | [], acc, _ => ⟨acc, rfl, fun k => by simp⟩
  | o :: r, acc, h => by
    obtain ⟨acc', h1, h2⟩ := outputsFold_total d f r (acc.set o (f o)) fun x hx => h x (by simp [hx])
    refine ⟨acc', by simp only [List.foldlM_cons, h o (by simp), bind, Except.bind, h1], fun k => ?_⟩
    rw [h2, Dict.get?_set]
    by_cases hr : k ∈ r
    · simp [hr]
    · by_cases hk : k = o <;> simp [hr, hk]

theorem zipInputs_internal {c : Circuit} (h : WF c) {vals : List V3} {a : Asg} (ha : zipInputs c vals = .ok a) :
    ∀ g ∈ c.gates, g.ty ≠ INPUT → a.get? g.label = none := by
  intro g hg ht
  cases hgk : a.get? g.label with
  | none => rfl
  | some x => exact absurd ((mem_inputs_iff h hg).mp (zipInputs_keys ha g.label (by simp [hgk]))) ht

/-- `_total`, here and below: the call returns, and with this value -/
theorem evaluate_total {c : Circuit} (h : WF c) {vals : List V3} {a : Asg} (ha : zipInputs c vals = .ok a)
    {v : Label → V3} (hv : IsVal3 c (asgFun a) v) : evaluate c vals = .ok (c.outputs.map v) := by
  have houts : ∀ o ∈ (none : Option (List Label)).getD c.outputs, o ∈ c.labels := h.outputsOK
  obtain ⟨_, d, -, hd, -⟩ := evalLazy_spec h a none (zipInputs_internal h ha) houts hv rfl
  obtain ⟨d2, h1, h2⟩ := outputsFold_total d v c.outputs []
    (evalLazy_sound h a none (zipInputs_internal h ha) houts hv hd).2
  simp only [evaluate, evalOutputs, bind, Except.bind, ha, hd]
  generalize hx : List.foldlM (m := Except String) _ ([] : Asg) c.outputs = x
  cases hx.symm.trans h1
  exact mapM_ok_map _ fun o ho => by rw [h2, if_pos ho]

theorem evaluateAt_total {c : Circuit} (h : WF c) {vals : List V3} {a : Asg} (ha : zipInputs c vals = .ok a)
    {v : Label → V3} (hv : IsVal3 c (asgFun a) v) {idx : Nat} {o : Label} (ho : c.outputs[idx]? = some o) :
    evaluateAt c vals idx = .ok (v o) := by
  have houts : ∀ x ∈ (some [o]).getD c.outputs, x ∈ c.labels := by
    simpa using h.outputsOK o (List.mem_of_getElem? ho)
  obtain ⟨_, d, -, hd, -⟩ := evalLazy_spec h a (some [o]) (zipInputs_internal h ha) houts hv rfl
  simp only [evaluateAt, bind, Except.bind, ha, ho, hd,
    (evalLazy_sound h a (some [o]) (zipInputs_internal h ha) houts hv hd).2 o (by simp)]

theorem truthTable_total {c : Circuit} (h : WF c) (V : List V3 → Label → V3)
    (hV : ∀ vals a, zipInputs c vals = .ok a → IsVal3 c (asgFun a) (V vals)) :
    truthTable c = .ok (transpose c.outputs.length ((allInputs c.inputs.length).map
      (fun bs => c.outputs.map (V (bs.map V3.ofBool))))) := by
  simp only [truthTable, bind, Except.bind]
  rw [mapM_ok_map (g := fun bs => c.outputs.map (V (bs.map V3.ofBool))) _ fun bs hbs => ?_]
  obtain ⟨a, ha⟩ : ∃ a, zipInputs c (bs.map V3.ofBool) = .ok a := by
    simp [zipInputs, (mem_allInputs bs _).mp hbs]
  exact evaluate_total h ha (hV _ a ha)

end Cirbo
