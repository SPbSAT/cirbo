import Cirbo.Proofs.Convert
/-!
# `into_bench` keeps the C02 invariant (C14): users index, acyclicity, blocks

The comparison and L*/R* gates must have exactly two operands, or a third operand would keep the gate among its users.
-/
namespace Cirbo
open GateType

theorem rank_input_low {c : Circuit} (hw : WFS c) {f : Label} (hf : f ∈ c.inputs) :
    ∃ r : Label → Nat, (∀ x ∈ c.gates, ∀ o ∈ x.ops, r o < r x.label) ∧ ∀ l ∈ c.labels, l ≠ f → r f < r l := by
  obtain ⟨r, hr⟩ := hw.rank
  obtain ⟨gf, hgf, hgfl, hgft⟩ := (hw.inputsOK f).mp hf
  refine ⟨fun l => if l = f then 0 else r l + 1, fun x hx o ho => ?_, fun l _ hl => by simp [hl]⟩
  have hxf : x.label ≠ f := fun e => by
    rw [gate_unique hw.nodup hx hgf (e.trans hgfl.symm), hw.inputOps gf hgf hgft] at ho; cases ho
  have := hr x hx o ho
  by_cases hof : o = f <;> simp [hxf, hof]; omega

/-- what the new gates read must lie below the gate in some ranking (or be the helper), and the plan must leave the gate
a user of exactly the operands of its replacement (`hbal`) -/
theorem Rewired.wfs {c c1 : Circuit} {g : Gate} {p : Rw} (h : Rewired c c1 g p) (hw : WFS c) (hg : g ∈ c.gates)
    (hgl : p.g'.label = g.label) (hgty : g.ty ≠ INPUT) (hg'ty : p.g'.ty ≠ INPUT) (hA : Addable c p.H)
    (r : Label → Nat) (hr : ∀ x ∈ c.gates, ∀ o ∈ x.ops, r o < r x.label)
    (hHr : ∀ x ∈ p.H, ∀ o ∈ x.ops, r o < r g.label)
    (hops : ∀ o ∈ p.g'.ops, o ∈ p.H.map (·.label) ∨ (o ∈ c.labels ∧ r o < r g.label))
    (hbal : ∀ l, g.ops.count l - p.lost.count l + p.gained.count l = p.g'.ops.count l) : WFS c1 := by
  have hgL := mem_labels_of_mem hg
  obtain ⟨hnd, hHty⟩ : (p.H.map (·.label)).Nodup ∧ ∀ x ∈ p.H, x.ty ≠ INPUT := by
    unfold Rw.H; split <;> simp
  have hHl : ∀ l ∈ p.H.map (·.label), l ∉ c.labels := fun l hl => by
    obtain ⟨x, hx, rfl⟩ := List.mem_map.mp hl; exact (hA x hx).1
  have hgH : g.label ∉ p.H.map (·.label) := fun hm => hHl _ hm hgL
  have hgates : c1.gates = c.gates.map (replG p.g') ++ p.H := h.gates.trans (map_replG_append (hgl ▸ hgH))
  have hsub : ∀ l ∈ c.labels, l ∈ c1.labels := fun l hl => h.labels ▸ List.mem_append_left _ hl
  refine wfs_of_replace hw hgl hg'ty p.H
    (List.nodup_append.mpr ⟨hw.nodup, hnd, fun a ha b hb e => hHl b hb (e ▸ ha)⟩) hHty hgates
    (h.inputs ▸ hw.inputsNodup) (fun l => ?_) h.outputs
    (fun o ho => ?_) (fun x hx o ho => hsub o ((hA x hx).2 o ho)) ?_ (fun l u => ?_) (fun b' hb' => ?_)
  · rw [h.inputs]
    exact ⟨fun hl => ⟨hl, fun e => hw.gate_not_input hg hgty (e ▸ hl)⟩, And.left⟩
  · rw [h.labels]
    exact (hops o ho).elim (List.mem_append_right _) fun h1 => List.mem_append_left _ h1.1
  · -- the helpers go right below the gate
    have Rold : ∀ l ∈ c.labels, (if l ∈ p.H.map (·.label) then 2 * r g.label + 1 else 2 * r l + 2) = 2 * r l + 2 :=
      fun l hl => if_neg fun hm => hHl l hm hl
    refine ⟨fun l => if l ∈ p.H.map (·.label) then 2 * r g.label + 1 else 2 * r l + 2, fun z hz o ho => ?_⟩
    rw [hgates] at hz
    rcases List.mem_append.mp hz with hz | hz
    · rcases mem_map_replG_cases hz with ⟨hz0, _⟩ | rfl
      · have := hr z hz0 o ho
        simp only [Rold _ (hw.closed z hz0 o ho), Rold _ (mem_labels_of_mem hz0)]; omega
      · simp only [hgl, Rold _ hgL]
        rcases hops o ho with h1 | ⟨h1, h2⟩
        · simp only [h1, if_true]; omega
        · simp only [Rold _ h1]; omega
    · have := hHr z hz o ho
      simp only [List.mem_map_of_mem (f := (·.label)) hz, if_true, Rold _ ((hA z hz).2 o ho)]; omega
  · rw [h.users, hgates, contrib_append, contrib_replG hw.nodup hg hgl]
    by_cases hu : u = g.label
    · rw [if_pos hu, if_pos hu, hu, contrib_not_label hgH, hw.usersC l g hg, Nat.add_zero, hbal, Nat.add_zero]
    · rw [if_neg hu, if_neg hu, users_count_of_wfs hw]
  · obtain ⟨b, hb, hbi, hbg⟩ := h.blocks b' hb'
    obtain ⟨h1, h2⟩ := hw.blocksOK b hb
    rw [h.labels]
    exact ⟨fun l hl => (hbg l hl).elim (fun hl => List.mem_append_left _ (h1 l hl)) (List.mem_append_right _),
      fun l hl => List.mem_append_left _ (h2 l (hbi ▸ hl))⟩

/-- the hypotheses of `Rewired.wfs`, from the table; a constant is rewired to the first input, which some ranking puts
below every other gate -/
theorem convPlan_wfs {c : Circuit} {g : Gate} {k : Nat} {p : Rw} (hw : WFS c) (hg : g ∈ c.gates)
    (hbin : bt_isBin g.ty = true → g.ops.length = 2) (hp : convPlan c g k = .ok (some p)) :
    p.g'.label = g.label ∧ g.ty ≠ INPUT ∧ p.g'.ty ≠ INPUT ∧
    (∀ l, g.ops.count l - p.lost.count l + p.gained.count l = p.g'.ops.count l) ∧
    ∃ r : Label → Nat, (∀ x ∈ c.gates, ∀ o ∈ x.ops, r o < r x.label) ∧ (∀ x ∈ p.H, ∀ o ∈ x.ops, r o < r g.label) ∧
      ∀ o ∈ p.g'.ops, o ∈ p.H.map (·.label) ∨ (o ∈ c.labels ∧ r o < r g.label) := by
  have hbt := convKind_bt g.ty
  obtain ⟨r, hr⟩ := hw.rank
  unfold convPlan at hp
  cases hk : convKind g.ty with
  | keep => rw [hk] at hp; cases hp
  | neg tag idx ty =>
    obtain ⟨hd, hty, hne, hall, _⟩ := convKind_neg hk
    obtain ⟨x, y, hops⟩ := ops_pair (hbin (by rw [hk] at hbt; exact hbt.2.1))
    simp only [hk, hops, Except.ok.injEq, Option.some.injEq] at hp
    subst hp
    have hx := hr g hg x (by simp [hops])
    have hy := hr g hg y (by simp [hops])
    have hxl := hw.closed g hg x (by simp [hops])
    have hyl := hw.closed g hg y (by simp [hops])
    refine ⟨rfl, hne, hty.2.1, fun l => ?_, r, hr, ?_, ?_⟩
    · rw [hops]
      rcases hd with rfl | rfl <;> simp only [if_true, Nat.one_ne_zero, if_false, count_pair, count_single] <;> omega
    · intro z hz o ho
      rw [List.mem_singleton.mp hz] at ho
      rw [List.mem_singleton.mp ho]; split <;> assumption
    · intro o ho
      rcases hd with rfl | rfl <;> simp at ho <;> rcases ho with rfl | rfl <;> simp [Rw.H, *]
  | drop idx ty =>
    obtain ⟨hd, hty, hne, hall, _⟩ := convKind_drop hk
    obtain ⟨x, y, hops⟩ := ops_pair (hbin (by rw [hk] at hbt; exact hbt.2.1))
    simp only [hk, hops, Except.ok.injEq, Option.some.injEq] at hp
    subst hp
    refine ⟨rfl, hne, hty.2.1, fun l => ?_, r, hr, nofun, fun o ho => .inr ?_⟩
    · rw [hops]
      rcases hd with rfl | rfl <;> simp only [if_true, Nat.one_ne_zero, if_false, count_pair, count_single,
        List.count_nil] <;> omega
    · have : o ∈ g.ops := by rw [hops]; rcases hd with rfl | rfl <;> simp at ho <;> simp [ho]
      exact ⟨hw.closed g hg o this, hr g hg o this⟩
  | const tag ty =>
    obtain ⟨hty, hne, _⟩ := convKind_const hk
    rcases hi : c.inputs with _ | ⟨f, rest⟩
    · simp [hk, hi] at hp
    simp only [hk, hi, Except.ok.injEq, Option.some.injEq] at hp
    subst hp
    have hfin : f ∈ c.inputs := by simp [hi]
    obtain ⟨r, hrk, hlow⟩ := rank_input_low hw hfin
    obtain ⟨gf, hgf, hgfl, hgft⟩ := (hw.inputsOK f).mp hfin
    have hfg : f ≠ g.label := fun e => hne (gate_unique hw.nodup hg hgf (e.symm.trans hgfl.symm) ▸ hgft)
    have hrf := hlow g.label (mem_labels_of_mem hg) (Ne.symm hfg)
    refine ⟨rfl, hne, hty.2.1, fun l => by simp, r, hrk, ?_, ?_⟩
    · intro z hz o ho
      rw [List.mem_singleton.mp hz] at ho
      rwa [List.mem_singleton.mp ho]
    · intro o ho
      simp at ho
      rcases ho with rfl | rfl
      · exact .inr ⟨hgfl ▸ mem_labels_of_mem hgf, hrf⟩
      · simp [Rw.H]

theorem bin_exact {g : Gate} (har : g.ty ≠ INPUT → arityOk g.ty g.ops.length = true) (hb : bt_isBin g.ty = true) :
    g.ops.length = 2 := by
  have := har fun e => by rw [e] at hb; cases hb
  cases hty : g.ty <;> simp_all [bt_isBin, arityOk]

theorem convertGate_wfs_bin {c c1 : Circuit} {g : Gate} {k k1 : Nat} (hw : WFS c) (hg : g ∈ c.gates)
    (hbin : bt_isBin g.ty = true → g.ops.length = 2) (h : c.convertGate g k = .ok (c1, k1)) : WFS c1 := by
  obtain ⟨_, rfl, _⟩ | ⟨p, hp, hA, hR, _⟩ := convertGate_ok h
  · exact hw
  · obtain ⟨a1, a2, a3, a6, r, a7, a8, a9⟩ := convPlan_wfs hw hg hbin hp
    exact hR.wfs hw hg a1 a2 a3 hA r a7 a8 a9 a6

theorem intoBench_wfs_bin {c c' : Circuit} {k k' : Nat} (hw : WFS c)
    (hbin : ∀ g ∈ c.gates, bt_isBin g.ty = true → g.ops.length = 2)
    (h : c.intoBench k = .ok (c', k')) : WFS c' := by
  refine (foldlR_run convStep_error (ls := c.gates)
    (I := fun pre (s : Circuit × Nat) => WFS s.1 ∧ ∀ g ∈ c.gates, g.label ∉ pre.map (·.label) → g ∈ s.1.gates)
    (fun p a q s s' hL ⟨hws, hst⟩ hc => ?_) (b := (c, k)) ⟨hw, fun g hg _ => hg⟩ h).1
  have ha : a ∈ c.gates := hL ▸ List.mem_append_right _ List.mem_cons_self
  have hnd := hw.nodup
  rw [Circuit.labels, hL, List.map_append, List.map_cons] at hnd
  have hap : a.label ∉ p.map (·.label) := fun hm => (List.nodup_append.mp hnd).2.2 _ hm _ List.mem_cons_self rfl
  refine ⟨convertGate_wfs_bin hws (hst a ha hap) (hbin a ha) hc, fun g hg hn => ?_⟩
  rw [List.map_append, List.mem_append, not_or] at hn
  exact convertGate_stay hc g (hst g hg hn.1) fun e => hn.2 (by simp [e])

end Cirbo
