import Cirbo.Spec.WF
import Cirbo.Proofs.Lists
/-!
# The well-formedness predicates on `Circuit`, their conversions, the lemmas of the invariant `WFS`

`WF` and `WFU` (Spec/WF.lean) are the specification's notions; `WFG` is what Kahn's loop and the traversals need; `ArOK`
is the arity clause alone, `NL` what the loop of `into_bench` maintains.  C04 and C14 spell the arity clause
`g.ty ≠ INPUT → arityOk …` (`WFS.arOK` converts); `Frame` (for the gate added) and `Connect`, C10, C13 (for the gates of
the attached circuit) have `True` for an INPUT.
-/
namespace Cirbo
open GateType Circuit

theorem gate_of_label {c : Circuit} {l : Label} (hl : l ∈ c.labels) :
    ∃ g ∈ c.gates, g.label = l := by
  simpa [Circuit.labels] using hl

theorem gate_unique {c : Circuit} (h : c.labels.Nodup) {g g' : Gate} (hg : g ∈ c.gates)
    (hg' : g' ∈ c.gates) (e : g.label = g'.label) : g = g' :=
  nodup_map_inj (fun g => g.label) c.gates (by simpa [Circuit.labels] using h) g hg g' hg' e

theorem mem_labels_of_mem {c : Circuit} {g : Gate} (hg : g ∈ c.gates) : g.label ∈ c.labels := by
  simpa [Circuit.labels] using ⟨g, hg, rfl⟩

theorem find_label {c : Circuit} (h : c.labels.Nodup) {g : Gate} (hg : g ∈ c.gates) :
    c.find? g.label = some g := by
  unfold Circuit.find?
  cases hf : c.gates.find? (fun g' => g'.label == g.label) with
  | none =>
    have := List.find?_eq_none.mp hf g hg
    simp at this
  | some g' =>
    have hm := List.mem_of_find?_eq_some hf
    have hp := List.find?_some hf
    simp only [beq_iff_eq] at hp
    rw [gate_unique h hm hg hp]

theorem find_none {c : Circuit} {l : Label} (hl : l ∉ c.labels) : c.find? l = none := by
  unfold Circuit.find?
  apply List.find?_eq_none.mpr
  intro g hg hgl
  simp only [beq_iff_eq] at hgl
  exact hl (by simpa [Circuit.labels] using ⟨g, hg, hgl⟩)

theorem find_some_mem {c : Circuit} {l : Label} {g : Gate} (h : c.find? l = some g) :
    g ∈ c.gates ∧ g.label = l := by
  unfold Circuit.find? at h
  exact ⟨List.mem_of_find?_eq_some h, by simpa using List.find?_some h⟩

theorem gate_of_find_ty {c : Circuit} {l : Label} {t : GateType} (h : (c.find? l).map (·.ty) = some t) :
    ∃ g ∈ c.gates, g.label = l ∧ g.ty = t := by
  cases hf : c.find? l with
  | none => simp [hf] at h
  | some g => exact ⟨g, (find_some_mem hf).1, (find_some_mem hf).2, by simpa [hf] using h⟩

theorem ty_of_find_ty {c : Circuit} (hnd : c.labels.Nodup) {g : Gate} (hg : g ∈ c.gates) {t : GateType}
    (h : (c.find? g.label).map (·.ty) = some t) : g.ty = t := by
  rw [find_label hnd hg] at h
  exact Option.some.inj h

theorem hasGate_iff (c : Circuit) (l : Label) : c.hasGate l = true ↔ l ∈ c.labels := by
  unfold hasGate labels
  simp only [List.any_eq_true, beq_iff_eq, List.mem_map]

theorem hasGate_false_iff (c : Circuit) (l : Label) : c.hasGate l = false ↔ l ∉ c.labels := by
  rw [← hasGate_iff]; cases c.hasGate l <;> simp

theorem filterMap_find_labels {c : Circuit} : ∀ {ls : List Label}, (∀ l ∈ ls, ∃ g, c.find? l = some g) →
    (ls.filterMap c.find?).map (·.label) = ls
  | [], _ => rfl
  | l :: r, h => by
    obtain ⟨g, hg⟩ := h l (by simp)
    rw [List.filterMap_cons_some hg, List.map_cons, (find_some_mem hg).2,
      filterMap_find_labels fun l' hl' => h l' (by simp [hl'])]

structure WFG (c : Circuit) : Prop where
  nodup : c.labels.Nodup
  closed : ∀ g ∈ c.gates, ∀ o ∈ g.ops, o ∈ c.labels
  rank : ∃ r : Label → Nat, ∀ g ∈ c.gates, ∀ o ∈ g.ops, r o < r g.label
  usersL : ∀ l s, s ∈ c.usersOf l → s ∈ c.labels
  usersC : ∀ l, ∀ g ∈ c.gates, (c.usersOf l).count g.label = g.ops.count l

/-- the C02 invariant: `WFU` without the arity clause (`add_gate` accepts any operand count), plus "block labels
exist" and "INPUT gates have no operands" -/
structure WFS (c : Circuit) : Prop where
  nodup : c.labels.Nodup
  closed : ∀ g ∈ c.gates, ∀ o ∈ g.ops, o ∈ c.labels
  rank : ∃ r : Label → Nat, ∀ g ∈ c.gates, ∀ o ∈ g.ops, r o < r g.label
  inputsNodup : c.inputs.Nodup
  inputsOK : ∀ l, l ∈ c.inputs ↔ ∃ g ∈ c.gates, g.label = l ∧ g.ty = INPUT
  outputsOK : ∀ o ∈ c.outputs, o ∈ c.labels
  usersL : ∀ l s, s ∈ c.usersOf l → s ∈ c.labels
  usersC : ∀ l, ∀ g ∈ c.gates, (c.usersOf l).count g.label = g.ops.count l
  blocksOK : ∀ b ∈ c.blocks, (∀ l ∈ b.gates, l ∈ c.labels) ∧ (∀ l ∈ b.inputs, l ∈ c.labels)
  inputOps : ∀ g ∈ c.gates, g.ty = INPUT → g.ops = []

def ArOK (c : Circuit) : Prop := ∀ g ∈ c.gates, if g.ty = INPUT then g.ops = [] else arityOk g.ty g.ops.length = true

structure NL (c : Circuit) : Prop where
  nodup : c.labels.Nodup
  closed : ∀ g ∈ c.gates, ∀ o ∈ g.ops, o ∈ c.labels
  arity : ∀ g ∈ c.gates, if g.ty = INPUT then g.ops = [] else arityOk g.ty g.ops.length = true

theorem WFU.toWFG {c : Circuit} (h : WFU c) : WFG c := ⟨h.nodup, h.closed, h.rank, h.usersL, h.usersC⟩

theorem WFS.toWFG {c : Circuit} (h : WFS c) : WFG c := ⟨h.nodup, h.closed, h.rank, h.usersL, h.usersC⟩

theorem WFU.ofWFS {c : Circuit} (hw : WFS c) (har : ArOK c) : WFU c :=
  ⟨⟨hw.nodup, hw.closed, hw.rank, har, hw.inputsNodup, hw.inputsOK, hw.outputsOK⟩, hw.usersL, hw.usersC⟩

theorem WFS.nl {c : Circuit} (hw : WFS c) (har : ArOK c) : NL c := ⟨hw.nodup, hw.closed, har⟩

theorem WFS.arOK {c : Circuit} (hw : WFS c)
    (har : ∀ g ∈ c.gates, g.ty ≠ INPUT → arityOk g.ty g.ops.length = true) : ArOK c := fun g hg => by
  by_cases e : g.ty = INPUT
  · simp only [e, if_true]; exact hw.inputOps g hg e
  · simp only [e, if_false]; exact har g hg e

theorem WFS.input_label {c : Circuit} (hw : WFS c) {i : Label} (hi : i ∈ c.inputs) : i ∈ c.labels := by
  obtain ⟨g, hg, rfl, _⟩ := (hw.inputsOK i).mp hi
  exact mem_labels_of_mem hg

theorem WFS.gate_not_input {c : Circuit} (hw : WFS c) {g : Gate} (hg : g ∈ c.gates) (ht : g.ty ≠ INPUT) :
    g.label ∉ c.inputs := fun hin => by
  obtain ⟨g', hg', hgl', hty'⟩ := (hw.inputsOK g.label).mp hin
  exact ht (gate_unique hw.nodup hg' hg hgl' ▸ hty')

theorem WFS.inputGate_mem {c : Circuit} (hw : WFS c) {i : Label} (hi : i ∈ c.inputs) : ⟨i, INPUT, []⟩ ∈ c.gates := by
  obtain ⟨⟨l, t, o⟩, hg, rfl, rfl⟩ := (hw.inputsOK i).mp hi
  obtain rfl : o = [] := hw.inputOps _ hg rfl
  exact hg

theorem WFS.inputs_are_inputs {c : Circuit} (hw : WFS c) : ∀ l ∈ c.inputs, (c.find? l).map (·.ty) = some INPUT :=
  fun l hl => by rw [find_label hw.nodup (hw.inputGate_mem hl)]; rfl

/-- how often `l` is an operand of the gate(s) named `u` -/
def contrib (G : List Gate) (l u : Label) : Nat := ((G.filter (fun g => g.label = u)).map (fun g => g.ops.count l)).sum

theorem contrib_append (G H : List Gate) (l u : Label) : contrib (G ++ H) l u = contrib G l u + contrib H l u := by
  simp [contrib, List.filter_append, List.map_append, List.sum_append]

theorem contrib_nil (l u : Label) : contrib [] l u = 0 := rfl

theorem contrib_single (g : Gate) (l u : Label) : contrib [g] l u = if g.label = u then g.ops.count l else 0 := by
  unfold contrib
  by_cases h : g.label = u <;> simp [h]

theorem contrib_not_label {G : List Gate} {u : Label} (h : u ∉ G.map (·.label)) (l : Label) : contrib G l u = 0 := by
  have : G.filter (fun g => g.label = u) = [] :=
    List.filter_eq_nil_iff.mpr (fun g hg => by simpa using fun e => h (List.mem_map.mpr ⟨g, hg, e⟩))
  rw [contrib, this]; rfl

theorem contrib_of_mem {G : List Gate} (hnd : (G.map (·.label)).Nodup) {g : Gate} (hg : g ∈ G) (l : Label) :
    contrib G l g.label = g.ops.count l := by
  induction G with
  | nil => cases hg
  | cons x t ih =>
    simp only [List.map_cons, List.nodup_cons] at hnd
    rw [show x :: t = [x] ++ t from rfl, contrib_append, contrib_single]
    rcases List.mem_cons.mp hg with rfl | hg
    · rw [contrib_not_label hnd.1]; simp
    · have hne : x.label ≠ g.label := fun e => hnd.1 (e ▸ List.mem_map.mpr ⟨g, hg, rfl⟩)
      rw [if_neg hne, Nat.zero_add, ih hnd.2 hg]

theorem contrib_cons (x : Gate) (t : List Gate) (l u : Label) :
    contrib (x :: t) l u = (if x.label = u then x.ops.count l else 0) + contrib t l u := by
  rw [show x :: t = [x] ++ t from rfl, contrib_append, contrib_single]

/-- the users part of the invariant, as one equation: the index is the inverse operand multiset -/
def UsersOK (c : Circuit) : Prop := ∀ l u, (c.usersOf l).count u = contrib c.gates l u

theorem users_count_of_wfs {c : Circuit} (hw : WFS c) : UsersOK c := fun l u => by
  by_cases hu : u ∈ c.labels
  · obtain ⟨g, hg, rfl⟩ := List.mem_map.mp hu
    rw [contrib_of_mem hw.nodup hg]
    exact hw.usersC l g hg
  · rw [contrib_not_label hu]
    exact List.count_eq_zero.mpr (fun hm => hu (hw.usersL l u hm))

theorem users_of_count {c : Circuit} (hnd : c.labels.Nodup) (h : UsersOK c) :
    (∀ l s, s ∈ c.usersOf l → s ∈ c.labels) ∧ (∀ l, ∀ g ∈ c.gates, (c.usersOf l).count g.label = g.ops.count l) := by
  refine ⟨fun l s hs => Classical.byContradiction fun hn => ?_, fun l g hg => by rw [h l g.label, contrib_of_mem hnd hg]⟩
  have := h l s
  rw [contrib_not_label hn] at this
  exact List.count_eq_zero.mp this hs

theorem mem_users_iff {c : Circuit} (hC : ∀ l, ∀ g ∈ c.gates, (c.usersOf l).count g.label = g.ops.count l)
    {x : Gate} (hx : x ∈ c.gates) (l : Label) : x.label ∈ c.usersOf l ↔ l ∈ x.ops := by
  rw [← List.count_pos_iff, ← List.count_pos_iff, hC l x hx]

theorem not_mem_own_ops {c : Circuit} (hw : WFS c) {g : Gate} (hg : g ∈ c.gates) : g.label ∉ g.ops := by
  obtain ⟨r, hr⟩ := hw.rank
  exact fun hm => Nat.lt_irrefl _ (hr g hg g.label hm)

theorem WFS.withOutputs {c : Circuit} (hw : WFS c) {outs : List Label} (h : ∀ o ∈ outs, o ∈ c.labels) :
    WFS { c with outputs := outs } :=
  ⟨hw.nodup, hw.closed, hw.rank, hw.inputsNodup, hw.inputsOK, h, hw.usersL, hw.usersC, hw.blocksOK, hw.inputOps⟩

theorem WFS.withInputs {c : Circuit} (hw : WFS c) {ins : List Label} (hnd : ins.Nodup)
    (h : ∀ l, l ∈ ins ↔ l ∈ c.inputs) : WFS { c with inputs := ins } :=
  ⟨hw.nodup, hw.closed, hw.rank, hnd, fun l => (h l).trans (hw.inputsOK l), hw.outputsOK, hw.usersL, hw.usersC,
    hw.blocksOK, hw.inputOps⟩

theorem WFS.withBlocks {c : Circuit} (hw : WFS c) {bs : List Block}
    (h : ∀ b ∈ bs, (∀ l ∈ b.gates, l ∈ c.labels) ∧ (∀ l ∈ b.inputs, l ∈ c.labels)) : WFS { c with blocks := bs } :=
  ⟨hw.nodup, hw.closed, hw.rank, hw.inputsNodup, hw.inputsOK, hw.outputsOK, hw.usersL, hw.usersC, h, hw.inputOps⟩

theorem WFS.appendBlock {c : Circuit} (hw : WFS c) {b : Block} (hg : ∀ l ∈ b.gates, l ∈ c.labels)
    (hi : ∀ l ∈ b.inputs, l ∈ c.labels) : WFS { c with blocks := c.blocks ++ [b] } :=
  hw.withBlocks fun b' hb => (List.mem_append.mp hb).elim (hw.blocksOK b') fun hb => List.mem_singleton.mp hb ▸ ⟨hg, hi⟩

theorem wfs_empty : WFS Circuit.empty :=
  ⟨List.nodup_nil, nofun, ⟨fun _ => 0, nofun⟩, List.nodup_nil, fun _ => ⟨nofun, fun ⟨_, h, _⟩ => nomatch h⟩, nofun, nofun,
    nofun, nofun, nofun⟩

theorem usersOf_nonlabel {c : Circuit} (hw : WFS c) {l : Label} (hl : l ∉ c.labels) : c.usersOf l = [] := by
  refine List.eq_nil_iff_forall_not_mem.mpr fun s hs => ?_
  obtain ⟨x, hx, rfl⟩ := List.mem_map.mp (hw.usersL l s hs)
  exact hl (hw.closed x hx l ((mem_users_iff hw.usersC hx l).mp hs))

end Cirbo
