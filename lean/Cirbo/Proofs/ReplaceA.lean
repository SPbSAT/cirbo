import Cirbo.Proofs.Rename
/-!
# `replace_subcircuit` stage by stage (renames, outside users, slice): what holds when a stage succeeds, and
that it fails only with an error of `re_Raised`
-/
namespace Cirbo
open GateType Circuit

/-- the errors `replace_subcircuit` can produce on a well-formed host circuit (`GateHasUsersError`
is not among them) -/
def re_Raised (e : String) : Prop :=
  e ∈ ["ReplaceSubcircuitError", "GateDoesntExistError", "CircuitGateIsAbsentError",
       "CircuitGateAlreadyExistsError", "CircuitValidationError", "CreateBlockError",
       "DeleteBlockError", "CircuitIsCyclicalError"]

namespace re_Raised
theorem replaceSubcircuit : re_Raised "ReplaceSubcircuitError" := by simp [re_Raised]
theorem gateDoesntExist : re_Raised "GateDoesntExistError" := by simp [re_Raised]
theorem gateIsAbsent : re_Raised "CircuitGateIsAbsentError" := by simp [re_Raised]
theorem gateAlreadyExists : re_Raised "CircuitGateAlreadyExistsError" := by simp [re_Raised]
theorem validation : re_Raised "CircuitValidationError" := by simp [re_Raised]
theorem createBlock : re_Raised "CreateBlockError" := by simp [re_Raised]
theorem deleteBlock : re_Raised "DeleteBlockError" := by simp [re_Raised]
theorem cyclical : re_Raised "CircuitIsCyclicalError" := by simp [re_Raised]
end re_Raised

/-- `r` returns a value with `P`, or fails with an error of `re_Raised` -/
def Stage {α : Type} (P : α → Prop) : R α → Prop
  | .ok a => P a
  | .error e => re_Raised e

theorem Stage.of_ok {α : Type} {P : α → Prop} {r : R α} {a : α} (h : Stage P r) (hr : r = .ok a) : P a := by
  subst hr; exact h

theorem Stage.of_error {α : Type} {P : α → Prop} {r : R α} {e : String} (h : Stage P r) (hr : r = .error e) :
    re_Raised e := by
  subst hr; exact h

theorem Stage.mono {α : Type} {P Q : α → Prop} (hPQ : ∀ a, P a → Q a) : ∀ {r : R α}, Stage P r → Stage Q r
  | .ok a, h => hPQ a h
  | .error _, h => h

/-- for the model's `match r with | .error e => .error e | .ok a => …`; in a `Stage` goal the error case is `fun _ => id` -/
@[elab_as_elim]
theorem Stage.elim {α : Type} {P : α → Prop} {motive : R α → Prop} {r : R α} (h : Stage P r)
    (error : ∀ e, re_Raised e → motive (.error e)) (ok : ∀ a, P a → motive (.ok a)) : motive r := by
  cases r with
  | ok a => exact ok a h
  | error e => exact error e h

theorem Stage.foldl {α β : Type} {step : R β → α → R β} (hstep : ∀ e a, step (.error e) a = .error e)
    {I : List α → β → Prop} (hI : ∀ pre a b, I pre b → Stage (I (pre ++ [a])) (step (.ok b) a))
    {ls : List α} {b : β} (h0 : I [] b) : Stage (I ls) (ls.foldl step (.ok b)) := by
  have := foldlR_inv hstep (I := I) (fun pre a _ b _ _ hb hs => (hI pre a b hb).of_ok hs) ls [] b rfl h0
  cases h : ls.foldl step (.ok b) with
  | ok b' => rwa [h] at this
  | error e =>
    rw [h] at this
    obtain ⟨pre, a, b', hb, hs⟩ := this
    exact (hI pre a b' hb).of_error hs

theorem checkGatesExist_stage (c : Circuit) (ls : List Label) :
    Stage (fun _ => ∀ l ∈ ls, l ∈ c.labels) (c.checkGatesExist ls) := by
  cases h : c.checkGatesExist ls with
  | error e => exact checkGatesExist_err h ▸ re_Raised.validation
  | ok _ => exact checkGatesExist_ok_iff.mp h

theorem makeBlock_stage (c : Circuit) (name : Label) (gs outs ins : List Label) :
    Stage (fun c' => c' = { c with blocks := c.blocks ++ [⟨name, ins, gs, outs⟩] } ∧ (WFS c → WFS c'))
      (c.makeBlock name gs outs (some ins)) := by
  unfold makeBlock
  apply R.elim_ite (fun _ => re_Raised.validation)
  intro _
  refine (checkGatesExist_stage c gs).elim (fun _ => id) fun _ hg => ?_
  refine (checkGatesExist_stage c outs).elim (fun _ => id) fun _ _ => ?_
  dsimp only
  refine (checkGatesExist_stage c ins).elim (fun _ => id) fun _ hi => ?_
  exact ⟨rfl, fun hw => hw.appendBlock hg hi⟩

/-- `renStep`, `addUsersStep`, `collectStep`, `collectOuter` and `addStepR` are the lambdas of the model's
`replaceSubcircuit` under a name (identified by unfolding in `replaceSubcircuit_outcome`) -/
def renStep : R Circuit → Label × Label → R Circuit := fun acc p => match acc with
  | .error e => .error e
  | .ok cc => if p.1 != p.2 then cc.renameGate p.1 p.2 else .ok cc

theorem renStep_error (e : String) (p : Label × Label) : renStep (.error e) p = .error e := rfl

theorem renStep_stage {cc : Circuit} (hw : WFS cc) (p : Label × Label) : Stage WFS (renStep (.ok cc) p) := by
  simp only [renStep]
  split
  · rcases renameGate_outcome hw p.1 p.2 with ⟨_, he⟩ | ⟨_, _, he⟩ | ⟨_, _, _, _, _, he, _⟩ <;> rw [he]
    · exact .gateIsAbsent
    · exact .gateAlreadyExists
    · exact renameGate_wfs hw he
  · exact hw

theorem renFold_stage {ps : List (Label × Label)} {cc : Circuit} (hw : WFS cc) :
    Stage WFS (ps.foldl renStep (.ok cc)) :=
  Stage.foldl renStep_error (I := fun _ => WFS) (fun _ p _ hw => renStep_stage hw p) hw

/-- `f`: new ↦ old names, `σ`: old ↦ new names. `σ` is injective on the labels: dict keys are distinct, and a second
rename to the same name would find it taken. -/
theorem renFold_sem : ∀ (ps : List (Label × Label)) (cc c1 : Circuit), WFS cc → (ps.map (·.1)).Nodup →
    (∀ k ∈ ps.map (·.1), k ∈ cc.labels) → ps.foldl renStep (.ok cc) = .ok c1 →
    ∃ f σ : Label → Label,
      (∀ b v, IsValB cc b v → IsValB c1 (b ∘ f) (v ∘ f) ∧ c1.outputs.map (v ∘ f) = cc.outputs.map v) ∧
      c1.inputs.map f = cc.inputs ∧
      (∀ b1 v1, IsValB c1 b1 v1 → IsValB cc (b1 ∘ σ) (v1 ∘ σ)) ∧
      (∀ p ∈ ps, σ p.1 = p.2) ∧ (∀ l, l ∉ ps.map (·.1) → σ l = l) ∧
      c1.inputs = cc.inputs.map σ ∧ (∀ a b, a ∈ cc.labels → b ∈ cc.labels → σ a = σ b → a = b) := by
  intro ps
  induction ps with
  | nil =>
    intro cc c1 hw _ _ h
    simp at h; subst h
    exact ⟨id, id, fun b v hv => ⟨hv, rfl⟩, by simp, fun b v hv => hv, by simp, by simp, by simp,
      fun a b _ _ h => h⟩
  | cons p rest ih =>
    obtain ⟨k, v⟩ := p
    intro cc c1 hw hnd hk h
    simp only [List.map_cons, List.nodup_cons] at hnd
    obtain ⟨cc', hr, hrest⟩ := foldlR_cons_ok renStep_error h
    simp only [renStep, bne_iff_ne, ne_eq, ite_not] at hr
    split at hr
    · rename_i hkv
      cases hr; subst hkv
      obtain ⟨f, σ, h1, h2, h3, h4, h5, h6, h7⟩ := ih cc c1 hw hnd.2 (fun x hx => hk x (by simp [hx])) hrest
      exact ⟨f, σ, h1, h2, h3, List.forall_mem_cons.mpr ⟨h5 k hnd.1, h4⟩,
        fun l hl => h5 l fun h => hl (List.mem_cons_of_mem _ h), h6, h7⟩
    · obtain ⟨hren, hkin, hvnot⟩ := renameGate_renamed hw hr
      obtain ⟨lab1, _⟩ := renamed_labels hren
      have keep : ∀ l ∈ cc.labels, l ≠ k → l ∈ cc'.labels := by
        intro l hl hne
        have := lab1 l hl
        simpa [rho, hne] using this
      have hk' : ∀ x ∈ rest.map (·.1), x ∈ cc'.labels := by
        intro x hx
        exact keep x (hk x (by simp [hx])) (fun e => hnd.1 (e ▸ hx))
      have hvk : v ∉ rest.map (·.1) := fun hm => hvnot (hk v (by simp [hm]))
      obtain ⟨f, σ, h1, h2, h3, h4, h5, h6, h7⟩ := ih cc' c1 (renameGate_wfs hw hr) hnd.2 hk' hrest
      have hne : ∀ l ∈ cc.labels, l ≠ v := fun l hl e => hvnot (e ▸ hl)
      refine ⟨rhoInv k v ∘ f, σ ∘ rho k v, ?_, ?_, ?_, ?_, ?_, ?_, ?_⟩
      · intro b vv hv
        obtain ⟨a1, a2⟩ := renamed_val hw hvnot hren hv
        obtain ⟨b1, b2⟩ := h1 _ _ a1
        exact ⟨b1, by rw [← a2, ← b2]; rfl⟩
      · rw [← List.map_map, h2, hren.inputs, List.map_map]
        have : ∀ l ∈ cc.inputs, (rhoInv k v ∘ rho k v) l = l := by
          intro l hl
          obtain ⟨g, hg, hgl, _⟩ := (hw.inputsOK l).mp hl
          have : l ≠ v := fun e => hvnot (by rw [← e, ← hgl]; exact mem_labels_of_mem hg)
          simp only [Function.comp, rhoInv_rho this]
        rw [List.map_congr_left this]; simp
      · intro b1 v1 hv1
        exact renamed_val_back hren (h3 b1 v1 hv1)
      · refine List.forall_mem_cons.mpr ⟨?_, fun p hp => ?_⟩
        · simp only [Function.comp, rho, if_true]
          exact h5 v hvk
        · have hne : p.1 ≠ k := fun e => hnd.1 (by rw [← e]; exact List.mem_map_of_mem hp)
          simp only [Function.comp, rho, hne, if_false]
          exact h4 p hp
      · intro l hl
        simp only [List.map_cons, List.mem_cons, not_or] at hl
        simp only [Function.comp, rho, hl.1, if_false]
        exact h5 l hl.2
      · rw [h6, hren.inputs, List.map_map]
      · intro a b ha hb hab
        simp only [Function.comp] at hab
        have := h7 _ _ (lab1 a ha) (lab1 b hb) hab
        exact rho_inj (hne a ha) (hne b hb) this

theorem renFold_vals_nodup {ps : List (Label × Label)} {cc c1 : Circuit} (hw : WFS cc)
    (hnd : (ps.map (·.1)).Nodup) (hk : ∀ k ∈ ps.map (·.1), k ∈ cc.labels)
    (h : ps.foldl renStep (.ok cc) = .ok c1) : (ps.map (·.2)).Nodup := by
  obtain ⟨_, σ, _, _, _, h4, _, _, h7⟩ := renFold_sem ps cc c1 hw hnd hk h
  have : ps.map (·.2) = (ps.map (·.1)).map σ := by
    rw [List.map_map]; exact List.map_congr_left (fun p hp => (h4 p hp).symm)
  rw [this, List.Nodup, List.pairwise_map]
  exact hnd.imp_of_mem (fun ha hb hne hab => hne (h7 _ _ (hk _ ha) (hk _ hb) hab))

def addUsersStep : Circuit → Label × List Label → Circuit := fun cc p =>
  { cc with users := Dict.set cc.users p.1 ((Dict.get? cc.users p.1).getD [] ++ p.2) }

theorem addUsersFold_fields : ∀ (d : Dict (List Label)) (cc : Circuit),
    (d.foldl addUsersStep cc).gates = cc.gates ∧ (d.foldl addUsersStep cc).inputs = cc.inputs ∧
    (d.foldl addUsersStep cc).outputs = cc.outputs ∧ (d.foldl addUsersStep cc).blocks = cc.blocks
  | [], _ => ⟨rfl, rfl, rfl, rfl⟩
  | p :: r, cc => addUsersFold_fields r (addUsersStep cc p)

theorem addUsersFold_users : ∀ (d : Dict (List Label)) (cc : Circuit), (d.map (·.1)).Nodup →
    ∀ l, (d.foldl addUsersStep cc).usersOf l = cc.usersOf l ++ (Dict.get? d l).getD []
  | [], cc, _, l => by simp [Dict.get?]
  | (a, b) :: r, cc, hnd, l => by
    simp only [List.map_cons, List.nodup_cons] at hnd
    rw [List.foldl_cons, addUsersFold_users r _ hnd.2 l, usersOf_eq, usersOf_eq]
    simp only [addUsersStep, Dict.get?_set, Dict.get?]
    by_cases hl : l = a
    · subst hl
      have : Dict.get? r l = none := by
        rw [← lookup_eq_get?, List.lookup_eq_none_iff]
        exact fun p hp => bne_iff_ne.mpr fun he => hnd.1 (he ▸ List.mem_map_of_mem hp)
      simp [this]
    · simp [hl]

def collectStep (S : List Label) (ol : Label) : Dict (List Label) → Label → Dict (List Label) := fun d u =>
  if S.contains u then d else Dict.set d ol ((Dict.get? d ol).getD [] ++ [u])

theorem collect_spec (S : List Label) (ol : Label) : ∀ (us : List Label) (d : Dict (List Label)),
    (d.map (·.1)).Nodup →
    ((us.foldl (collectStep S ol) d).map (·.1)).Nodup ∧
    ∀ l, (Dict.get? (us.foldl (collectStep S ol) d) l).getD [] =
      (Dict.get? d l).getD [] ++ (if l = ol then us.filter (fun u => !S.contains u) else [])
  | [], d, hnd => ⟨hnd, fun l => by split <;> simp⟩
  | u :: r, d, hnd => by
    have hnd' : ((collectStep S ol d u).map (·.1)).Nodup := by
      unfold collectStep
      split
      · exact hnd
      · exact nodupKeys_set _ _ _ hnd
    obtain ⟨a, b⟩ := collect_spec S ol r _ hnd'
    refine ⟨a, fun l => ?_⟩
    rw [List.foldl_cons, b l]
    unfold collectStep
    by_cases hu : u ∈ S <;> by_cases hl : l = ol <;> simp [hu, hl, Dict.get?_set]

def collectOuter (c : Circuit) (S : List Label) : Dict (List Label) → Label → Dict (List Label) := fun d ol =>
  (c.usersOf ol).foldl (collectStep S ol) d

theorem collectOuter_spec (c : Circuit) (S : List Label) : ∀ (outs : List Label) (d : Dict (List Label)),
    outs.Nodup → (d.map (·.1)).Nodup →
    ((outs.foldl (collectOuter c S) d).map (·.1)).Nodup ∧
    ∀ l, (Dict.get? (outs.foldl (collectOuter c S) d) l).getD [] =
      (Dict.get? d l).getD [] ++ (if l ∈ outs then (c.usersOf l).filter (fun u => !S.contains u) else [])
  | [], d, _, hnd => ⟨hnd, by simp⟩
  | ol :: r, d, hout, hnd => by
    simp only [List.nodup_cons] at hout
    obtain ⟨n1, g1⟩ := collect_spec S ol (c.usersOf ol) d hnd
    obtain ⟨a, b⟩ := collectOuter_spec c S r (collectOuter c S d ol) hout.2 n1
    refine ⟨a, fun l => ?_⟩
    rw [List.foldl_cons, b l, collectOuter, g1 l]
    by_cases hl : l = ol
    · subst hl; simp [hout.1]
    · simp [hl]

theorem mem_dedup (x : Label) : ∀ ls : List Label, x ∈ dedup ls ↔ x ∈ ls
  | [] => by simp [dedup]
  | a :: r => by
    unfold dedup
    split
    · rename_i h
      have : a ∈ r := by simpa using h
      rw [mem_dedup x r, List.mem_cons]
      exact ⟨.inr, fun h => h.elim (· ▸ this) id⟩
    · simp [mem_dedup x r]

/-- `gs'` is `gs` and some more gates of `c` that are not INPUTs -/
def SliceExt (c : Circuit) (gs gs' : List Label) : Prop :=
  (∀ x ∈ gs, x ∈ gs') ∧ ∀ x ∈ gs', x ∈ gs ∨ ∃ og, c.find? x = some og ∧ og.ty ≠ INPUT

theorem SliceExt.refl (c : Circuit) (gs : List Label) : SliceExt c gs gs := ⟨fun _ h => h, fun _ h => .inl h⟩

theorem SliceExt.trans {c : Circuit} {gs g1 g2 : List Label} (h1 : SliceExt c gs g1) (h2 : SliceExt c g1 g2) :
    SliceExt c gs g2 :=
  ⟨fun x hx => h2.1 x (h1.1 x hx), fun x hx => (h2.2 x hx).elim (h1.2 x) .inr⟩

theorem sliceLoop_spec (c : Circuit) (ins : List Label) : ∀ (fuel : Nat) (gs q : List Label),
    Stage (SliceExt c gs) (sliceLoop c ins fuel gs q)
  | 0, gs, q => SliceExt.refl c gs
  | n + 1, gs, q => by
    unfold sliceLoop
    cases q.getLast? with
    | none => exact SliceExt.refl c gs
    | some cur =>
      dsimp only
      cases c.find? cur with
      | none => exact re_Raised.gateDoesntExist
      | some g =>
        dsimp only
        refine (Stage.foldl (fun _ _ => rfl) (I := fun _ p => SliceExt c gs p.1) (fun _ o p hp => ?_)
          (SliceExt.refl c gs)).elim (fun _ => id) fun p hp => (sliceLoop_spec c ins n p.1 p.2).mono fun _ => hp.trans
        refine Stage.mono (P := fun p' : List Label × List Label => SliceExt c p.1 p'.1) (fun _ => hp.trans) ?_
        dsimp only
        split
        · exact SliceExt.refl c p.1
        split
        · exact re_Raised.gateDoesntExist
        rename_i og hf
        split
        · exact re_Raised.createBlock
        rename_i hty
        split
        · exact SliceExt.refl c p.1
        refine ⟨fun x hx => List.mem_append_left _ hx, fun x hx => ?_⟩
        rcases List.mem_append.mp hx with h | h
        · exact .inl h
        · rw [List.mem_singleton.mp h]; exact .inr ⟨og, hf, hty⟩

theorem makeBlockFromSlice_spec (c : Circuit) (name : Label) (ins outs : List Label) :
    Stage (fun c' => (WFS c → WFS c') ∧ ∃ gs, c' = { c with blocks := c.blocks ++ [⟨name, ins, gs, outs⟩] } ∧
        c.blocks.any (fun b => b.name == name) = false ∧ (∀ o ∈ outs, ins.contains o = false → o ∈ gs) ∧
        (∀ x ∈ gs, x ∈ outs ∨ ∃ og, c.find? x = some og ∧ og.ty ≠ INPUT))
      (c.makeBlockFromSlice name ins outs) := by
  unfold makeBlockFromSlice
  apply R.elim_ite (fun _ => re_Raised.validation)
  intro hnb
  refine (checkGatesExist_stage c ins).elim (fun _ => id) fun _ _ => ?_
  refine (checkGatesExist_stage c outs).elim (fun _ => id) fun _ _ => ?_
  dsimp only
  have hmem : ∀ x, x ∈ (dedup (outs.filter (fun o => !ins.contains o))).reverse ↔
      x ∈ outs ∧ ins.contains x = false := by
    intro x; rw [List.mem_reverse, mem_dedup, List.mem_filter]; simp
  generalize (dedup (outs.filter (fun o => !ins.contains o))).reverse = g0 at hmem ⊢
  refine (sliceLoop_spec c ins (c.gates.length * (c.gates.length + 2) + 2) g0 g0).elim (fun _ => id) fun gs hs => ?_
  dsimp only
  exact (makeBlock_stage c name gs outs ins).mono fun c' hc' =>
    ⟨hc'.2, gs, hc'.1, by simpa using hnb, fun o ho hoi => hs.1 o ((hmem o).mpr ⟨ho, hoi⟩),
      fun x hx => (hs.2 x hx).imp (fun h => ((hmem x).mp h).1) id⟩

theorem makeBlockFromSlice_wfs {c c' : Circuit} {name : Label} {ins outs : List Label} (hw : WFS c)
    (h : c.makeBlockFromSlice name ins outs = .ok c') : WFS c' :=
  ((makeBlockFromSlice_spec c name ins outs).of_ok h).1 hw

end Cirbo
