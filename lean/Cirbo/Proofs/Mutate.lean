import Cirbo.Model.Mutate2
import Cirbo.Proofs.FoldR
import Cirbo.Proofs.Graph
import Cirbo.Proofs.DictLemmas
/-!
# Structural well-formedness is an invariant of the public mutators (C02)

The primitive edits (`_add_user`, `_remove_user`, setting and appending a gate) get their field equations here, once;
the invariant sees the users index only through counts, so the edits are stated in counts.
-/
namespace Cirbo
open GateType Circuit

/-- `c'` is `c` with another users index -/
structure SameNet (c c' : Circuit) : Prop where
  gates : c'.gates = c.gates
  inputs : c'.inputs = c.inputs
  outputs : c'.outputs = c.outputs
  blocks : c'.blocks = c.blocks

theorem SameNet.refl (c : Circuit) : SameNet c c := ⟨rfl, rfl, rfl, rfl⟩

theorem SameNet.trans {a b c : Circuit} (h1 : SameNet a b) (h2 : SameNet b c) : SameNet a c :=
  ⟨h2.gates.trans h1.gates, h2.inputs.trans h1.inputs, h2.outputs.trans h1.outputs, h2.blocks.trans h1.blocks⟩

theorem SameNet.labels {c c' : Circuit} (h : SameNet c c') : c'.labels = c.labels :=
  congrArg (List.map Gate.label) h.gates

theorem addUser_sameNet (c : Circuit) (l u : Label) : SameNet c (c.addUser l u) := by
  unfold addUser; split <;> exact ⟨rfl, rfl, rfl, rfl⟩

theorem removeUser_sameNet (c : Circuit) (l u : Label) : SameNet c (c.removeUser l u) := by
  unfold removeUser; split
  · exact .refl c
  · split <;> exact ⟨rfl, rfl, rfl, rfl⟩

theorem foldl_sameNet {α : Type} {f : Circuit → α → Circuit} (hf : ∀ c a, SameNet c (f c a)) :
    ∀ (xs : List α) (c : Circuit), SameNet c (xs.foldl f c)
  | [], c => .refl c
  | a :: xs, c => (hf c a).trans (foldl_sameNet hf xs (f c a))

theorem foldl_addUser_sameNet (ops : List Label) (c : Circuit) (u : Label) :
    SameNet c (ops.foldl (fun c o => c.addUser o u) c) := foldl_sameNet (fun c o => addUser_sameNet c o u) ops c

theorem foldl_removeUser_sameNet (ops : List Label) (c : Circuit) (u : Label) :
    SameNet c (ops.foldl (fun c o => c.removeUser o u) c) :=
  foldl_sameNet (fun c o => removeUser_sameNet c o u) ops c

/-- `setGate`, and the replacement of an INPUT by a constant, map this over the gate list -/
def replG (g' : Gate) (x : Gate) : Gate := if x.label == g'.label then g' else x

theorem labels_map_replG (G : List Gate) (g' : Gate) : (G.map (replG g')).map (·.label) = G.map (·.label) := by
  rw [List.map_map]
  apply List.map_congr_left
  intro x _
  by_cases e : x.label = g'.label <;> simp [replG, e]

theorem mem_map_replG_cases {G : List Gate} {g' y : Gate} (hy : y ∈ G.map (replG g')) :
    (y ∈ G ∧ y.label ≠ g'.label) ∨ y = g' := by
  obtain ⟨x, hx, rfl⟩ := List.mem_map.mp hy
  by_cases e : x.label = g'.label <;> simp [replG, e, hx]

theorem mem_map_replG_of_ne {G : List Gate} {g' g2 : Gate} (h : g2 ∈ G) (hne : g2.label ≠ g'.label) :
    g2 ∈ G.map (replG g') :=
  List.mem_map.mpr ⟨g2, h, by simp [replG, hne]⟩

theorem mem_replG_self {G : List Gate} {g' : Gate} (h : g'.label ∈ G.map (·.label)) : g' ∈ G.map (replG g') := by
  obtain ⟨x, hx, hxl⟩ := List.mem_map.mp h
  exact List.mem_map.mpr ⟨x, hx, by unfold replG; rw [if_pos (by simpa using hxl)]⟩

theorem map_replG_append {G H : List Gate} {g' : Gate} (h : g'.label ∉ H.map (·.label)) :
    (G ++ H).map (replG g') = G.map (replG g') ++ H := by
  rw [List.map_append]
  congr 1
  conv => rhs; rw [← List.map_id H]
  exact List.map_congr_left fun x hx => by
    have : x.label ≠ g'.label := fun e => h (e ▸ List.mem_map.mpr ⟨x, hx, rfl⟩)
    simp [replG, this]

theorem setGate_fields (c : Circuit) (g' : Gate) : (c.setGate g').gates = c.gates.map (replG g') ∧
    (c.setGate g').inputs = c.inputs ∧ (c.setGate g').outputs = c.outputs := ⟨rfl, rfl, rfl⟩

theorem setGate_usersOf (c : Circuit) (g : Gate) (l : Label) : (c.setGate g).usersOf l = c.usersOf l := rfl

theorem addToBlocks_fields (c : Circuit) (a b : Label) : (c.addToBlocks a b).gates = c.gates ∧
    (c.addToBlocks a b).inputs = c.inputs ∧ (c.addToBlocks a b).outputs = c.outputs := ⟨rfl, rfl, rfl⟩

theorem usersOf_eq (c : Circuit) (l : Label) : c.usersOf l = (Dict.get? c.users l).getD [] := by
  unfold usersOf; rw [lookup_eq_get?]

theorem usersOf_addUser (c : Circuit) (x u l : Label) :
    (c.addUser x u).usersOf l = if l = x then c.usersOf l ++ [u] else c.usersOf l := by
  rw [usersOf_eq, usersOf_eq]
  unfold addUser
  by_cases hl : l = x <;> cases h : Dict.get? c.users x <;> simp [Dict.get?_set, hl, h]

theorem usersOf_removeUser (c : Circuit) (x u l : Label) :
    (c.removeUser x u).usersOf l = if l = x then (c.usersOf l).erase u else c.usersOf l := by
  rw [usersOf_eq, usersOf_eq]
  unfold removeUser
  cases h : Dict.get? c.users x with
  | none => by_cases hl : l = x <;> simp [hl, h]
  | some us =>
    by_cases hc : u ∈ us <;> by_cases hl : l = x <;>
      simp [Dict.get?_set, hc, hl, h, List.erase_of_not_mem]

theorem count_usersOf_addUser (c : Circuit) (x w l u : Label) :
    ((c.addUser x w).usersOf l).count u = (c.usersOf l).count u + (if l = x ∧ u = w then 1 else 0) := by
  rw [usersOf_addUser]
  by_cases hl : l = x <;> simp [hl, count_single, eq_comm (a := w)]

theorem count_usersOf_removeUser (c : Circuit) (x w l u : Label) :
    ((c.removeUser x w).usersOf l).count u = (c.usersOf l).count u - (if l = x ∧ u = w then 1 else 0) := by
  rw [usersOf_removeUser]
  by_cases hl : l = x <;> simp [hl, List.count_erase, eq_comm (a := w)]

theorem count_usersOf_foldl_removeUser (w : Label) : ∀ (ops : List Label) (c : Circuit) (l u : Label),
    ((ops.foldl (fun c o => c.removeUser o w) c).usersOf l).count u =
      (c.usersOf l).count u - (if u = w then ops.count l else 0)
  | [], c, l, u => by simp
  | o :: r, c, l, u => by
    rw [List.foldl_cons, count_usersOf_foldl_removeUser w r, count_usersOf_removeUser, List.count_cons]
    by_cases hu : u = w <;> by_cases hl : l = o <;> simp [hu, hl, eq_comm (a := o)] <;> omega

theorem usersOf_foldl_addUser (ops : List Label) (c : Circuit) (u l : Label) :
    (ops.foldl (fun c o => c.addUser o u) c).usersOf l = c.usersOf l ++ List.replicate (ops.count l) u := by
  induction ops generalizing c with
  | nil => simp
  | cons o r ih =>
    rw [List.foldl_cons, ih, usersOf_addUser, List.count_cons]
    by_cases h : o = l
    · simp [h, List.replicate_succ]
    · simp [h, Ne.symm h]

theorem checkGatesExist_ok_iff {c : Circuit} {ls : List Label} :
    c.checkGatesExist ls = .ok () ↔ ∀ l ∈ ls, l ∈ c.labels := by
  unfold checkGatesExist
  simp only [← hasGate_iff, ← List.all_eq_true]
  cases ls.all c.hasGate <;> simp

theorem checkGatesExist_err {c : Circuit} {ls : List Label} {e : String} (h : c.checkGatesExist ls = .error e) :
    e = "CircuitValidationError" := by
  unfold checkGatesExist at h
  split at h
  · cases h
  · exact (Except.error.inj h).symm

theorem addGate_ok_iff {c c' : Circuit} {g : Gate} :
    c.addGate g = .ok c' ↔ g.label ∉ c.labels ∧ (∀ o ∈ g.ops, o ∈ c.labels) ∧ c' = c.rawAddGate g := by
  have hall : g.ops.all c.hasGate = true ↔ ∀ o ∈ g.ops, o ∈ c.labels := by
    simp only [List.all_eq_true, hasGate_iff]
  unfold addGate checkGatesExist
  rw [← hall, ← hasGate_iff]
  cases c.hasGate g.label <;> cases g.ops.all c.hasGate <;> simp [eq_comm]

theorem addGate_err {c : Circuit} {g : Gate} {e : String} (h : c.addGate g = .error e) :
    e = "CircuitValidationError" := by
  unfold addGate at h
  split at h
  · exact (Except.error.inj h).symm
  · split at h
    · rename_i he
      exact checkGatesExist_err (Except.error.inj h ▸ he)
    · cases h

theorem addGate_refused {c : Circuit} {g : Gate} (h : ¬ (g.label ∉ c.labels ∧ ∀ o ∈ g.ops, o ∈ c.labels)) :
    c.addGate g = .error "CircuitValidationError" := by
  cases ha : c.addGate g with
  | error e => rw [addGate_err ha]
  | ok c' => exact absurd ⟨(addGate_ok_iff.mp ha).1, (addGate_ok_iff.mp ha).2.1⟩ h

theorem rawAddGate_fields {c : Circuit} {g : Gate} (h : g.label ∉ c.labels) :
    (c.rawAddGate g).gates = c.gates ++ [g] ∧
    (c.rawAddGate g).inputs = (if g.ty = INPUT then c.inputs ++ [g.label] else c.inputs) ∧
    (c.rawAddGate g).outputs = c.outputs ∧ (c.rawAddGate g).blocks = c.blocks ∧
    (∀ l, (c.rawAddGate g).usersOf l = c.usersOf l ++ List.replicate (g.ops.count l) g.label) := by
  have hU := foldl_addUser_sameNet g.ops c g.label
  have hh : (g.ops.foldl (fun c o => c.addUser o g.label) c).hasGate g.label = false := by
    rwa [Bool.eq_false_iff, Ne, hasGate_iff, hU.labels]
  exact ⟨by simp [rawAddGate, hh, hU.gates], by simp [rawAddGate, hU.inputs], hU.outputs, hU.blocks,
    usersOf_foldl_addUser g.ops c g.label⟩

theorem rawAddGate_gates (n : Circuit) (g : Gate) :
    (n.rawAddGate g).gates = if n.hasGate g.label then n.gates.map (replG g) else n.gates ++ [g] := by
  unfold rawAddGate
  have hg : (g.ops.foldl (fun c o => c.addUser o g.label) n).gates = n.gates := (foldl_addUser_sameNet _ _ _).gates
  have hh : (g.ops.foldl (fun c o => c.addUser o g.label) n).hasGate g.label = n.hasGate g.label := by
    unfold hasGate; rw [hg]
  simp only [hh, hg]
  split
  · unfold replG; rfl
  · rfl

theorem mem_rawAddGate_self (n : Circuit) (g : Gate) : g ∈ (n.rawAddGate g).gates := by
  rw [rawAddGate_gates]
  split
  · rename_i h
    exact mem_replG_self (by simpa [Circuit.labels] using (hasGate_iff n g.label).mp h)
  · simp

theorem mem_rawAddGate_other (n : Circuit) (g x : Gate) (hx : x ∈ n.gates) (hne : x.label ≠ g.label) :
    x ∈ (n.rawAddGate g).gates := by
  rw [rawAddGate_gates]
  split
  · exact mem_map_replG_of_ne hx hne
  · simp [hx]

theorem rawAddGate_inputs (n : Circuit) (g : Gate) :
    (n.rawAddGate g).inputs = if g.ty = INPUT then n.inputs ++ [g.label] else n.inputs := by
  unfold rawAddGate
  have hi : (g.ops.foldl (fun c o => c.addUser o g.label) n).inputs = n.inputs := (foldl_addUser_sameNet _ _ _).inputs
  simp only [hi]

theorem rawAddGate_mem_cases (n : Circuit) (g x : Gate) (hx : x ∈ (n.rawAddGate g).gates) : x ∈ n.gates ∨ x = g := by
  rw [rawAddGate_gates] at hx
  split at hx
  · exact (mem_map_replG_cases hx).imp_left And.left
  · simpa using hx

theorem rawAddGate_labels_sub (n : Circuit) (g : Gate) (l : Label) (hl : l ∈ n.labels) :
    l ∈ (n.rawAddGate g).labels := by
  obtain ⟨x, hx, rfl⟩ := List.mem_map.mp hl
  by_cases hne : x.label = g.label
  · rw [hne]; exact mem_labels_of_mem (mem_rawAddGate_self n g)
  · exact mem_labels_of_mem (mem_rawAddGate_other n g x hx hne)

/-- `c'` is `c` with the new gate `g` appended -/
structure AddFields (c : Circuit) (g : Gate) (c' : Circuit) : Prop where
  fresh : g.label ∉ c.labels
  ops : ∀ o ∈ g.ops, o ∈ c.labels
  gates : c'.gates = c.gates ++ [g]
  inputs : c'.inputs = if g.ty = INPUT then c.inputs ++ [g.label] else c.inputs
  outputs : c'.outputs = c.outputs
  blocks : c'.blocks = c.blocks
  users : ∀ l, c'.usersOf l = c.usersOf l ++ List.replicate (g.ops.count l) g.label

theorem addGate_fields {c c' : Circuit} {g : Gate} (h : c.addGate g = .ok c') : AddFields c g c' := by
  obtain ⟨hfresh, hops, rfl⟩ := addGate_ok_iff.mp h
  obtain ⟨a, b, d, e, f⟩ := rawAddGate_fields hfresh
  exact ⟨hfresh, hops, a, b, d, e, f⟩

theorem markAsOutput_fields {c c' : Circuit} {l : Label} (h : c.markAsOutput l = .ok c') :
    c'.gates = c.gates ∧ c'.inputs = c.inputs ∧ c'.outputs = c.outputs ++ [l] ∧ c'.blocks = c.blocks ∧ c'.users = c.users := by
  unfold markAsOutput at h
  split at h
  · simp only [Except.ok.injEq] at h; subst h; exact ⟨rfl, rfl, rfl, rfl, rfl⟩
  · cases h

theorem rawRemoveGate_fields {cur cur' : Circuit} {l : Label} (h : cur.rawRemoveGate l = .ok cur') :
    ∃ g, cur.find? l = some g ∧
      cur'.gates = cur.gates.filter (fun x => !(x.label == l)) ∧
      cur'.inputs = (if g.ty = INPUT then cur.inputs.erase l else cur.inputs) ∧
      (g.ty = INPUT → l ∈ cur.inputs) ∧
      cur'.outputs = cur.outputs.filter (fun o => !(o == l)) ∧
      cur'.blocks = cur.blocks.filter (fun b => !(b.gates.contains l || b.inputs.contains l || b.outputs.contains l)) ∧
      ∀ x u, (cur'.usersOf x).count u =
        if x = l then 0 else (cur.usersOf x).count u - (if u = l then g.ops.count x else 0) := by
  unfold rawRemoveGate at h
  cases hf : cur.find? l with
  | none => simp [hf] at h
  | some g =>
    simp only [hf] at h
    obtain ⟨a, b, d, e⟩ := foldl_removeUser_sameNet g.ops cur l
    split at h
    · cases h
    · rename_i hcond
      cases h
      refine ⟨g, rfl, ?_, ?_, fun hgi => ?_, ?_, ?_, fun x u => ?_⟩
      · by_cases hgi : g.ty = INPUT <;> simp [hgi, a]
      · by_cases hgi : g.ty = INPUT <;> simp [hgi, b]
      · simpa [hgi, b] using hcond
      · by_cases hgi : g.ty = INPUT <;> simp [hgi, d]
      · by_cases hgi : g.ty = INPUT <;> simp [hgi, e]
      · have hus : ((Dict.get? (Dict.erase (g.ops.foldl (fun c o => c.removeUser o l) cur).users l) x).getD []).count u =
            if x = l then 0 else (cur.usersOf x).count u - (if u = l then g.ops.count x else 0) := by
          rw [get?_erase]
          split
          · rfl
          · rw [← usersOf_eq, count_usersOf_foldl_removeUser]
        rw [usersOf_eq]
        by_cases hgi : g.ty = INPUT <;> simpa [hgi] using hus

theorem removeGate_ok_iff {c c' : Circuit} {l : Label} :
    c.removeGate l = .ok c' ↔ l ∈ c.labels ∧ c.usersOf l = [] ∧ c.rawRemoveGate l = .ok c' := by
  unfold removeGate
  rw [← hasGate_iff, ← List.isEmpty_iff]
  cases c.hasGate l <;> cases (c.usersOf l).isEmpty <;> simp

theorem contrib_replG {G : List Gate} (hnd : (G.map (·.label)).Nodup) {g g' : Gate} (hg : g ∈ G) (hgl : g'.label = g.label)
    (l u : Label) : contrib (G.map (replG g')) l u = if u = g.label then g'.ops.count l else contrib G l u := by
  split
  next hu =>
    have hm : g' ∈ G.map (replG g') := List.mem_map.mpr ⟨g, hg, by simp [replG, hgl]⟩
    rw [hu, ← hgl, contrib_of_mem (by rwa [labels_map_replG]) hm]
  next hu =>
    -- the gates labelled `u` are not replaced
    clear hg hnd
    induction G with
    | nil => rfl
    | cons x t ih =>
      rw [List.map_cons, contrib_cons, contrib_cons, ih]
      by_cases e : x.label = g'.label
      · have h2 : ¬ g'.label = u := fun e' => hu (e'.symm.trans hgl)
        simp [replG, e, h2]
      · simp [replG, e]

theorem labels_append (gs : List Gate) (g : Gate) : (gs ++ [g]).map (·.label) = gs.map (·.label) ++ [g.label] := by
  simp

theorem labels_append_gates {c c' : Circuit} {G : List Gate} (h : c'.gates = c.gates ++ G) :
    c'.labels = c.labels ++ G.map (·.label) := by
  unfold Circuit.labels; rw [h, List.map_append]

theorem AddFields.labels {c c' : Circuit} {g : Gate} (h : AddFields c g c') : c'.labels = c.labels ++ [g.label] :=
  labels_append_gates h.gates

theorem AddFields.nodup {c c' : Circuit} {g : Gate} (h : AddFields c g c') (hnd : c.labels.Nodup) : c'.labels.Nodup := by
  rw [h.labels, List.nodup_append]
  exact ⟨hnd, by simp, fun a ha b hb e => h.fresh (by rwa [← List.mem_singleton.mp hb, ← e])⟩

theorem addGate_labels {c c' : Circuit} {g : Gate} (h : c.addGate g = .ok c') : c'.labels = c.labels ++ [g.label] :=
  (addGate_fields h).labels

theorem addGate_nodup {c c' : Circuit} {g : Gate} (hnd : c.labels.Nodup) (h : c.addGate g = .ok c') :
    c'.labels.Nodup := (addGate_fields h).nodup hnd

theorem addGate_returns {n : Circuit} {g : Gate} (hl : g.label ∉ n.labels) (hops : ∀ o ∈ g.ops, o ∈ n.labels) :
    ∃ n', n.addGate g = .ok n' ∧ n'.labels = n.labels ++ [g.label] := by
  have h := addGate_ok_iff.mpr ⟨hl, hops, rfl⟩
  exact ⟨_, h, addGate_labels h⟩

theorem UsersOK.append {c c' : Circuit} {g : Gate} (h : UsersOK c) (hg : c'.gates = c.gates ++ [g])
    (hu : ∀ l, c'.usersOf l = c.usersOf l ++ List.replicate (g.ops.count l) g.label) : UsersOK c' := fun l u => by
  rw [hu, hg, List.count_append, contrib_append, contrib_single, h l u, List.count_replicate]
  simp

theorem wfs_of_addFields {c c' : Circuit} {g : Gate} (hw : WFS c) (hgi : g.ty = INPUT → g.ops = [])
    (hf : AddFields c g c') : WFS c' := by
  have hlab := hf.labels
  have hnd := hf.nodup hw.nodup
  obtain ⟨hfresh, hops, hg, hi, ho, hb, hu⟩ := hf
  have hsub : ∀ l ∈ c.labels, l ∈ c'.labels := fun l hl => hlab ▸ List.mem_append_left _ hl
  have hmem : ∀ x ∈ c'.gates, x ∈ c.gates ∨ x = g := fun x hx => by simpa [hg] using hx
  obtain ⟨uL, uC⟩ := users_of_count hnd ((users_count_of_wfs hw).append hg hu)
  refine ⟨hnd, ?_, ?_, ?_, ?_, fun o ho' => hsub o (hw.outputsOK o (ho ▸ ho')), uL, uC, ?_, ?_⟩
  · intro x hx o ho'
    rcases hmem x hx with hx | rfl
    · exact hsub o (hw.closed x hx o ho')
    · exact hsub o (hops o ho')
  · -- the new gate is put above all old ones
    obtain ⟨r, hr⟩ := hw.rank
    refine ⟨fun l => if l = g.label then (c.labels.map r).sum + 1 else r l, fun x hx o ho' => ?_⟩
    rcases hmem x hx with hx | rfl
    · have h1 : x.label ≠ g.label := fun e => hfresh (e ▸ mem_labels_of_mem hx)
      have h2 : o ≠ g.label := fun e => hfresh (e ▸ hw.closed x hx o ho')
      simp [h1, h2, hr x hx o ho']
    · have h2 : o ≠ x.label := fun e => hfresh (e ▸ hops o ho')
      have := le_sum_of_mem r c.labels o (hops o ho')
      simp only [h2, if_false, if_true]; omega
  · rw [hi]
    split
    · refine List.nodup_append.mpr ⟨hw.inputsNodup, (by simp), fun a ha b hb e => ?_⟩
      obtain ⟨x, hx, hxl, _⟩ := (hw.inputsOK a).mp ha
      exact hfresh (List.mem_singleton.mp hb ▸ e ▸ hxl ▸ mem_labels_of_mem hx)
    · exact hw.inputsNodup
  · intro l
    rw [hi, hg]
    by_cases ht : g.ty = INPUT <;> simp [ht, hw.inputsOK l, or_and_right, exists_or, eq_comm (a := l)]
  · intro b hb'
    obtain ⟨b1, b2⟩ := hw.blocksOK b (hb ▸ hb')
    exact ⟨fun l hl => hsub l (b1 l hl), fun l hl => hsub l (b2 l hl)⟩
  · intro x hx ht
    rcases hmem x hx with hx | rfl
    · exact hw.inputOps x hx ht
    · exact hgi ht

theorem addGate_wfs {c c' : Circuit} {g : Gate} (hw : WFS c) (hgi : g.ty = INPUT → g.ops = [])
    (h : c.addGate g = .ok c') : WFS c' := wfs_of_addFields hw hgi (addGate_fields h)

/-- the gate `g` gives way to a non-INPUT gate `g'` of the same label (and leaves the inputs if it was one), fresh
non-INPUT helper gates `H` are appended -/
theorem wfs_of_replace {c c' : Circuit} (hw : WFS c) {g g' : Gate} (hgl : g'.label = g.label)
    (hg'ty : g'.ty ≠ INPUT) (H : List Gate)
    (hfresh : (c.labels ++ H.map (·.label)).Nodup) (hHty : ∀ h ∈ H, h.ty ≠ INPUT)
    (hgates : c'.gates = c.gates.map (replG g') ++ H)
    (hinN : c'.inputs.Nodup) (hin : ∀ l, l ∈ c'.inputs ↔ l ∈ c.inputs ∧ l ≠ g.label)
    (hout : c'.outputs = c.outputs)
    (hcl1 : ∀ o ∈ g'.ops, o ∈ c'.labels) (hcl2 : ∀ h ∈ H, ∀ o ∈ h.ops, o ∈ c'.labels)
    (hrank : ∃ r' : Label → Nat, ∀ x ∈ c'.gates, ∀ o ∈ x.ops, r' o < r' x.label)
    (husers : UsersOK c')
    (hblocks : ∀ b ∈ c'.blocks, (∀ l ∈ b.gates, l ∈ c'.labels) ∧ (∀ l ∈ b.inputs, l ∈ c'.labels)) : WFS c' := by
  have hlab : c'.labels = c.labels ++ H.map (·.label) := by
    unfold Circuit.labels; rw [hgates, List.map_append, labels_map_replG]
  have hnd' : c'.labels.Nodup := hlab ▸ hfresh
  have hsub : ∀ l ∈ c.labels, l ∈ c'.labels := fun l hl => by rw [hlab]; exact List.mem_append_left _ hl
  obtain ⟨uL, uC⟩ := users_of_count hnd' husers
  -- a gate of the result is an untouched old gate, the new `g'`, or a helper
  have hcases : ∀ x ∈ c'.gates, (x ∈ c.gates ∧ x.label ≠ g.label) ∨ x = g' ∨ x ∈ H := by
    intro x hx
    rw [hgates] at hx
    rcases List.mem_append.mp hx with hx | hx
    · exact (mem_map_replG_cases hx).imp (fun h => ⟨h.1, hgl ▸ h.2⟩) .inl
    · exact .inr (.inr hx)
  have hold : ∀ y ∈ c.gates, y.label ≠ g.label → y ∈ c'.gates := fun y hy hne =>
    hgates ▸ List.mem_append_left _ (mem_map_replG_of_ne hy (hgl ▸ hne))
  refine ⟨hnd', ?_, hrank, hinN, ?_, ?_, uL, uC, hblocks, ?_⟩
  · intro x hx o ho
    rcases hcases x hx with ⟨h1, _⟩ | rfl | h3
    · exact hsub o (hw.closed x h1 o ho)
    · exact hcl1 o ho
    · exact hcl2 x h3 o ho
  · intro l
    rw [hin]
    constructor
    · rintro ⟨hl, hne⟩
      obtain ⟨y, hy, hyl, hty⟩ := (hw.inputsOK l).mp hl
      exact ⟨y, hold y hy (hyl ▸ hne), hyl, hty⟩
    · rintro ⟨x, hx, hxl, hty⟩
      rcases hcases x hx with ⟨h1, hne⟩ | rfl | h3
      · exact ⟨(hw.inputsOK l).mpr ⟨x, h1, hxl, hty⟩, hxl ▸ hne⟩
      · exact absurd hty hg'ty
      · exact absurd hty (hHty x h3)
  · intro o ho
    rw [hout] at ho
    exact hsub o (hw.outputsOK o ho)
  · intro x hx hty
    rcases hcases x hx with ⟨h1, _⟩ | rfl | h3
    · exact hw.inputOps x h1 hty
    · exact absurd hty hg'ty
    · exact absurd hty (hHty x h3)

theorem markAsOutput_wfs {c c' : Circuit} {l : Label} (hw : WFS c) (h : c.markAsOutput l = .ok c') : WFS c' := by
  unfold markAsOutput at h
  split at h
  · rename_i hg
    cases h
    refine hw.withOutputs fun o ho => ?_
    rcases List.mem_append.mp ho with ho | ho
    · exact hw.outputsOK o ho
    · exact List.mem_singleton.mp ho ▸ (hasGate_iff c l).mp hg
  · cases h

theorem markAsOutput_ok_iff {c c' : Circuit} {l : Label} :
    c.markAsOutput l = .ok c' ↔ l ∈ c.labels ∧ c' = { c with outputs := c.outputs ++ [l] } := by
  unfold markAsOutput
  rw [← hasGate_iff]
  cases c.hasGate l <;> simp [eq_comm]

theorem setOutputs_eq {c c' : Circuit} {outs : List Label} (h : c.setOutputs outs = .ok c') :
    c' = { c with outputs := outs } ∧ ∀ o ∈ outs, o ∈ c.labels := by
  unfold setOutputs at h
  cases hc : c.checkGatesExist outs with
  | error e => rw [hc] at h; cases h
  | ok u => rw [hc] at h; cases h; exact ⟨rfl, checkGatesExist_ok_iff.mp hc⟩

theorem setOutputs_gates {c c' : Circuit} {o : List Label} (h : c.setOutputs o = .ok c') : c'.gates = c.gates := by
  rw [(setOutputs_eq h).1]

theorem setOutputs_blocks {c c' : Circuit} {o : List Label} (h : c.setOutputs o = .ok c') : c'.blocks = c.blocks := by
  rw [(setOutputs_eq h).1]

theorem setOutputs_interface {c c' : Circuit} {o : List Label} (h : c.setOutputs o = .ok c') :
    c'.outputs = o ∧ c'.inputs = c.inputs := by
  rw [(setOutputs_eq h).1]; exact ⟨rfl, rfl⟩

theorem setOutputs_wfs {c c' : Circuit} {outs : List Label} (hw : WFS c) (h : c.setOutputs outs = .ok c') : WFS c' := by
  obtain ⟨rfl, hout⟩ := setOutputs_eq h
  exact hw.withOutputs hout

theorem setOutputs_returns {n : Circuit} {outs : List Label} (h : ∀ o ∈ outs, o ∈ n.labels) :
    ∃ n', n.setOutputs outs = .ok n' := by
  unfold setOutputs checkGatesExist
  have : outs.all n.hasGate = true := List.all_eq_true.mpr (fun o ho => (hasGate_iff n o).mpr (h o ho))
  simp [this]

theorem setInputs_go_spec (c : Circuit) : ∀ (ins acc new : List Label), setInputs.go c ins acc = .ok new →
    new = acc ++ ins ∧ (acc.Nodup → new.Nodup) ∧
    ∀ i ∈ ins, ∃ g, c.find? i = some g ∧ g.ty = INPUT := by
  intro ins
  induction ins with
  | nil => intro acc new h; cases h; simp
  | cons i r ih =>
    intro acc new h
    unfold setInputs.go at h
    cases hf : c.find? i with
    | none => simp [hf] at h
    | some g =>
      simp only [hf] at h
      split at h
      · cases h
      · rename_i hcond
        simp only [Bool.or_eq_true, not_or, bne_iff_ne, ne_eq, Decidable.not_not, List.contains_eq_mem,
          decide_eq_true_eq] at hcond
        obtain ⟨e1, e2, e3⟩ := ih (acc ++ [i]) new h
        refine ⟨by simp [e1], fun hacc => e2 ?_, ?_⟩
        · exact List.nodup_append.mpr ⟨hacc, by simp, fun a ha b hb e => hcond.2 (List.mem_singleton.mp hb ▸ e ▸ ha)⟩
        · intro x hx
          rcases List.mem_cons.mp hx with rfl | hx
          · exact ⟨g, hf, hcond.1⟩
          · exact e3 x hx

theorem setInputs_eq {c c' : Circuit} {ins : List Label} (h : c.setInputs ins = .ok c') :
    c' = { c with inputs := ins } ∧ ins.Nodup ∧ (∀ i ∈ ins, ∃ g, c.find? i = some g ∧ g.ty = INPUT) ∧
      ∀ g ∈ c.gates, g.ty = INPUT → g.label ∈ ins := by
  unfold setInputs at h
  cases hc : c.checkGatesExist ins with
  | error e => simp [hc] at h
  | ok u =>
    simp only [hc] at h
    split at h
    · cases h
    · rename_i hall
      cases hg : setInputs.go c ins [] with
      | error e => simp [hg] at h
      | ok new =>
        simp only [hg, Except.ok.injEq] at h; subst h
        obtain ⟨e1, e2, e3⟩ := setInputs_go_spec c ins [] new hg
        rw [List.nil_append] at e1
        subst e1
        refine ⟨rfl, e2 List.nodup_nil, e3, fun g hgm ht => Classical.byContradiction fun hin => ?_⟩
        exact hall (List.any_eq_true.mpr ⟨g, hgm, by simp [ht, hin]⟩)

theorem setInputs_gates {c c' : Circuit} {i : List Label} (h : c.setInputs i = .ok c') : c'.gates = c.gates := by
  rw [(setInputs_eq h).1]

theorem setInputs_blocks {c c' : Circuit} {i : List Label} (h : c.setInputs i = .ok c') : c'.blocks = c.blocks := by
  rw [(setInputs_eq h).1]

theorem setInputs_interface {c c' : Circuit} {ins : List Label} (h : c.setInputs ins = .ok c') :
    c'.inputs = ins ∧ c'.outputs = c.outputs := by
  rw [(setInputs_eq h).1]; exact ⟨rfl, rfl⟩

theorem setInputs_wfs {c c' : Circuit} {ins : List Label} (hw : WFS c) (h : c.setInputs ins = .ok c') : WFS c' := by
  obtain ⟨rfl, hnd, hI, hall⟩ := setInputs_eq h
  refine hw.withInputs hnd fun l => ⟨fun hl => ?_, fun hl => ?_⟩
  · obtain ⟨g, hf, ht⟩ := hI l hl
    obtain ⟨hgm, hgl⟩ := find_some_mem hf
    exact (hw.inputsOK l).mpr ⟨g, hgm, hgl, ht⟩
  · obtain ⟨g, hgm, hgl, ht⟩ := (hw.inputsOK l).mp hl
    exact hgl ▸ hall g hgm ht

theorem setInputs_go_returns (n : Circuit) (hnd : n.labels.Nodup) : ∀ (ins acc : List Label), (acc ++ ins).Nodup →
    (∀ i ∈ ins, ∃ g ∈ n.gates, g.label = i ∧ g.ty = INPUT) → ∃ new, setInputs.go n ins acc = .ok new := by
  intro ins
  induction ins with
  | nil => intro acc _ _; exact ⟨acc, rfl⟩
  | cons i r ih =>
    intro acc hn h
    obtain ⟨g, hg, hgl, hty⟩ := h i (by simp)
    have hf : n.find? i = some g := hgl ▸ find_label hnd hg
    have hni : acc.contains i = false := Bool.eq_false_iff.mpr fun hc =>
      (List.nodup_append.mp hn).2.2 i (by simpa using hc) i (List.mem_cons_self ..) rfl
    unfold setInputs.go
    simp only [hf, hty, hni]
    simp only [bne_self_eq_false, Bool.or_self, Bool.false_eq_true, if_false]
    exact ih (acc ++ [i]) (by simpa using hn) (fun x hx => h x (by simp [hx]))

theorem setInputs_returns {n : Circuit} (hnd : n.labels.Nodup) {ins : List Label} (hins : ins.Nodup)
    (h1 : ∀ i ∈ ins, ∃ g ∈ n.gates, g.label = i ∧ g.ty = INPUT)
    (h2 : ∀ g ∈ n.gates, g.ty = INPUT → g.label ∈ ins) : ∃ n', n.setInputs ins = .ok n' := by
  unfold setInputs checkGatesExist
  have hall : ins.all n.hasGate = true := by
    apply List.all_eq_true.mpr
    intro i hi
    obtain ⟨g, hg, hgl, _⟩ := h1 i hi
    exact (hasGate_iff n i).mpr (hgl ▸ mem_labels_of_mem hg)
  simp only [hall, if_true]
  have hany : n.gates.any (fun g => g.ty == INPUT && !ins.contains g.label) = false := by
    apply List.any_eq_false.mpr
    intro g hg
    by_cases ht : g.ty = INPUT
    · simp [ht, h2 g hg ht]
    · simp [ht]
  simp only [hany, Bool.false_eq_true, if_false]
  obtain ⟨new, hnew⟩ := setInputs_go_returns n hnd ins [] (by simpa using hins) h1
  rw [hnew]
  exact ⟨_, rfl⟩

theorem makeBlock_wfs {c c' : Circuit} {name : Label} {gs outs : List Label} {ins : Option (List Label)}
    (hw : WFS c) (h : c.makeBlock name gs outs ins = .ok c') : WFS c' := by
  unfold makeBlock at h
  split at h
  · cases h
  · cases hg : c.checkGatesExist gs with
    | error e => simp [hg] at h
    | ok u =>
      cases ho : c.checkGatesExist outs with
      | error e => simp [hg, ho] at h
      | ok u2 =>
        simp only [hg, ho] at h
        have key : ∀ is, (∀ l ∈ is, l ∈ c.labels) → WFS { c with blocks := c.blocks ++ [⟨name, is, gs, outs⟩] } :=
          fun is his => hw.appendBlock (checkGatesExist_ok_iff.mp hg) his
        cases ins with
        | some is =>
          cases hi : c.checkGatesExist is with
          | error e => simp [hi] at h
          | ok u3 => simp only [hi, Except.ok.injEq] at h; subst h; exact key is (checkGatesExist_ok_iff.mp hi)
        | none =>
          simp only [Except.ok.injEq] at h; subst h
          refine key _ fun l hl => ?_
          simp only [List.mem_flatMap, List.mem_filter] at hl
          obtain ⟨x, hx, hl', _⟩ := hl
          cases hf : c.find? x with
          | none => simp [hf] at hl'
          | some g =>
            simp only [hf, Option.map_some, Option.getD_some] at hl'
            exact hw.closed g (find_some_mem hf).1 l hl'

theorem deleteBlock_wfs {c c' : Circuit} {name : Label} (hw : WFS c) (h : c.deleteBlock name = .ok c') : WFS c' := by
  unfold deleteBlock at h
  split at h
  · cases h; exact hw.withBlocks fun b hb => hw.blocksOK b (List.mem_filter.mp hb).1
  · cases h

theorem orderList_go_perm : ∀ (ordered new oldc : List Label) (new' oldc' : List Label),
    orderList.go ordered new oldc = .ok (new', oldc') → (new' ++ oldc').Perm (new ++ oldc) := by
  intro ordered
  induction ordered with
  | nil => intro new oldc new' oldc' h; cases h; exact List.Perm.refl _
  | cons e r ih =>
    intro new oldc new' oldc' h
    unfold orderList.go at h
    split at h
    · rename_i hc
      refine (ih _ _ _ _ h).trans ?_
      have hp : (e :: oldc.erase e).Perm oldc := (List.perm_cons_erase (by simpa using hc)).symm
      simpa using List.Perm.append_left new hp
    · cases h

theorem orderList_perm {ordered old l : List Label} (h : orderList ordered old = .ok l) : l.Perm old := by
  unfold orderList at h
  cases hg : orderList.go ordered [] old with
  | error e => simp [hg] at h
  | ok p =>
    obtain ⟨new, oldc⟩ := p
    simp only [hg] at h
    have hp : (new ++ oldc).Perm old := orderList_go_perm ordered [] old new oldc hg
    split at h
    · rename_i hlen
      cases h
      -- all of `old` has been moved over
      have : oldc = [] := List.length_eq_zero_iff.mp (by have := hp.length_eq; simp at this hlen; omega)
      simpa [this] using hp
    · cases h; exact hp

theorem orderList_go_fst : ∀ (ordered new oldc : List Label) {res : List Label × List Label},
    orderList.go ordered new oldc = .ok res → res.1 = new ++ ordered
  | [], new, oldc, res, h => by
    unfold orderList.go at h
    cases h
    exact (List.append_nil _).symm
  | e :: r, new, oldc, res, h => by
    unfold orderList.go at h
    split at h
    · rw [orderList_go_fst r _ _ h, List.append_assoc]; rfl
    · cases h

theorem orderList_go_total : ∀ (ordered new oldc : List Label), (∃ rest, oldc.Perm (ordered ++ rest)) →
    ∃ res, orderList.go ordered new oldc = .ok res := by
  intro ordered
  induction ordered with
  | nil => intro new oldc _; exact ⟨_, rfl⟩
  | cons e r ih =>
    intro new oldc ⟨rest, hp⟩
    unfold orderList.go
    have he : e ∈ oldc := hp.mem_iff.mpr (by simp)
    rw [if_pos (by simpa using he)]
    exact ih _ _ ⟨rest, by simpa using hp.erase e⟩

theorem orderList_full {ordered old l : List Label} (h : orderList ordered old = .ok l)
    (hl : ordered.length = old.length) : l = ordered := by
  unfold orderList at h
  split at h
  · cases h
  · rename_i new oldc hgo
    have hn := orderList_go_fst _ _ _ hgo
    simp only [List.nil_append] at hn
    subst hn
    simp only [hl, beq_self_eq_true, if_true, Except.ok.injEq] at h
    exact h.symm

theorem orderList_of_perm {ordered old : List Label} (hp : ordered.Perm old) : orderList ordered old = .ok ordered := by
  obtain ⟨⟨new, oldc⟩, h⟩ := orderList_go_total ordered [] old ⟨[], by simpa using hp.symm⟩
  have hn : new = ordered := by simpa using orderList_go_fst _ _ _ h
  subst hn
  unfold orderList
  rw [h]
  simp [hp.length_eq]

theorem orderInputs_wfs {c c' : Circuit} {ins : List Label} (hw : WFS c) (h : c.orderInputs ins = .ok c') : WFS c' := by
  unfold orderInputs at h
  cases ho : orderList ins c.inputs with
  | error e => simp [ho] at h
  | ok l =>
    simp only [ho, Except.ok.injEq] at h; subst h
    have hp := orderList_perm ho
    exact hw.withInputs (hp.nodup_iff.mpr hw.inputsNodup) fun x => hp.mem_iff

theorem orderOutputs_wfs {c c' : Circuit} {outs : List Label} (hw : WFS c) (h : c.orderOutputs outs = .ok c') : WFS c' := by
  unfold orderOutputs at h
  cases ho : orderList outs c.outputs with
  | error e => simp [ho] at h
  | ok l =>
    simp only [ho, Except.ok.injEq] at h; subst h
    exact hw.withOutputs fun o ho' => hw.outputsOK o ((orderList_perm ho).mem_iff.mp ho')

theorem addInputs_wfs : ∀ (ls : List Label) {c c' : Circuit}, WFS c → c.addInputs ls = .ok c' → WFS c'
  | [], _, _, hw, h => by cases h; exact hw
  | i :: r, c, c', hw, h => by
    unfold addInputs at h
    cases ha : c.addGate ⟨i, INPUT, []⟩ with
    | error e => simp [ha] at h
    | ok c1 => rw [ha] at h; exact addInputs_wfs r (addGate_wfs hw (fun _ => rfl) ha) h

theorem addInputs_spec : ∀ (ls : List Label) (n n' : Circuit), n.addInputs ls = .ok n' →
    n'.gates = n.gates ++ ls.map (fun i => (⟨i, INPUT, []⟩ : Gate)) ∧ n'.inputs = n.inputs ++ ls ∧
    n'.outputs = n.outputs := by
  intro ls
  induction ls with
  | nil => intro n n' h; cases h; simp
  | cons i r ih =>
    intro n n' h
    unfold addInputs at h
    cases ha : n.addGate ⟨i, INPUT, []⟩ with
    | error e => simp [ha] at h
    | ok n1 =>
      obtain ⟨_, _, hg, hi, ho, _, _⟩ := addGate_fields ha
      obtain ⟨a1, a2, a3⟩ := ih n1 n' (by simpa only [ha] using h)
      exact ⟨by rw [a1, hg]; simp, by rw [a2, hi]; simp, a3.trans ho⟩

theorem addInputs_blocks : ∀ (ls : List Label) (c c' : Circuit), c.addInputs ls = .ok c' → c'.blocks = c.blocks := by
  intro ls
  induction ls with
  | nil => intro c c' h; simp [addInputs] at h; subst h; rfl
  | cons i r ih =>
    intro c c' h
    unfold addInputs at h
    cases ha : c.addGate ⟨i, INPUT, []⟩ with
    | error e => simp [ha] at h
    | ok c1 =>
      simp only [ha] at h
      rw [ih c1 c' h, (addGate_fields ha).blocks]

theorem addInputs_returns : ∀ (ls : List Label) (n : Circuit), (n.labels ++ ls).Nodup → ∃ n', n.addInputs ls = .ok n' := by
  intro ls
  induction ls with
  | nil => intro n _; exact ⟨n, rfl⟩
  | cons i r ih =>
    intro n hnd
    obtain ⟨n1, hn1, hlab1⟩ := addGate_returns (n := n) (g := ⟨i, INPUT, []⟩)
      (fun h => (List.nodup_append.mp hnd).2.2 i h i (List.mem_cons_self ..) rfl) (fun _ h => nomatch h)
    obtain ⟨n', hn'⟩ := ih n1 (by rw [hlab1]; simpa using hnd)
    exact ⟨n', by simp only [addInputs, hn1, hn']⟩

/-- the local `step` of `replaceInputs` under a name (`replaceInputs_eq`, by `rfl`) -/
def constStep (ty : GateType) (acc : R Circuit) (l : Label) : R Circuit :=
  match acc with
  | .error e => .error e
  | .ok c => match c.find? l with
    | none => .error "GateDoesntExistError"
    | some g => if g.ty != INPUT then .error "GateNotInputError"
      else if !c.inputs.contains l then .error "Py:ValueError"
      else .ok { c with gates := c.gates.map (fun x => if x.label == l then ⟨l, ty, []⟩ else x),
                        inputs := c.inputs.erase l }

theorem replaceInputs_eq (c : Circuit) (t f : List Label) :
    c.replaceInputs t f = f.foldl (constStep ALWAYS_FALSE) (t.foldl (constStep ALWAYS_TRUE) (.ok c)) := rfl

theorem constStep_error (ty : GateType) (e : String) (l : Label) : constStep ty (.error e) l = .error e := rfl

theorem constStep_fields {ty : GateType} {c c' : Circuit} {l : Label} (h : constStep ty (.ok c) l = .ok c') :
    ∃ g, c.find? l = some g ∧ g.ty = INPUT ∧ l ∈ c.inputs ∧
      c' = { c with gates := c.gates.map (replG ⟨l, ty, []⟩), inputs := c.inputs.erase l } := by
  unfold constStep at h
  cases hf : c.find? l with
  | none => simp [hf] at h
  | some g =>
    simp only [hf] at h
    split at h
    · cases h
    · rename_i hgt
      split at h
      · cases h
      · rename_i hin
        cases h
        exact ⟨g, rfl, by simpa using hgt, by simpa using hin, rfl⟩

theorem constStep_wfs {ty : GateType} (hty : ty ≠ INPUT) {c c' : Circuit} {l : Label} (hw : WFS c)
    (h : constStep ty (.ok c) l = .ok c') : WFS c' := by
  obtain ⟨g, hf, hgI, hlin, rfl⟩ := constStep_fields h
  obtain ⟨hgm, hgl⟩ := find_some_mem hf
  have hlab : Circuit.labels { c with gates := c.gates.map (replG ⟨l, ty, []⟩), inputs := c.inputs.erase l }
      = c.labels := labels_map_replG _ _
  obtain ⟨r, hr⟩ := hw.rank
  refine wfs_of_replace hw (g := g) hgl.symm hty [] (by simpa using hw.nodup) nofun (List.append_nil _).symm
    (hw.inputsNodup.erase _) (fun x => by rw [List.Nodup.mem_erase_iff hw.inputsNodup, hgl]; exact and_comm) rfl
    nofun nofun ⟨r, fun y hy o ho => ?_⟩ (fun x u => ?_) (hlab ▸ hw.blocksOK)
  · rcases mem_map_replG_cases hy with ⟨hy', _⟩ | rfl
    · exact hr y hy' o ho
    · cases ho
  · -- the constant has no operands, as the INPUT it replaces
    show (c.usersOf x).count u = _
    rw [contrib_replG hw.nodup hgm hgl.symm, users_count_of_wfs hw]
    split
    next hu => rw [hu, contrib_of_mem hw.nodup hgm, hw.inputOps g hgm hgI]
    next => rfl

theorem foldl_constStep_wfs {ty : GateType} (hty : ty ≠ INPUT) (ls : List Label) {c c' : Circuit}
    (hw : WFS c) (h : ls.foldl (constStep ty) (.ok c) = .ok c') : WFS c' :=
  foldlR_ok (I := fun _ => WFS) (constStep_error ty) (fun _ _ _ _ hw hs => constStep_wfs hty hw hs) hw h

theorem replaceInputs_wfs {c c' : Circuit} {t f : List Label} (hw : WFS c)
    (h : c.replaceInputs t f = .ok c') : WFS c' := by
  rw [replaceInputs_eq] at h
  obtain ⟨c1, h1⟩ := foldlR_start (constStep_error _) h
  rw [h1] at h
  exact foldl_constStep_wfs (by decide) f (foldl_constStep_wfs (by decide) t hw h1) h

/-- the public mutator calls covered by the invariant theorem -/
inductive MOp
  | addGate (g : Gate)
  | markAsOutput (l : Label)
  | setOutputs (outs : List Label)
  | setInputs (ins : List Label)
  | addInputs (ls : List Label)
  | orderInputs (ins : List Label)
  | orderOutputs (outs : List Label)
  | replaceInputs (t f : List Label)
  | makeBlock (name : Label) (gs outs : List Label) (ins : Option (List Label))
  | deleteBlock (name : Label)

/-- "valid arguments": an INPUT gate is added without operands -/
def MOp.valid : MOp → Prop
  | .addGate g => g.ty = INPUT → g.ops = []
  | _ => True

def runOp (c : Circuit) : MOp → R Circuit
  | .addGate g => c.addGate g
  | .markAsOutput l => c.markAsOutput l
  | .setOutputs o => c.setOutputs o
  | .setInputs i => c.setInputs i
  | .addInputs ls => c.addInputs ls
  | .orderInputs i => c.orderInputs i
  | .orderOutputs o => c.orderOutputs o
  | .replaceInputs t f => c.replaceInputs t f
  | .makeBlock n g o i => c.makeBlock n g o i
  | .deleteBlock n => c.deleteBlock n

/-- a history of calls, stopping at the first error -/
def runOps : Circuit → List MOp → R Circuit
  | c, [] => .ok c
  | c, op :: rest => match runOp c op with
    | .error e => .error e
    | .ok c' => runOps c' rest

theorem runOp_wfs {c c' : Circuit} {op : MOp} (hw : WFS c) (hv : op.valid) (h : runOp c op = .ok c') : WFS c' := by
  cases op with
  | addGate g => exact addGate_wfs hw hv h
  | markAsOutput l => exact markAsOutput_wfs hw h
  | setOutputs o => exact setOutputs_wfs hw h
  | setInputs i => exact setInputs_wfs hw h
  | addInputs ls => exact addInputs_wfs ls hw h
  | orderInputs i => exact orderInputs_wfs hw h
  | orderOutputs o => exact orderOutputs_wfs hw h
  | replaceInputs t f => exact replaceInputs_wfs hw h
  | makeBlock n g o i => exact makeBlock_wfs hw h
  | deleteBlock n => exact deleteBlock_wfs hw h

theorem runOps_wfs : ∀ (ops : List MOp) {c c' : Circuit}, WFS c → (∀ op ∈ ops, op.valid) →
    runOps c ops = .ok c' → WFS c' :=
  runs_inv (fun _ => rfl) (fun c op _ => by rw [runOps]; cases runOp c op <;> rfl) runOp_wfs

end Cirbo
