import Cirbo.Proofs.GenWeighted
import Cirbo.Model.Gen3
/-!
# Multipliers: partial products, the default mode (weighted sum) and the shift-and-add mode
-/
namespace Cirbo

theorem mul_horner (P M X T : Nat) : P * (M * (X + 2 * T)) = P * (M * X) + 2 * P * (M * T) := by
  rw [Nat.mul_add, Nat.mul_add, Nat.mul_left_comm M 2 T, Nat.mul_left_comm P 2, Nat.mul_assoc]

/-- `H` reads a list of digits in base 2 from the low end, digit `x` worth `g x` -/
theorem horner_append {α} (g : α → Nat) (H : List α → Nat) (h0 : H [] = 0) (hc : ∀ x r, H (x :: r) = g x + 2 * H r)
    (a b : List α) : H (a ++ b) = H a + 2 ^ a.length * H b := by
  induction a with
  | nil => rw [List.nil_append, h0, Nat.zero_add, List.length_nil, Nat.pow_zero, Nat.one_mul]
  | cons x r ih =>
    rw [List.cons_append, hc, hc, ih, List.length_cons, Nat.pow_succ', Nat.mul_add, Nat.mul_assoc, Nat.add_assoc]

theorem bv_emitAnd {v : Label → Bool} {x y g : Label} (h : Sem (emitTT x y t0001) v g) : bv v g = bv v x * bv v y := by
  simp only [bv, sem_emitTT h]; cases v x <;> cases v y <;> rfl

theorem sem_ppRow {v : Label → Bool} {bi : Label} : ∀ (a acc out : List Label), Sem (ppRow bi a acc) v out →
    ∃ row, out = acc ++ row ∧ row.length = a.length ∧ valLE v row = bv v bi * valLE v a := by
  intro a
  induction a with
  | nil => intro acc out h; simp only [ppRow, sem_pure] at h; subst h; exact ⟨[], by simp, rfl, by simp [valLE]⟩
  | cons aj r ih =>
    intro acc out h
    simp only [ppRow, sem_bind] at h
    obtain ⟨g, hg, hrec⟩ := h
    obtain ⟨row, h1, h2, h3⟩ := ih _ _ hrec
    refine ⟨g :: row, by rw [h1]; simp, by simp [h2], ?_⟩
    have hgv : bv v g = bv v bi * bv v aj := (bv_emitAnd hg).trans (Nat.mul_comm _ _)
    simp only [valLE, h3, hgv, Nat.mul_add]
    rw [Nat.mul_left_comm]

/-- value of the rows of partial products, row `i` weighted by `2^i` -/
def rowsVal (v : Label → Bool) : List (List Label) → Nat
  | [] => 0
  | r :: rs => valLE v r + 2 * rowsVal v rs

theorem sem_ppRows {v : Label → Bool} {a : List Label} : ∀ (b : List Label) (acc out : List (List Label)),
    Sem (ppRows a b acc) v out →
    ∃ rows, out = acc ++ rows ∧ rows.length = b.length ∧ (∀ r ∈ rows, r.length = a.length) ∧
      rowsVal v rows = valLE v a * valLE v b ∧
      All2 (fun r bi => valLE v r = bv v bi * valLE v a) rows b := by
  intro b
  induction b with
  | nil => intro acc out h; simp only [ppRows, sem_pure] at h; subst h; exact ⟨[], by simp, rfl, by simp, by simp [rowsVal, valLE], .nil⟩
  | cons bi r ih =>
    intro acc out h
    simp only [ppRows, sem_bind] at h
    obtain ⟨row, hrow, hrec⟩ := h
    obtain ⟨row', e1, e2, e3⟩ := sem_ppRow _ _ _ hrow
    simp only [List.nil_append] at e1; subst e1
    obtain ⟨rows, h1, h2, h3, h4, h5⟩ := ih _ _ hrec
    refine ⟨row :: rows, by rw [h1]; simp, by simp [h2], ?_, ?_, .cons e3 h5⟩
    · intro x hx
      rcases List.mem_cons.mp hx with rfl | hx
      · exact e2
      · exact h3 x hx
    · simp only [rowsVal, valLE, h4, e3, Nat.mul_add]
      rw [Nat.mul_comm (bv v bi), Nat.mul_left_comm]

theorem wsum_row (v : Label → Bool) (i : Nat) : ∀ (row : List Label) (k : Nat),
    wsum v ((row.zipIdx k).map (fun (lj : Label × Nat) => (i + lj.2, lj.1))) = 2 ^ (i + k) * valLE v row := by
  intro row
  induction row with
  | nil => intro k; simp [wsum_nil, valLE]
  | cons x r ih =>
    intro k
    simp only [List.zipIdx_cons, List.map_cons, wsum_cons, ih, valLE, Nat.mul_add]
    rw [← Nat.add_assoc, Nat.pow_succ]
    congr 1
    rw [Nat.mul_left_comm, Nat.mul_comm (2 ^ (i + k)) 2, Nat.mul_assoc]

theorem wsum_flatten (v : Label → Bool) (ls : List (List (Nat × Label))) :
    wsum v ls.flatten = (ls.map (wsum v)).sum := by
  induction ls with
  | nil => rfl
  | cons x r ih => simp [wsum_append, ih]

theorem wsum_ppWeighted_from (v : Label → Bool) : ∀ (rows : List (List Label)) (k : Nat),
    wsum v ((rows.zipIdx k).map (fun (ri : List Label × Nat) =>
      ri.1.zipIdx.map (fun (lj : Label × Nat) => (ri.2 + lj.2, lj.1))) |>.flatten) = 2 ^ k * rowsVal v rows := by
  intro rows
  induction rows with
  | nil => intro k; simp [wsum_nil, rowsVal]
  | cons r rs ih =>
    intro k
    simp only [List.zipIdx_cons, List.map_cons, List.flatten_cons, wsum_append, ih, rowsVal, Nat.mul_add]
    have := wsum_row v k r 0
    simp only [Nat.add_zero] at this
    rw [this, Nat.pow_succ]
    congr 1
    rw [Nat.mul_assoc]

theorem wsum_ppWeighted (v : Label → Bool) (rows : List (List Label)) : wsum v (ppWeighted rows) = rowsVal v rows := by
  have := wsum_ppWeighted_from v rows 0
  simpa [ppWeighted] using this

theorem sem_addMul_weighted {v : Label → Bool} {a b : List Label} {be : Bool} {out : List Label}
    (h : Sem (addMul a b be) v out) :
    ∃ lv : List (Nat × Label), revIf out be = lv.map (·.2) ∧ (lv.map (·.1)).Pairwise (· < ·) ∧
      wsum v lv = valLE v (revIf a be) * valLE v (revIf b be) := by
  simp only [addMul, sem_bind, sem_pure] at h
  obtain ⟨rows, hr, lv, hw, rfl⟩ := h
  obtain ⟨rows', e1, _, _, e4, _⟩ := sem_ppRows _ _ _ hr
  simp only [List.nil_append] at e1; subst e1
  obtain ⟨w1, w2⟩ := sem_addSumWeighted hw
  exact ⟨lv, by rw [revIf_revIf], w2, by rw [w1, wsum_ppWeighted, e4]⟩

theorem sem_alterLoop {v : Label → Bool} {A : Nat} : ∀ (rows : List (List Label)) (bs : List Label) (i : Nat) (res out : List Label),
    Sem (alterLoop rows i res) v out → All2 (fun r bi => valLE v r = bv v bi * A) rows bs →
      valLE v out = valLE v res + 2 ^ i * (A * valLE v bs) := by
  intro rows
  induction rows with
  | nil =>
    intro bs i res out h hf
    cases hf
    simp only [alterLoop, sem_pure] at h; subst h; simp [valLE]
  | cons r rs ih =>
    intro bs i res out h hf
    cases hf with
    | cons hr hrest =>
      rename_i bi bs'
      simp only [alterLoop, sem_bind] at h
      obtain ⟨res', hs, hrec⟩ := h
      have hv := (sem_addSumTwoNumbersWithShift hs).1
      simp only [revIf, Bool.false_eq_true, if_false] at hv
      rw [ih _ _ _ _ hrec hrest, hv, hr, valLE, mul_horner, Nat.pow_succ', Nat.mul_comm (bv v bi), Nat.add_assoc]

theorem alter_arith (A b0 b1 Y : Nat) : b0 * A + 2 ^ 1 * (b1 * A) + 2 ^ 2 * (A * Y) = A * (b0 + 2 * (b1 + 2 * Y)) := by
  have h1 : A * (b0 + 2 * (b1 + 2 * Y)) = A * b0 + 2 * (A * b1) + 4 * (A * Y) := by
    rw [Nat.mul_add, Nat.mul_left_comm A 2, Nat.mul_add, Nat.mul_left_comm A 2 Y]; omega
  rw [h1, Nat.mul_comm b0 A, Nat.mul_comm b1 A]

theorem sem_addMulAlter {v : Label → Bool} {a b : List Label} {be : Bool} {out : List Label}
    (h : Sem (addMulAlter a b be) v out) :
    valLE v (revIf out be) = valLE v (revIf a be) * valLE v (revIf b be) := by
  simp only [addMulAlter, sem_bind] at h
  obtain ⟨rows, hr, hbody⟩ := h
  obtain ⟨rows', e1, e2, _, _, e5⟩ := sem_ppRows _ _ _ hr
  simp only [List.nil_append] at e1; subst e1
  generalize revIf b be = BB at e5 e2 ⊢
  rcases rows with _ | ⟨r0, _ | ⟨r1, rest⟩⟩
  · exact absurd hbody sem_fail
  · simp only [sem_pure] at hbody; subst hbody
    rw [revIf_revIf]
    cases e5 with
    | cons h0 hrest =>
      cases hrest
      rw [h0]; simp [valLE, Nat.mul_comm]
  · simp only [sem_bind, sem_pure] at hbody
    obtain ⟨res, hs, res', hl, rfl⟩ := hbody
    rw [revIf_revIf]
    cases e5 with
    | cons h0 hrest =>
      cases hrest with
      | cons h1 hrest' =>
        have hv := (sem_addSumTwoNumbersWithShift hs).1
        simp only [revIf, Bool.false_eq_true, if_false] at hv
        rw [sem_alterLoop _ _ _ _ _ hl hrest', hv, h0, h1]
        simp only [valLE]
        exact alter_arith _ _ _ _

/-- how many rows `i ∈ [s, s + mb)` of width `n` cover column `k` -/
def rowsCover (s mb n k : Nat) : Nat := ((List.range' s mb).filter (fun i => decide (i ≤ k ∧ k < i + n))).length

theorem rowsCover_succ (s mb n k : Nat) :
    rowsCover s (mb + 1) n k = (if s ≤ k ∧ k < s + n then 1 else 0) + rowsCover (s + 1) mb n k := by
  unfold rowsCover
  rw [List.range'_succ, List.filter_cons]
  by_cases h : s ≤ k ∧ k < s + n
  · simp [h]; omega
  · simp [h]

theorem rowsCover_eq (n k : Nat) : ∀ (mb s : Nat), rowsCover s mb n k = min (s + mb) (k + 1) - max s (k + 1 - n) := by
  intro mb
  induction mb with
  | zero => intro s; exact (Nat.sub_eq_zero_of_le (Nat.le_trans (Nat.min_le_left _ _) (Nat.le_max_left _ _))).symm
  | succ mb ih =>
    intro s
    rw [rowsCover_succ, ih, Nat.add_right_comm s 1 mb]
    -- `omega` is slow on `min`, `max` and `-` together: the maxima are resolved by hand, of the minimum it
    -- is told the two facts it needs
    have h1 : min (s + mb + 1) (k + 1) ≤ k + 1 := Nat.min_le_right _ _
    have h2 : s ≤ k → s + 1 ≤ min (s + mb + 1) (k + 1) := fun h => Nat.le_min.mpr ⟨by omega, by omega⟩
    generalize min (s + mb + 1) (k + 1) = M at h1 h2 ⊢
    by_cases h : s ≤ k ∧ k < s + n
    · rw [if_pos h, Nat.max_eq_left (show k + 1 - n ≤ s + 1 by omega), Nat.max_eq_left (show k + 1 - n ≤ s by omega)]
      have := h2 h.1
      omega
    · rw [if_neg h, Nat.zero_add]
      rcases Nat.lt_or_ge k s with hk | hk
      · rw [Nat.max_eq_left (show k + 1 - n ≤ s + 1 by omega), Nat.max_eq_left (show k + 1 - n ≤ s by omega)]
        omega
      · rw [Nat.max_eq_right (show s + 1 ≤ k + 1 - n by omega), Nat.max_eq_right (show s ≤ k + 1 - n by omega)]

theorem cntL_row (i : Nat) : ∀ (row : List Label) (s l : Nat),
    cntL (fun (x : Nat × Label) => x.1) ((row.zipIdx s).map (fun (lj : Label × Nat) => (i + lj.2, lj.1))) l =
      if i + s ≤ l ∧ l < i + s + row.length then 1 else 0 := by
  intro row
  induction row with
  | nil => intro s l; simp [cntL_nil]
  | cons x r ih =>
    intro s l
    simp only [List.zipIdx_cons, List.map_cons, cntL_cons, ih (s + 1) l, List.length_cons]
    by_cases h1 : i + s = l
    · rw [if_pos h1, if_neg (by omega), if_pos (by omega)]
    · rw [if_neg h1, Nat.zero_add]
      exact ite_congr (propext (by omega)) (fun _ => rfl) (fun _ => rfl)

/-- the profile of the partial products: `R` rows of width `C` -/
def ppProf (R C l : Nat) : Nat := min R (l + 1) - (l + 1 - C)

theorem cntL_ppRows (C : Nat) : ∀ (rows : List (List Label)) (s l : Nat), (∀ r ∈ rows, r.length = C) →
    cntL (fun (x : Nat × Label) => x.1)
      (((rows.zipIdx s).map (fun (ri : List Label × Nat) => ri.1.zipIdx.map (fun (lj : Label × Nat) => (ri.2 + lj.2, lj.1)))).flatten) l =
      rowsCover s rows.length C l := by
  intro rows
  induction rows with
  | nil => intro s l _; simp [cntL_nil, rowsCover]
  | cons row r ih =>
    intro s l hall
    simp only [List.zipIdx_cons, List.map_cons, List.flatten_cons, cntL_append, List.length_cons]
    rw [ih (s + 1) l (fun x hx => hall x (by simp [hx])), cntL_row s row 0 l, Nat.add_zero, hall row (by simp), rowsCover_succ]

theorem cntL_ppWeighted {rows : List (List Label)} {C : Nat} (hall : ∀ r ∈ rows, r.length = C) (l : Nat) :
    cntL (fun (x : Nat × Label) => x.1) (ppWeighted rows) l = ppProf rows.length C l := by
  unfold ppWeighted ppProf
  rw [cntL_ppRows C rows 0 l hall, rowsCover_eq]; omega

theorem ppProf_pos {R C l : Nat} (hR : 1 ≤ R) (hC : 1 ≤ C) (h : l + 1 < R + C) : 1 ≤ ppProf R C l := by
  unfold ppProf; omega

theorem ppProf_eq_zero {R C l : Nat} (h : R + C ≤ l + 1) : ppProf R C l = 0 := by
  unfold ppProf; omega

theorem ppProf_no_holes (R C : Nat) (hR : 1 ≤ R) (hC : 1 ≤ C) : NoHoles (ppProf R C) := by
  intro l h k hk
  have := @ppProf_pos R C l hR hC
  exact ppProf_eq_zero (by omega)

theorem rowsVal_true (v : Label → Bool) (n : Nat) : ∀ (rows : List (List Label)),
    (∀ r ∈ rows, r.length = n ∧ ∀ l ∈ r, v l = true) → rowsVal v rows + (2 ^ n - 1) = (2 ^ n - 1) * 2 ^ rows.length := by
  intro rows
  induction rows with
  | nil => intro _; simp [rowsVal]
  | cons r rs ih =>
    intro h
    have hr := h r (by simp)
    have h1 := valLE_true v r hr.2
    rw [hr.1] at h1
    have h2 := ih (fun r' hr' => h r' (by simp [hr']))
    simp only [rowsVal, List.length_cons, Nat.pow_succ]
    rw [← Nat.mul_assoc, ← h2]
    omega

theorem mul_on_host {c : Circuit} {v v' : Label → Bool} {x y : List Label} (be : Bool)
    (h2 : ∀ l ∈ c.labels, v' l = v l) (hx : ∀ l ∈ x, l ∈ c.labels) (hy : ∀ l ∈ y, l ∈ c.labels) :
    valLE v' (revIf x be) * valLE v' (revIf y be) = valLE v (revIf x be) * valLE v (revIf y be) := by
  rw [valLE_revIf_congr be h2 hx, valLE_revIf_congr be h2 hy]

/-- from a value theorem over `Sem` to a run on a host; `R` is whatever else the value theorem gives (the width) -/
theorem run_product {p : Prog (List Label)} {st st' : GSt} {x y out : List Label} {be : Bool} {R : Prop}
    (h : p.run st = .ok (out, st')) (hw : WFS st.c)
    (hx : ∀ l ∈ x, l ∈ st.c.labels) (hy : ∀ l ∈ y, l ∈ st.c.labels) {b v : Label → Bool} (hv : IsValB st.c b v)
    (hsem : ∀ v', Sem p v' out → valLE v' (revIf out be) = valLE v' (revIf x be) * valLE v' (revIf y be) ∧ R) :
    ∃ v', IsValB st'.c b v' ∧ (∀ l ∈ st.c.labels, v' l = v l) ∧
      valLE v' (revIf out be) = valLE v (revIf x be) * valLE v (revIf y be) ∧ R := by
  obtain ⟨v', h1, h2, h3⟩ := run_total h hw hv
  obtain ⟨e1, e2⟩ := hsem v' h3
  exact ⟨v', h1, h2, e1.trans (mul_on_host be h2 hx hy), e2⟩

end Cirbo
