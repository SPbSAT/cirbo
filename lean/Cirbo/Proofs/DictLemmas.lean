import Cirbo.Model.Dict
import Cirbo.Proofs.Lists
/-!
# Python `dict` as an association list: reading after writing, keys, folds of writes
-/
namespace Cirbo

def NodupKeys {α} (d : Dict α) : Prop := (d.map (·.1)).Nodup

theorem lookup_eq_get? {α} (d : Dict α) (l : Label) : List.lookup l d = Dict.get? d l := by
  induction d with
  | nil => rfl
  | cons p r ih =>
    obtain ⟨a, b⟩ := p
    by_cases h : l = a <;> simp [List.lookup_cons, Dict.get?, h, beq_false_of_ne, ih]

theorem Dict.mem_of_get? {α} {d : Dict α} {k : Label} {x : α} (h : d.get? k = some x) : (k, x) ∈ d :=
  List.mem_of_lookup ((lookup_eq_get? d k).trans h)

theorem get?_mem_values : ∀ (m : Dict Label) (k x : Label), Dict.get? m k = some x → x ∈ m.map (·.2) :=
  fun _ k x h => List.mem_map.mpr ⟨(k, x), Dict.mem_of_get? h, rfl⟩

theorem Dict.get?_append {α} (a b : Dict α) (k : Label) :
    Dict.get? (a ++ b) k = (Dict.get? a k).or (Dict.get? b k) := by
  simp only [← lookup_eq_get?, List.lookup_append]

theorem contains_iff_get? {α} {m : Dict α} {k : Label} : Dict.contains m k = true ↔ ∃ x, Dict.get? m k = some x :=
  Option.isSome_iff_exists

theorem contains_set {α} (d : Dict α) (k o : Label) (v : α) :
    (d.set k v).contains o = (decide (o = k) || d.contains o) := by
  unfold Dict.contains
  rw [Dict.get?_set]
  by_cases h : o = k <;> simp [h]

theorem get?_erase {α} (d : Dict α) (k k' : Label) : (Dict.erase d k).get? k' = if k' = k then none else d.get? k' := by
  induction d with
  | nil => simp [Dict.erase, Dict.get?]
  | cons p r ih =>
    obtain ⟨a, b⟩ := p
    simp only [Dict.erase, List.filter] at ih ⊢
    by_cases hak : a = k
    · subst hak
      simp only [beq_self_eq_true, Bool.not_true]
      rw [ih]
      by_cases hk : k' = a
      · simp [hk]
      · simp [hk, Dict.get?]
    · have : (a == k) = false := by simp [hak]
      simp only [this, Bool.not_false, Dict.get?, ih]
      by_cases hk : k' = k
      · subst hk; simp [Ne.symm hak]
      · simp [hk]

theorem contains_iff_mem_keys {α} : ∀ {d : Dict α} {l : Label}, d.contains l = true ↔ l ∈ d.map (·.1)
  | [], _ => by simp [Dict.contains, Dict.get?]
  | (c, e) :: t, l => by
    have ih := contains_iff_mem_keys (d := t) (l := l)
    unfold Dict.contains at ih ⊢
    by_cases h : l = c <;> simp [Dict.get?, h, ih]

theorem get?_eq_none_of_not_mem_keys {α} {d : Dict α} {l : Label} (h : l ∉ d.map (·.1)) : d.get? l = none :=
  Option.not_isSome_iff_eq_none.mp fun hs => h (contains_iff_mem_keys.mp hs)

theorem get?_eq_of_mem {α} {d : Dict α} (h : NodupKeys d) {k : Label} {x : α} (hm : (k, x) ∈ d) : d.get? k = some x := by
  induction d with
  | nil => cases hm
  | cons p r ih =>
    obtain ⟨a, b⟩ := p
    have h' : a ∉ r.map (·.1) ∧ (r.map (·.1)).Nodup := List.nodup_cons.mp h
    simp only [Dict.get?]
    rcases List.mem_cons.mp hm with he | hm2
    · cases he; simp
    · have : k ≠ a := by
        intro e; subst e
        exact h'.1 (List.mem_map.mpr ⟨(k, x), hm2, rfl⟩)
      simp [this, ih h'.2 hm2]

theorem dict_keys_set {α} (d : Dict α) (k : Label) (v : α) :
    (Dict.set d k v).map (·.1) = if k ∈ d.map (·.1) then d.map (·.1) else d.map (·.1) ++ [k] := by
  induction d with
  | nil => simp [Dict.set]
  | cons p r ih =>
    obtain ⟨a, b⟩ := p
    simp only [Dict.set]
    by_cases hka : k = a
    · subst hka; simp
    · simp only [hka, if_false, List.map_cons, ih, List.mem_cons, false_or]
      split <;> simp

theorem nodupKeys_set {α} (d : Dict α) (k : Label) (v : α) (h : NodupKeys d) : NodupKeys (d.set k v) := by
  unfold NodupKeys
  rw [dict_keys_set]
  split
  · exact h
  · rename_i hk
    rw [List.nodup_append]
    exact ⟨h, by simp, by intro a ha b hb; simp at hb; subst hb; exact fun e => hk (e ▸ ha)⟩

theorem nodupKeys_setDefault {α} (d : Dict α) (k : Label) (x : α) (h : NodupKeys d) : NodupKeys (d.setDefault k x) := by
  unfold Dict.setDefault; split
  · exact h
  · exact nodupKeys_set d k x h

theorem nodupKeys_foldSet {α} : ∀ (ps : List (Label × α)) (d : Dict α), NodupKeys d →
    NodupKeys (ps.foldl (fun d p => Dict.set d p.1 p.2) d) := by
  intro ps; induction ps with
  | nil => intro d h; exact h
  | cons p r ih => intro d h; exact ih _ (nodupKeys_set d p.1 p.2 h)

theorem Dict.get?_foldl_set {α} : ∀ (ps : List (Label × α)) (m : Dict α) (k : Label),
    (ps.foldl (fun m p => Dict.set m p.1 p.2) m).get? k = (Dict.get? ps.reverse k).or (m.get? k)
  | [], m, k => rfl
  | p :: r, m, k => by
    rw [List.foldl_cons, Dict.get?_foldl_set r, Dict.get?_set, List.reverse_cons, Dict.get?_append]
    cases Dict.get? r.reverse k with
    | some x => rfl
    | none => simp only [Dict.get?, Option.none_or]; split <;> rfl

theorem Dict.get?_foldl_set_nil {α} (ps : List (Label × α)) (k : Label) :
    (ps.foldl (fun m p => Dict.set m p.1 p.2) []).get? k = Dict.get? ps.reverse k := by
  rw [Dict.get?_foldl_set]
  exact Option.or_none

theorem Dict.get?_set_some {α} {d : Dict α} {k x : Label} {y p : α} (h : Dict.get? (Dict.set d k y) x = some p) :
    x = k ∧ y = p ∨ Dict.get? d x = some p := by
  rw [Dict.get?_set] at h
  split at h
  · exact .inl ⟨‹_›, Option.some.inj h⟩
  · exact .inr h

theorem Dict.get?_set_defined {α} {d : Dict α} {k x : Label} {y : α} (h : ∃ p, Dict.get? d x = some p) :
    ∃ p, Dict.get? (Dict.set d k y) x = some p := by
  rw [Dict.get?_set]; split
  · exact ⟨_, rfl⟩
  · exact h

theorem get?_map_pair {α} (ls : List Label) (f : Label → α) (k : Label) :
    Dict.get? (ls.map (fun i => (i, f i))) k = if k ∈ ls then some (f k) else none := by
  induction ls with
  | nil => simp [Dict.get?]
  | cons i r ih =>
    simp only [List.map_cons, Dict.get?, ih, List.mem_cons]
    by_cases h : k = i
    · subst h; simp
    · simp [h]

theorem get?_foldSet_pairs {α} (f : Label → α) (ls : List Label) (d : Dict α) (k : Label) :
    ((ls.map (fun i => (i, f i))).foldl (fun d p => Dict.set d p.1 p.2) d).get? k =
      if k ∈ ls then some (f k) else d.get? k := by
  rw [Dict.get?_foldl_set, ← List.map_reverse, get?_map_pair]
  by_cases h : k ∈ ls <;> simp [h]

end Cirbo
