import Cirbo.Proofs.CodecTotal
import Cirbo.Proofs.Val
import Std.Data.String.ToNat
import Cirbo.Proofs.Mutate
/-!
# `decode_circuit(encode_circuit(c))` gives back `c` up to the dependency-order renaming (C16)

The encoder's output is known field by field (`encode_unfold`); the decoder reads field after field, each where
the one before ended (`At`).
-/
namespace Cirbo
open Circuit GateType

/-- the bits `bs` stand at bit position `pos` of the packed stream -/
def At (bytes : List Nat) (pos : Nat) (bs : List Bool) : Prop :=
  ∃ pre post, bytes = packBytes (pre ++ bs ++ post) ∧ pre.length = pos

theorem At.whole (bits : List Bool) : At (packBytes bits) 0 bits :=
  ⟨[], [], by rw [List.nil_append, List.append_nil], rfl⟩

theorem At.split {bytes : List Nat} {pos : Nat} {a b : List Bool} (h : At bytes pos (a ++ b)) :
    At bytes pos a ∧ At bytes (pos + a.length) b := by
  obtain ⟨pre, post, rfl, rfl⟩ := h
  exact ⟨⟨pre, b ++ post, by simp, rfl⟩, ⟨pre ++ a, post, by simp, by simp⟩⟩

theorem At.read {bytes : List Nat} {pos k w : Nat} (h : At bytes pos (numBits k w)) (hk : k < 2 ^ w) :
    rnum bytes pos w = .ok (k, pos + w) := by
  obtain ⟨pre, post, rfl, rfl⟩ := h
  unfold rnum
  rw [readNumber_roundtrip pre post k w hk]

theorem idsBits_length (ws : Nat) (is : List Nat) : (idsBits ws is).length = is.length * ws := by
  induction is with
  | nil => simp [idsBits]
  | cons i t ih =>
    simp only [idsBits, List.flatMap_cons, List.length_append, numBits_length, List.length_cons] at ih ⊢
    rw [ih, Nat.add_mul]; omega

theorem idsBits_cons (ws i : Nat) (t : List Nat) : idsBits ws (i :: t) = numBits i ws ++ idsBits ws t := rfl

theorem decodeOperands_spec {bytes : List Nat} {ws count : Nat} : ∀ (is : List Nat) (pos : Nat),
    At bytes pos (idsBits ws is) → (∀ i ∈ is, i < 2 ^ ws ∧ i < count) →
    decodeOperands bytes ws count is.length pos = .ok (is.map gateLabel, pos + (idsBits ws is).length) := by
  intro is
  induction is with
  | nil => intro pos _ _; rfl
  | cons i t ih =>
    intro pos hat h
    obtain ⟨h1, h2⟩ := h i (by simp)
    obtain ⟨ha, hb⟩ := hat.split
    rw [numBits_length] at hb
    simp only [List.length_cons, decodeOperands, bind, Except.bind, ha.read h1, h2, if_true,
      ih _ hb (fun x hx => h x (by simp [hx])), List.map_cons, idsBits_cons,
      List.length_append, numBits_length, Nat.add_assoc]

theorem gateLabel_inj {i j : Nat} (h : gateLabel i = gateLabel j) : i = j := by
  unfold gateLabel at h
  have h2 := congrArg String.toList h
  simp only [String.toList_append] at h2
  have h3 := List.append_cancel_left h2
  have h4 : toString i = toString j := String.toList_inj.mp h3
  exact Nat.repr_injective h4

/-- a record the decoder accepts as gate number `count`: `Conforms`, said of the record, and identifiers that fit the id
width and name earlier gates -/
def RecOK (ws count : Nat) (r : Rec) : Prop :=
  (∃ tid, Gen.codecTypeId r.1 = some tid) ∧ r.2.length = Gen.codecArity r.1 ∧ ∀ i ∈ r.2, i < 2 ^ ws ∧ i < count

def recGate (count : Nat) (r : Rec) : Gate := ⟨gateLabel count, r.1, r.2.map gateLabel⟩

def recGates : Nat → List Rec → List Gate
  | _, [] => []
  | count, r :: t => recGate count r :: recGates (count + 1) t

theorem recGates_append : ∀ (A B : List Rec) (n : Nat),
    recGates n (A ++ B) = recGates n A ++ recGates (n + A.length) B := by
  intro A B
  induction A with
  | nil => intro n; rfl
  | cons a A ih =>
    intro n
    simp only [List.cons_append, recGates, ih (n + 1), List.length_cons, Nat.add_assoc, Nat.add_comm 1]

def RecsOK (ws : Nat) : Nat → List Rec → Prop
  | _, [] => True
  | count, r :: t => RecOK ws count r ∧ RecsOK ws (count + 1) t

theorem mem_gateLabels {count i : Nat} : gateLabel i ∈ (List.range count).map gateLabel ↔ i < count := by
  simp only [List.mem_map, List.mem_range]
  exact ⟨fun ⟨j, hj, e⟩ => gateLabel_inj e ▸ hj, fun h => ⟨i, h, rfl⟩⟩

theorem addGate_next {c0 : Circuit} {count : Nat} (hl : c0.labels = (List.range count).map gateLabel)
    (ty : GateType) {is : List Nat} (his : ∀ i ∈ is, i < count) :
    ∃ c1, c0.addGate ⟨gateLabel count, ty, is.map gateLabel⟩ = .ok c1 ∧
      c1.gates = c0.gates ++ [⟨gateLabel count, ty, is.map gateLabel⟩] ∧
      c1.inputs = (if ty = INPUT then c0.inputs ++ [gateLabel count] else c0.inputs) ∧
      c1.outputs = c0.outputs ∧ c1.labels = (List.range (count + 1)).map gateLabel := by
  have hfresh : gateLabel count ∉ c0.labels := by
    rw [hl, mem_gateLabels]
    exact Nat.lt_irrefl _
  have hops : ∀ o ∈ is.map gateLabel, o ∈ c0.labels := by
    rw [hl, List.forall_mem_map]
    exact fun i hi => mem_gateLabels.mpr (his i hi)
  obtain ⟨hg1, hi1, ho1, _⟩ := rawAddGate_fields (g := ⟨gateLabel count, ty, is.map gateLabel⟩) hfresh
  refine ⟨_, addGate_ok_iff.mpr ⟨hfresh, hops, rfl⟩, hg1, hi1, ho1, ?_⟩
  unfold Circuit.labels at hl ⊢
  rw [hg1, List.map_append, hl, List.range_succ]; simp

theorem decodeGates_spec {bytes : List Nat} (ws : Nat) : ∀ (R : List Rec) (pos : Nat) (c0 : Circuit) (count0 : Nat),
    At bytes pos (recsBits ws R) → c0.labels = (List.range count0).map gateLabel → RecsOK ws count0 R →
    ∃ cN, decodeGates bytes ws R.length ⟨pos, c0, count0⟩
        = .ok ⟨pos + (recsBits ws R).length, cN, count0 + R.length⟩ ∧
      cN.gates = c0.gates ++ recGates count0 R ∧ cN.inputs = c0.inputs ∧ cN.outputs = c0.outputs ∧
      cN.labels = (List.range (count0 + R.length)).map gateLabel := by
  intro R
  induction R with
  | nil => intro pos c0 count0 _ hl _; exact ⟨c0, rfl, by simp [recGates], rfl, rfl, hl⟩
  | cons r t ih =>
    intro pos c0 count0 hat hl ⟨⟨⟨tid, htid⟩, hlen, hids⟩, hrest⟩
    obtain ⟨t1, t2, t3⟩ := codecType_table htid
    obtain ⟨c1, hc1, hg1, hi1, ho1, hl1⟩ := addGate_next hl r.1 (fun i hi => (hids i hi).2)
    have hbits : recsBits ws (r :: t) = numBits tid Gen.gateTypeBitSize ++ (idsBits ws r.2 ++ recsBits ws t) := by
      simp [recsBits, recBits, htid]
    rw [hbits] at hat ⊢
    obtain ⟨ha, hb⟩ := hat.split
    obtain ⟨hb, hc⟩ := hb.split
    obtain ⟨cN, hN, gN, iN, oN, lN⟩ := ih _ c1 (count0 + 1) hc hl1 hrest
    have hdo := decodeOperands_spec r.2 _ hb hids
    rw [hlen] at hdo
    simp only [numBits_length] at hdo hN
    refine ⟨cN, ?_, by rw [gN, hg1]; simp [recGates, recGate], by rw [iN, hi1, if_neg t3], by rw [oN, ho1], ?_⟩
    · simp only [List.length_cons, decodeGates, bind, Except.bind, ha.read t1, t2, hdo, hc1, hN]
      simp only [List.length_append, numBits_length, Nat.add_assoc, Nat.add_comm 1]
    · rw [lN, List.length_cons, Nat.add_assoc, Nat.add_comm 1]

theorem codec_addInputs_spec : ∀ (n i : Nat) (c0 : Circuit), c0.labels = (List.range i).map gateLabel →
    ∃ c1, Cirbo.addInputs c0 n i = .ok c1 ∧
      c1.gates = c0.gates ++ recGates i (List.replicate n (INPUT, [])) ∧
      c1.inputs = c0.inputs ++ (List.range' i n).map gateLabel ∧ c1.outputs = c0.outputs ∧
      c1.labels = (List.range (i + n)).map gateLabel := by
  intro n
  induction n with
  | zero => intro i c0 hl; exact ⟨c0, rfl, by simp [recGates], by simp, rfl, hl⟩
  | succ n ih =>
    intro i c0 hl
    obtain ⟨c1, hc1, hg1, hi1, ho1, hl1⟩ := addGate_next hl INPUT (is := []) (fun _ h => nomatch h)
    have hc1 : c0.addGate ⟨gateLabel i, INPUT, []⟩ = .ok c1 := hc1
    obtain ⟨c2, h2, g2, i2, o2, l2⟩ := ih (i + 1) c1 hl1
    refine ⟨c2, ?_, ?_, ?_, by rw [o2, ho1], by rw [l2, Nat.add_assoc, Nat.add_comm 1]⟩
    · simp only [Cirbo.addInputs, bind, Except.bind, hc1]; exact h2
    · rw [g2, hg1]; simp [List.replicate_succ, recGates, recGate]
    · rw [i2, hi1, List.range'_succ]; simp

theorem decodeOutputs_spec {bytes : List Nat} {ws total : Nat} : ∀ (os : List Nat) (pos : Nat) (c0 : Circuit),
    At bytes pos (idsBits ws os) → c0.labels = (List.range total).map gateLabel →
    (∀ i ∈ os, i < 2 ^ ws ∧ i < total) →
    ∃ c1, decodeOutputs bytes ws os.length pos c0 = .ok c1 ∧
      c1.gates = c0.gates ∧ c1.inputs = c0.inputs ∧ c1.outputs = c0.outputs ++ os.map gateLabel := by
  intro os
  induction os with
  | nil => intro pos c0 _ _ _; exact ⟨c0, rfl, rfl, rfl, by simp⟩
  | cons i t ih =>
    intro pos c0 hat hl h
    obtain ⟨h1, h2⟩ := h i (by simp)
    obtain ⟨ha, hb⟩ := hat.split
    have hmark : c0.markAsOutput (gateLabel i) = .ok { c0 with outputs := c0.outputs ++ [gateLabel i] } := by
      have hhas : c0.hasGate (gateLabel i) = true := by rwa [hasGate_iff, hl, mem_gateLabels]
      simp [markAsOutput, hhas]
    obtain ⟨c1, hc1, g1, i1, o1⟩ := ih _ { c0 with outputs := c0.outputs ++ [gateLabel i] } hb
      hl (fun x hx => h x (by simp [hx]))
    rw [numBits_length] at hc1
    exact ⟨c1, by simp only [List.length_cons, decodeOutputs, bind, Except.bind, ha.read h1, hmark, hc1],
      g1, i1, by rw [o1]; simp⟩

theorem decode_structured {bytes : List Nat} (ws ni : Nat) (R : List Rec) (os : List Nat)
    (h : At bytes 0 (numBits ws 8 ++ (numBits ni ws ++ (numBits os.length ws ++
      (numBits R.length ws ++ (recsBits ws R ++ idsBits ws os))))))
    (hws : ws < 2 ^ 8) (hni : ni < 2 ^ ws) (hno : os.length < 2 ^ ws) (hnm : R.length < 2 ^ ws)
    (hR : RecsOK ws ni R) (hos : ∀ i ∈ os, i < 2 ^ ws ∧ i < ni + R.length) :
    ∃ D, decodeCircuit bytes = .ok D ∧
      D.gates = recGates 0 (List.replicate ni (INPUT, []) ++ R) ∧
      D.inputs = (List.range' 0 ni).map gateLabel ∧ D.outputs = os.map gateLabel := by
  obtain ⟨r0, h⟩ := h.split
  obtain ⟨r1, h⟩ := h.split
  obtain ⟨r2, h⟩ := h.split
  obtain ⟨r3, h⟩ := h.split
  obtain ⟨r4, r5⟩ := h.split
  obtain ⟨c0, hc0, g0, i0, o0, l0⟩ := codec_addInputs_spec ni 0 Circuit.empty rfl
  rw [Nat.zero_add] at l0
  obtain ⟨cN, hN, gN, iN, oN, lN⟩ := decodeGates_spec ws R _ c0 ni r4 l0 hR
  obtain ⟨D, hD, gD, iD, oD⟩ := decodeOutputs_spec os _ cN r5 lN hos
  simp only [numBits_length] at r1 r2 r3 hN hD
  refine ⟨D, ?_, ?_, ?_, ?_⟩
  · simp only [decodeCircuit, bind, Except.bind, r0.read hws, r1.read hni, r2.read hno, r3.read hnm, hc0, hN, hD]
  · rw [gD, gN, g0, recGates_append]; simp [Circuit.empty]
  · rw [iD, iN, i0]; simp [Circuit.empty]
  · rw [oD, oN, o0]; simp [Circuit.empty]

theorem wnum_error (e : String) (k w : Nat) : wnum (.error e) k w = .error e := rfl

theorem nonInputGates_cons {c : Circuit} {l : Label} {g : Gate} (hf : c.find? l = some g) (t : List Label) :
    nonInputGates c (l :: t) = if g.ty = INPUT then nonInputGates c t else g :: nonInputGates c t := by
  by_cases hty : g.ty = INPUT <;> simp [nonInputGates, hf, hty]

/-- the dependency-order renaming of a gate -/
def renC (ids : List Label) (g : Gate) : Gate :=
  ⟨gateLabel (ids.idxOf g.label), g.ty, g.ops.map (fun o => gateLabel (ids.idxOf o))⟩

theorem idxOf_mid {p q : List Label} {x : Label} (hx : x ∉ p) : (p ++ x :: q).idxOf x = p.length := by
  rw [List.idxOf_append]
  simp [hx]

theorem map_idxOf_segment : ∀ (q p tail : List Label), (p ++ q ++ tail).Nodup →
    q.map (fun l => (p ++ q ++ tail).idxOf l) = List.range' p.length q.length := by
  intro q
  induction q with
  | nil => intro _ _ _; rfl
  | cons x t ih =>
    intro p tail hnd
    have e : p ++ x :: t ++ tail = p ++ [x] ++ t ++ tail := by simp
    have hxp : x ∉ p := fun hm =>
      (List.nodup_append.mp (List.nodup_append.mp hnd).1).2.2 x hm x List.mem_cons_self rfl
    have ih := ih (p ++ [x]) tail (e ▸ hnd)
    rw [← e, List.length_append, List.length_singleton] at ih
    rw [List.map_cons, ih, List.length_cons, List.range'_succ, List.append_assoc, List.cons_append, idxOf_mid hxp]

theorem recGates_renC (ids : List Label) : ∀ (gs : List Gate) (n : Nat),
    (gs.map (·.label)).map (fun l => ids.idxOf l) = List.range' n gs.length →
    recGates n (gs.map (recOf ids)) = gs.map (renC ids) := by
  intro gs
  induction gs with
  | nil => intro _ _; rfl
  | cons g t ih =>
    intro n h
    rw [List.map_cons, List.map_cons, List.length_cons, List.range'_succ, List.cons.injEq] at h
    simp only [List.map_cons, recGates, ih (n + 1) h.2, recGate, recOf, renC, h.1, List.map_map,
      Function.comp_def]

theorem filterMap_find_map {c : Circuit} {f : Label → Gate} : ∀ (ls : List Label),
    (∀ l ∈ ls, c.find? l = some (f l)) → ls.filterMap c.find? = ls.map f := by
  intro ls
  induction ls with
  | nil => intro _; rfl
  | cons l t ih =>
    intro h
    rw [List.filterMap_cons_some (h l List.mem_cons_self), List.map_cons,
      ih fun x hx => h x (List.mem_cons_of_mem _ hx)]

/-- the records of the non-input tail `q` of the enumeration are acceptable to the decoder: operands come earlier -/
theorem recs_of_enum (c : Circuit) (ids : List Label) (ws : Nat)
    (hbefore : ∀ p x q, ids = p ++ x :: q → ∀ o ∈ c.opsOf x, o ∈ p)
    (hconf : ∀ g ∈ c.gates, Conforms g) (hfit : ∀ g ∈ c.gates, ∀ o ∈ g.ops, ids.idxOf o < 2 ^ ws) :
    ∀ (q p : List Label), ids = p ++ q → (∀ l ∈ q, ∃ g, c.find? l = some g ∧ g.ty ≠ INPUT) →
      RecsOK ws p.length ((nonInputGates c q).map (recOf ids)) ∧
      nonInputGates c q = q.filterMap c.find? ∧ (nonInputGates c q).length = q.length := by
  intro q
  induction q with
  | nil => intro p _ _; simp [nonInputGates, RecsOK]
  | cons x t ih =>
    intro p hids hq
    obtain ⟨g, hf, hty⟩ := hq x (by simp)
    have hgm := (find_some_mem hf).1
    obtain ⟨h1, h2⟩ := hconf g hgm hty
    obtain ⟨a0, a1, a2⟩ := ih (p ++ [x]) (by rw [hids]; simp)
      (fun l hl => hq l (by simp [hl]))
    rw [List.length_append, List.length_singleton] at a0
    rw [nonInputGates_cons hf, if_neg hty, List.filterMap_cons_some hf, a1]
    refine ⟨⟨⟨Option.isSome_iff_exists.mp h1, by simp [recOf, h2], fun i hi => ?_⟩, a1 ▸ a0⟩, rfl, by simp [← a1, a2]⟩
    obtain ⟨o, ho, rfl⟩ := List.mem_map.mp hi
    have hop : o ∈ p := hbefore p x t hids o (by simp [Circuit.opsOf, hf, ho])
    refine ⟨hfit g hgm o ho, ?_⟩
    rw [hids, List.idxOf_append, if_pos hop]
    exact List.idxOf_lt_length_of_mem hop

theorem codec_roundtrip {c : Circuit} (hw : WFS c) {bytes : List Nat} (he : encodeCircuit c = .ok bytes) :
    ∃ D, decodeCircuit bytes = .ok D ∧
      D.gates = ((enumerateGates c).filterMap c.find?).map (renC (enumerateGates c)) ∧
      D.inputs = c.inputs.map (fun l => gateLabel ((enumerateGates c).idxOf l)) ∧
      D.outputs = c.outputs.map (fun l => gateLabel ((enumerateGates c).idxOf l)) ∧
      (enumerateGates c).Nodup ∧ (∀ l, l ∈ enumerateGates c ↔ l ∈ c.labels) := by
  have hok := enumerateGates_wfs hw
  obtain ⟨rest, hrest⟩ := hok.inputsFirst
  obtain ⟨hbytes, ⟨hws, hnm⟩, hconf⟩ := encode_unfold hw he
  have hb : At bytes 0 (encBits c) := hbytes ▸ At.whole _
  have hni := wordSize_fit hw (k := c.inputs.length) (by omega)
  have hno := wordSize_fit hw (k := c.outputs.length) (by omega)
  have hopfit := fun g hg o ho => (id_fits hw (hw.closed g hg o ho)).2
  have houtfit := fun o ho => id_fits hw (hw.outputsOK o ho)
  unfold encBits at hb
  generalize hids : enumerateGates c = ids at hok hrest hb hopfit houtfit ⊢
  have hrestG : ∀ l ∈ rest, ∃ g, c.find? l = some g ∧ g.ty ≠ INPUT := by
    intro l hl
    obtain ⟨g, hg, rfl⟩ := gate_of_label ((hok.all l).mp (hrest ▸ List.mem_append_right _ hl))
    refine ⟨g, find_label hw.nodup hg, fun hty => ?_⟩
    exact (List.nodup_append.mp (hrest ▸ hok.nodup)).2.2 _ ((hw.inputsOK _).mpr ⟨g, hg, rfl, hty⟩) _ hl rfl
  have hinG : ∀ l ∈ c.inputs, c.find? l = some ⟨l, INPUT, []⟩ := by
    intro l hl
    obtain ⟨⟨a, b, d⟩, hg, rfl, rfl⟩ := (hw.inputsOK l).mp hl
    obtain rfl : d = [] := hw.inputOps _ hg rfl
    exact find_label hw.nodup hg
  obtain ⟨hRok, hrestF, lenG⟩ := recs_of_enum c ids (wordSize c) hok.before hconf hopfit rest c.inputs hrest hrestG
  -- all gates in enumeration order, and their records: `(INPUT, [])` for the inputs, then those written
  have hfound : ∀ l ∈ ids, ∃ g, c.find? l = some g := by
    intro l hl
    rcases List.mem_append.mp (hrest ▸ hl) with h | h
    · exact ⟨_, hinG l h⟩
    · exact (hrestG l h).imp fun _ h => h.1
  have hlab := filterMap_find_labels hfound
  have hinF := filterMap_find_map c.inputs hinG
  have hni_split : nonInputGates c ids = nonInputGates c rest := by
    simp [nonInputGates, hrest, List.filterMap_append, hinF, List.filter_map, Function.comp_def]
  have hrecs : (ids.filterMap c.find?).map (recOf ids) =
      List.replicate c.inputs.length (INPUT, []) ++ (nonInputGates c rest).map (recOf ids) := by
    rw [show ids.filterMap c.find? = c.inputs.filterMap c.find? ++ rest.filterMap c.find? by
      rw [hrest, List.filterMap_append], List.map_append, hinF, ← hrestF]
    simp [recOf, Function.comp_def, List.map_const']
  have hlenR : ((nonInputGates c rest).map (recOf ids)).length = nonInputCount c := by
    have hperm : (ids.filterMap c.find?).Perm c.gates :=
      (List.perm_ext_iff_of_nodup (.of_map (·.label) (hlab.symm ▸ hok.nodup)) (.of_map Gate.label (l := c.gates) hw.nodup)).mpr
        fun _ => hids ▸ mem_enumGates hw
    rw [List.length_map, ← hni_split]
    exact (hperm.filter _).length_eq
  obtain ⟨D, hD, gD, iD, oD⟩ := decode_structured (wordSize c) c.inputs.length ((nonInputGates c rest).map (recOf ids))
    (c.outputs.map (fun o => ids.idxOf o)) (by rw [hlenR, List.length_map, ← hni_split]; exact hb)
    hws hni (by simpa using hno) (by rw [hlenR]; exact hnm) hRok
    (by
      intro i hi
      obtain ⟨o, ho, rfl⟩ := List.mem_map.mp hi
      refine ⟨(houtfit o ho).2, ?_⟩
      have := List.idxOf_lt_length_of_mem (houtfit o ho).1
      rw [List.length_map, lenG]
      simpa [hrest] using this)
  have hseg := map_idxOf_segment ids [] [] (by simpa using hok.nodup)
  have hsegI := map_idxOf_segment c.inputs [] rest (by simpa [hrest] using hok.nodup)
  simp only [List.nil_append, List.append_nil, List.length_nil, ← hrest] at hseg hsegI
  refine ⟨D, hD, ?_, ?_, by rw [oD, List.map_map]; rfl, hok.nodup, hok.all⟩
  · rw [gD, ← hrecs]
    refine recGates_renC ids _ 0 ?_
    have hlen : (ids.filterMap c.find?).length = ids.length := by simpa using congrArg List.length hlab
    rw [hlab, hseg, hlen]
  · rw [iD, ← hsegI, List.map_map]; rfl

theorem codec_roundtrip_refines {c : Circuit} (hw : WFS c) {bytes : List Nat} (he : encodeCircuit c = .ok bytes)
    {D : Circuit} (hd : decodeCircuit bytes = .ok D) : Refines c D := by
  obtain ⟨D', hD, gD, iD, oD, hnd, hall⟩ := codec_roundtrip hw he
  cases hD.symm.trans hd
  generalize enumerateGates c = ids at gD iD oD hnd hall
  -- read a decoded label back: the first label of `ids` renamed to it (`""` if there is none: never read)
  let un : Label → Label := fun l' => (ids.find? (fun l => gateLabel (ids.idxOf l) == l')).getD ""
  have hun : ∀ l ∈ c.labels, un (gateLabel (ids.idxOf l)) = l := by
    intro l hl
    have hl := (hall l).mpr hl
    obtain ⟨y, hf⟩ : ∃ y, ids.find? (fun x => gateLabel (ids.idxOf x) == gateLabel (ids.idxOf l)) = some y :=
      Option.isSome_iff_exists.mp (List.find?_isSome.mpr ⟨l, hl, beq_self_eq_true _⟩)
    have hy := List.find?_some hf
    simp only [beq_iff_eq] at hy
    have h1 := List.getElem_idxOf (List.idxOf_lt_length_of_mem (List.mem_of_find?_eq_some hf))
    simp only [gateLabel_inj hy] at h1
    simp only [un, hf, Option.getD_some, ← h1, List.getElem_idxOf (List.idxOf_lt_length_of_mem hl)]
  have hmap : ∀ {β : Type} (f : Label → β) (ls : List Label), (∀ l ∈ ls, l ∈ c.labels) →
      (ls.map (fun l => gateLabel (ids.idxOf l))).map (f ∘ un) = ls.map f := by
    intro β f ls h
    rw [List.map_map]
    exact List.map_congr_left fun l hl => congrArg f (hun l (h l hl))
  refine ⟨un, iD ▸ (hmap id _ fun i hi => let ⟨_, hg, e, _⟩ := (hw.inputsOK i).mp hi; e ▸ mem_labels_of_mem hg).trans
    (List.map_id _), fun b v hv => ⟨v ∘ un, fun g' hg' => ?_, oD ▸ hmap v _ hw.outputsOK⟩⟩
  rw [gD] at hg'
  obtain ⟨g, hg, rfl⟩ := List.mem_map.mp hg'
  obtain ⟨l, -, hfl⟩ := List.mem_filterMap.mp hg
  obtain ⟨hgm, -⟩ := find_some_mem hfl
  have := hv g hgm
  simp only [renC, Function.comp, hun g.label (mem_labels_of_mem hgm)]
  by_cases ht : g.ty = INPUT
  · simpa [ht] using this
  · simp only [ht, if_false] at this ⊢
    rwa [hmap v g.ops (hw.closed g hgm)]

theorem ct_roundtrip_total {c : Circuit} (hw : WFS c)
    (hconf : ∀ g ∈ c.gates, Conforms g) (hws : wordSize c < 256) :
    ∃ bytes D, encodeCircuit c = .ok bytes ∧ decodeCircuit bytes = .ok D ∧
      D.gates = ((enumerateGates c).filterMap c.find?).map (renC (enumerateGates c)) ∧
      D.inputs = c.inputs.map (fun l => gateLabel ((enumerateGates c).idxOf l)) ∧
      D.outputs = c.outputs.map (fun l => gateLabel ((enumerateGates c).idxOf l)) := by
  obtain ⟨bytes, he⟩ := ct_encode_total hw hconf hws
  obtain ⟨D, hd, g1, g2, g3, _⟩ := codec_roundtrip hw he
  exact ⟨bytes, D, he, hd, g1, g2, g3⟩

end Cirbo

#print axioms Cirbo.ct_roundtrip_total
