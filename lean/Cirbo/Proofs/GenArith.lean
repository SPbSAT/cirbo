import Cirbo.Proofs.GenSum
/-!
# Value theorems for subtraction, comparison and the gadgets (over `Sem`)

In `addSub2 ins false`, `addSub3 ins false` the `false` is the blocks' `bigEndian` argument.
-/
namespace Cirbo
open GateType

theorem sem_addSub2 {ins : List Label} {v : Label → Bool} {r : List Label} (h : Sem (addSub2 ins false) v r) :
    ∃ x y d bo, ins = [x, y] ∧ r = [d, bo] ∧ bv v x + 2 * bv v bo = bv v y + bv v d := by
  unfold addSub2 at h
  split at h
  · rename_i x y heq
    simp only [sem_bind, sem_pure] at h
    obtain ⟨g1, h1, g2, h2, rfl⟩ := h
    refine ⟨x, y, g1, g2, heq, rfl, ?_⟩
    simp only [bv, sem_emitTT h1, sem_emitTT h2]
    cases v x <;> cases v y <;> rfl
  · exact absurd h sem_fail

theorem sem_addSub3 {ins : List Label} {v : Label → Bool} {r : List Label} (h : Sem (addSub3 ins false) v r) :
    ∃ x y bi d bo, ins = [x, y, bi] ∧ r = [d, bo] ∧ bv v x + 2 * bv v bo = bv v y + bv v bi + bv v d := by
  unfold addSub3 at h
  split at h
  · rename_i x y z heq
    simp only [sem_bind, sem_pure] at h
    obtain ⟨g3, h3, g4, h4, g5, h5, g6, h6, g7, h7, rfl⟩ := h
    refine ⟨x, y, z, g6, g7, heq, rfl, ?_⟩
    simp only [bv, sem_emitTT h7, sem_emitTT h6, sem_emitTT h5, sem_emitTT h4, sem_emitTT h3]
    cases v x <;> cases v y <;> cases v z <;> rfl
  · exact absurd h sem_fail

theorem valLE_take_succ (v : Label → Bool) (y : Label) (ys : List Label) (n : Nat) :
    valLE v ((y :: ys).take (n + 1)) = bv v y + 2 * valLE v (ys.take n) := by
  simp [List.take, valLE]

/-- one position of a borrow ripple: bits `x`, `y` and borrow `bi` in, difference bit `d` and borrow `bo` out -/
theorem borrow_step {x y bi d bo X Y D n b' : Nat} (hbit : x + 2 * bo = y + bi + d)
    (h : X + 2 ^ n * b' = Y + bo + D) : x + 2 * X + 2 ^ (n + 1) * b' = y + 2 * Y + bi + (d + 2 * D) := by
  rw [pow_succ_mul]; omega

theorem sem_subChain {v : Label → Bool} : ∀ (xs ys res : List Label) (bal : Label) (res' : List Label) (bal' : Label),
    Sem (subChain xs ys res bal) v (res', bal') →
      ∃ ds, res' = res ++ ds ∧ ds.length = xs.length ∧
        valLE v xs + 2 ^ xs.length * bv v bal' = valLE v (ys.take xs.length) + bv v bal + valLE v ds := by
  intro xs
  induction xs with
  | nil =>
    intro ys res bal res' bal' h
    simp only [subChain, sem_pure, Prod.mk.injEq] at h
    obtain ⟨rfl, rfl⟩ := h
    exact ⟨[], by simp, rfl, by simp [valLE]⟩
  | cons x xs ih =>
    intro ys res bal res' bal' h
    simp only [subChain, sem_bind] at h
    obtain ⟨r, hr, ⟨d, b1⟩, hp, hrec⟩ := h
    have := sem_pair2 hp; subst this
    obtain ⟨ds, hds, hlen, hval⟩ := ih _ _ _ _ _ hrec
    refine ⟨d :: ds, by rw [hds, List.append_assoc]; rfl, congrArg (· + 1) hlen, ?_⟩
    cases ys with
    | nil =>
      -- the subtrahend is exhausted: it supplies zero bits
      obtain ⟨x', y', d', bo, hin, hout, hv⟩ := sem_addSub2 hr
      cases hin; cases hout
      rw [List.tail_nil, List.take_nil] at hval
      exact borrow_step (y := 0) (Y := 0) (by rw [Nat.zero_add]; exact hv) hval
    | cons y yr =>
      obtain ⟨x', y', bi, d', bo, hin, hout, hv⟩ := sem_addSub3 hr
      cases hin; cases hout
      exact borrow_step hv hval

theorem sem_subCore {v : Label → Bool} {a b res : List Label} {bal : Label} (h : Sem (subCore a b) v (res, bal)) :
    res.length = a.length ∧
    valLE v a + 2 ^ a.length * bv v bal = valLE v (b.take a.length) + valLE v res := by
  unfold subCore at h
  split at h
  · rename_i x xs y ys
    simp only [sem_bind] at h
    obtain ⟨r, hr, ⟨d, b0⟩, hp, hc⟩ := h
    have := sem_pair2 hp; subst this
    obtain ⟨x', y', d', bo, hin, hout, hv⟩ := sem_addSub2 hr
    cases hin; cases hout
    obtain ⟨ds, hds, hlen, hval⟩ := sem_subChain _ _ _ _ _ _ hc
    subst hds
    exact ⟨congrArg (· + 1) hlen, borrow_step (bi := 0) hv hval⟩
  · exact absurd h sem_fail

theorem sem_addSubTwoNumbers {v : Label → Bool} {a b out : List Label} {be : Bool}
    (h : Sem (addSubTwoNumbers a b be) v out) :
    out.length = a.length ∧
    ∃ k, k ≤ 1 ∧ valLE v (revIf a be) + 2 ^ a.length * k =
      valLE v ((revIf b be).take a.length) + valLE v (revIf out be) := by
  simp only [addSubTwoNumbers, sem_bind, sem_pure] at h
  obtain ⟨⟨res, bal⟩, hc, rfl⟩ := h
  obtain ⟨h1, h3⟩ := sem_subCore hc
  rw [revIf_length] at h1 h3
  refine ⟨by rw [revIf_length, h1], bv v bal, by unfold bv; cases v bal <;> simp, ?_⟩
  rw [revIf_revIf]; exact h3

theorem sem_addSubtractWithCompare {v : Label → Bool} {a b out : List Label} {bal : Label} {be : Bool}
    (h : Sem (addSubtractWithCompare a b be) v (out, bal)) :
    out.length = max a.length b.length ∧
    valLE v (revIf a be) + 2 ^ (max a.length b.length) * bv v bal = valLE v (revIf b be) + valLE v (revIf out be) ∧
    (v bal = true ↔ valLE v (revIf a be) < valLE v (revIf b be)) := by
  unfold addSubtractWithCompare at h
  split at h
  · rename_i x xr y yr
    simp only [sem_bind, sem_pure, Prod.mk.injEq] at h
    obtain ⟨af, haf, ⟨res, bal'⟩, hc, rfl, rfl⟩ := h
    have hz : v af = false := by rw [sem_emitTT haf]; cases v x <;> cases v y <;> rfl
    obtain ⟨h1, h3⟩ := sem_subCore hc
    rw [← revIf_length (x :: xr) be, ← revIf_length (y :: yr) be, revIf_revIf, revIf_length]
    generalize revIf (x :: xr) be = A at h1 h3 ⊢
    generalize revIf (y :: yr) be = B at h1 h3 ⊢
    have ha : A.length ≤ max A.length B.length := Nat.le_max_left ..
    have hb : B.length ≤ max A.length B.length := Nat.le_max_right ..
    generalize max A.length B.length = n at *
    have hla : (A ++ List.replicate (n - A.length) af).length = n := by
      rw [List.length_append, List.length_replicate, Nat.add_sub_cancel' ha]
    have hlb : (B ++ List.replicate (n - B.length) af).length = n := by
      rw [List.length_append, List.length_replicate, Nat.add_sub_cancel' hb]
    rw [hla] at h1 h3
    rw [List.take_of_length_le (Nat.le_of_eq hlb), valLE_pad hz, valLE_pad hz] at h3
    refine ⟨h1, h3, ?_⟩
    -- all three numbers are below `2^n`, so the borrow tells which operand is larger
    have ra := Nat.lt_of_lt_of_le (valLE_lt v A) (Nat.pow_le_pow_right Nat.two_pos ha)
    have rb := Nat.lt_of_lt_of_le (valLE_lt v B) (Nat.pow_le_pow_right Nat.two_pos hb)
    have rr := valLE_lt v res
    rw [h1] at rr
    generalize 2 ^ n = P at *
    cases hbal : v bal <;> simp [bv, hbal] at h3 ⊢ <;> omega
  · exact absurd h sem_fail

theorem sem_subCompareLE {v : Label → Bool} {a b out : List Label} {bal : Label}
    (h : Sem (addSubtractWithCompare a b false) v (out, bal)) (hl : b.length = a.length) :
    out.length = a.length ∧ valLE v a + 2 ^ a.length * bv v bal = valLE v b + valLE v out ∧
    (v bal = true ↔ valLE v a < valLE v b) := by
  have := sem_addSubtractWithCompare h
  rwa [hl, Nat.max_self] at this

theorem sem_freshLabels {v : Label → Bool} : ∀ (n : Nat) (restr acc out : List Label),
    Sem (freshLabels n restr acc) v out → ∃ ls, out = acc ++ ls ∧ ls.length = n := by
  intro n
  induction n with
  | zero => intro restr acc out h; exact ⟨[], by rw [sem_pure.mp h, List.append_nil], rfl⟩
  | succ n ih =>
    intro restr acc out h
    cases h with
    | fresh l hl =>
      obtain ⟨ls, h1, h2⟩ := ih _ _ _ hl
      exact ⟨l :: ls, by rw [h1, List.append_assoc]; rfl, congrArg (· + 1) h2⟩

theorem noMark_freshLabels : ∀ n restr acc, NoMark (freshLabels n restr acc) := by
  intro n; induction n with
  | zero => intro _ _; exact .pure _
  | succ n ih => intro restr acc; exact .fresh _ _ (fun l => ih _ _)

theorem sem_addIfThenElse {v : Label → Bool} {i t e : Label} {rl : Option Label} {ao : Bool} {out : Label}
    (h : Sem (addIfThenElse i t e rl ao) v out) :
    (∀ l, rl = some l → out = l) ∧ v out = if v i then v t else v e := by
  simp only [addIfThenElse, sem_bind] at h
  obtain ⟨res, hres, tmp, _, hbody⟩ := h
  split at hbody
  · obtain ⟨hb0, hk⟩ := sem_gate hbody
    obtain ⟨hb1, hk⟩ := sem_gate hk
    obtain ⟨hb2, hk⟩ := sem_gate hk
    obtain ⟨hb3, hk⟩ := sem_gate hk
    obtain rfl : out = res := sem_pure.mp (sem_markIf hk)
    refine ⟨fun l hl => ?_, ?_⟩
    · subst hl; exact sem_pure.mp hres
    · rw [← Option.some.inj hb3, ← Option.some.inj hb2, ← Option.some.inj hb1, ← Option.some.inj hb0]
      cases v i <;> cases v t <;> cases v e <;> rfl
  · exact absurd hbody sem_fail

theorem sem_markAll {v : Label → Bool} {ls : List Label} {u : Unit} : Sem (markAll ls) v u := by
  induction ls with
  | nil => exact .pure
  | cons l r ih => exact .mark ih

theorem sem_xorLoop {v : Label → Bool} {ao : Bool} : ∀ (xs ys rs : List Label) (u : Unit),
    Sem (xorLoop ao xs ys rs) v u → xs.length = ys.length → rs.length = xs.length →
      rs.map v = List.zipWith xor (xs.map v) (ys.map v) := by
  intro xs
  induction xs with
  | nil =>
    intro ys rs u _ _ h2
    rw [List.eq_nil_of_length_eq_zero h2]; rfl
  | cons x xs ih =>
    intro ys rs u h h1 h2
    rcases ys with _ | ⟨y, ys⟩
    · simp at h1
    rcases rs with _ | ⟨r, rs⟩
    · simp at h2
    obtain ⟨hb, hk⟩ := sem_gate h
    have := ih ys rs u (sem_markIf hk) (Nat.succ.inj h1) (Nat.succ.inj h2)
    simp only [List.map_cons, List.zipWith_cons_cons, this, List.cons.injEq, and_true]
    rw [← Option.some.inj hb]
    cases v x <;> cases v y <;> rfl

/-- the skeleton the two pairwise gadgets share -/
theorem sem_pairwise {v : Label → Bool} {bad : Bool} {e e' : String} {mk : Prog (List Label)} {n : Nat}
    {loop : List Label → Prog Unit} {out : List Label}
    (h : Sem (if bad then .fail e else do
        let res ← mk
        if res.length != n then .fail e' else do
          loop res
          pure res) v out) :
    bad = false ∧ out.length = n ∧ ∃ u, Sem (loop out) v u := by
  cases bad with
  | true => exact absurd h sem_fail
  | false =>
    simp only [Bool.false_eq_true, if_false, sem_bind] at h
    obtain ⟨res, _, h⟩ := h
    split at h
    · exact absurd h sem_fail
    · rename_i hl
      simp only [sem_bind, sem_pure] at h
      obtain ⟨u, hloop, rfl⟩ := h
      exact ⟨rfl, by simpa using hl, u, hloop⟩

theorem sem_addPairwiseXor {v : Label → Bool} {xs ys out : List Label} {rl : Option (List Label)} {ao : Bool}
    (h : Sem (addPairwiseXor xs ys rl ao) v out) :
    out.length = xs.length ∧ out.map v = List.zipWith xor (xs.map v) (ys.map v) := by
  obtain ⟨hl, e2, u, hloop⟩ := sem_pairwise h
  exact ⟨e2, sem_xorLoop _ _ _ _ hloop (by simpa using hl) e2⟩

def iteSpec : List Bool → List Bool → List Bool → List Bool
  | i :: is, t :: ts, e :: es => (if i then t else e) :: iteSpec is ts es
  | _, _, _ => []

theorem sem_iteLoop {v : Label → Bool} {ao : Bool} : ∀ (is ts es rs : List Label) (u : Unit),
    Sem (iteLoop ao is ts es rs) v u → is.length = ts.length → ts.length = es.length → rs.length = is.length →
      rs.map v = iteSpec (is.map v) (ts.map v) (es.map v) := by
  intro is
  induction is with
  | nil =>
    intro ts es rs u _ _ _ h3
    rw [List.eq_nil_of_length_eq_zero h3]; rfl
  | cons i is ih =>
    intro ts es rs u h h1 h2 h3
    rcases ts with _ | ⟨t, ts⟩
    · simp at h1
    rcases es with _ | ⟨e, es⟩
    · simp at h2
    rcases rs with _ | ⟨r, rs⟩
    · simp at h3
    simp only [iteLoop, sem_bind] at h
    obtain ⟨o, ho, hrec⟩ := h
    obtain ⟨ho', hv⟩ := sem_addIfThenElse ho
    obtain rfl := ho' r rfl
    have := ih ts es rs u hrec (Nat.succ.inj h1) (Nat.succ.inj h2) (Nat.succ.inj h3)
    simp only [List.map_cons, iteSpec, this, hv]

theorem sem_addPairwiseIfThenElse {v : Label → Bool} {is ts es out : List Label} {rl : Option (List Label)} {ao : Bool}
    (h : Sem (addPairwiseIfThenElse is ts es rl ao) v out) :
    out.length = is.length ∧ out.map v = iteSpec (is.map v) (ts.map v) (es.map v) := by
  obtain ⟨hl, e2, u, hloop⟩ := sem_pairwise h
  simp only [Bool.or_eq_false_iff, bne_eq_false_iff_eq] at hl
  exact ⟨e2, sem_iteLoop _ _ _ _ _ hloop hl.1 hl.2 e2⟩

theorem bv_xor {v : Label → Bool} {x y s : Label} (h : bfun XOR ([x, y].map v) = some (v s)) :
    bv v x + bv v y = bv v s + 2 * (v x && v y).toNat := by
  rw [bv, bv, bv, ← Option.some.inj h]; cases v x <;> cases v y <;> rfl

theorem bv_and {v : Label → Bool} {x y c : Label} (h : bfun AND ([x, y].map v) = some (v c)) :
    bv v c = (v x && v y).toNat := by
  rw [bv, ← Option.some.inj h]; cases v x <;> cases v y <;> rfl

/-- one position of a ripple: bit `x` and carry `c` in, bit `z` and carry `c'` out -/
theorem carry_step {x c z c' X Z n k : Nat} (hbit : x + c = z + 2 * c') (hk : X + c' = Z + 2 ^ n * k) :
    x + 2 * X + c = z + 2 * Z + 2 ^ (n + 1) * k := by
  rw [pow_succ_mul]; omega

theorem mod_of_add_mul {a z P k : Nat} (h : a = z + P * k) (hz : z < P) : z = a % P := by
  rw [h, Nat.add_mul_mod_self_left, Nat.mod_eq_of_lt hz]

/-- the loop adds the carry `cprev` (nothing once `ended`) to what is left of the operand, modulo the width left
(the binders lead with `zs`, on which the equations recurse; the program takes `xs` first) -/
theorem sem_plusOneLoop {v : Label → Bool} : ∀ (zs xs cs : List Label) (cprev : Label) (ended : Bool) (u : Unit),
    Sem (plusOneLoop xs zs cs cprev ended) v u → (ended = true → xs = []) →
      ∃ k, valLE v xs + (if ended then 0 else bv v cprev) = valLE v zs + 2 ^ zs.length * k
  | [], xs, _, cprev, ended, _, _, _ =>
    ⟨valLE v xs + (if ended then 0 else bv v cprev), by rw [List.length_nil, Nat.pow_zero, Nat.one_mul]; exact (Nat.zero_add _).symm⟩
  | z :: zs, [], cs, cprev, false, u, h, _ =>
    -- the operand is exhausted: an IFF gate hands the carry on, the positions after it are constant false
    have ⟨hz, h⟩ := sem_gate h
    have ⟨k, hk⟩ := sem_plusOneLoop zs [] _ _ true u h fun _ => rfl
    ⟨k, carry_step (x := 0) (X := 0) (c' := 0) ((Nat.zero_add _).trans (congrArg Bool.toNat (Option.some.inj hz))) hk⟩
  | z :: zs, [], cs, cprev, true, u, h, _ =>
    have ⟨hz, h⟩ := sem_gate h
    have ⟨k, hk⟩ := sem_plusOneLoop zs [] _ _ true u h fun _ => rfl
    ⟨k, carry_step (x := 0) (X := 0) (c' := 0) (congrArg Bool.toNat (Option.some.inj hz)) hk⟩
  | _ :: _, _ :: _, [], _, _, _, h, _ => absurd h sem_fail
  | _ :: _, _ :: _, _ :: _, _, true, _, _, he => nomatch he rfl
  | [z], x :: xs, ci :: cr, cprev, false, u, h, _ =>
    -- the top position has no AND gate: its carry is dropped
    ⟨valLE v xs + (v x && v cprev).toNat, carry_step (n := 0) (bv_xor (sem_gate h).1)
      (by rw [Nat.pow_zero, Nat.one_mul]; exact (Nat.zero_add _).symm)⟩
  | z :: z' :: zs, x :: xs, ci :: cr, cprev, false, u, h, _ =>
    have ⟨hc, h⟩ := sem_gate h
    have ⟨hz, h⟩ := sem_gate h
    have ⟨k, hk⟩ := sem_plusOneLoop (z' :: zs) xs _ _ false u h nofun
    ⟨k, carry_step ((bv_and hc).symm ▸ bv_xor hz) hk⟩

theorem sem_freshPlain {v : Label → Bool} : ∀ (n : Nat) (acc out : List Label),
    Sem (freshPlain n acc) v out → ∃ ls, out = acc ++ ls ∧ ls.length = n := by
  intro n
  induction n with
  | zero => intro acc out h; exact ⟨[], by rw [sem_pure.mp h, List.append_nil], rfl⟩
  | succ n ih =>
    intro acc out h
    cases h with
    | fresh l hl =>
      obtain ⟨ls, h1, h2⟩ := ih _ _ hl
      exact ⟨l :: ls, by rw [h1, List.append_assoc]; rfl, congrArg (· + 1) h2⟩

theorem sem_addPlusOne {v : Label → Bool} {ins out : List Label} {rl : Option (List Label)} {ao be : Bool}
    (h : Sem (addPlusOne ins rl ao be) v out) :
    valLE v (revIf out be) = (valLE v (revIf ins be) + 1) % 2 ^ out.length := by
  simp only [addPlusOne, sem_bind] at h
  obtain ⟨given, hg, carries, hc, hbody⟩ := h
  split at hbody
  · rename_i _ _ _ c0 cr x0 xs z0 zs hxs hzs
    obtain ⟨hb0, hk⟩ := sem_gate hbody
    obtain ⟨hb1, hk⟩ := sem_gate hk
    simp only [sem_bind] at hk
    obtain ⟨u, hloop, hfin⟩ := hk
    obtain rfl : out = given := by
      cases ao
      · simp only [Bool.false_eq_true, if_false, sem_pure] at hfin; exact hfin
      · simp only [if_true, sem_bind, sem_pure] at hfin
        obtain ⟨_, _, e⟩ := hfin; exact e
    obtain ⟨k, hk⟩ := sem_plusOneLoop _ _ _ _ _ _ hloop nofun
    rw [← revIf_length out be, hzs, hxs]
    -- `c0 = x0` and `z0 = ¬x0`: the first position adds the one
    have e0 : bv v c0 = bv v x0 := congrArg Bool.toNat (Option.some.inj hb0).symm
    have e1 : bv v z0 + bv v x0 = 1 := by rw [bv, bv, ← Option.some.inj hb1]; cases v x0 <;> rfl
    exact mod_of_add_mul (carry_step (c := 1) (c' := bv v c0) (by omega) hk) (valLE_lt v _)
  · exact absurd hbody sem_fail

def bitsValLE : List Bool → Nat
  | [] => 0
  | b :: r => b.toNat + 2 * bitsValLE r

theorem bitsValLE_binDigits : ∀ (fuel n : Nat), n < fuel → bitsValLE (binDigitsLE fuel n) = n := by
  intro fuel
  induction fuel with
  | zero => intro n h; omega
  | succ fuel ih =>
    intro n h
    unfold binDigitsLE
    split
    · rename_i h2
      have : n = 0 ∨ n = 1 := by omega
      rcases this with rfl | rfl <;> rfl
    · rename_i h2
      simp only [bitsValLE]
      rw [ih (n / 2) (by omega)]
      have : (n % 2 == 1).toNat = n % 2 := by
        have : n % 2 = 0 ∨ n % 2 = 1 := by omega
        rcases this with h | h <;> simp [h]
      omega

theorem binDigits_len : ∀ (fuel n : Nat), n < fuel → 1 ≤ n → 2 ^ ((binDigitsLE fuel n).length - 1) ≤ n := by
  intro fuel
  induction fuel with
  | zero => intro n h; omega
  | succ fuel ih =>
    intro n h h1
    unfold binDigitsLE
    split
    · simp; omega
    · rename_i h2
      have := ih (n / 2) (by omega) (by omega)
      have hl : 1 ≤ (binDigitsLE fuel (n / 2)).length := by
        cases fuel with
        | zero => omega
        | succ f => unfold binDigitsLE; split <;> simp
      simp only [List.length_cons, Nat.add_sub_cancel]
      have : (binDigitsLE fuel (n / 2)).length = ((binDigitsLE fuel (n / 2)).length - 1) + 1 := by omega
      rw [this, Nat.pow_succ]
      omega

theorem bitsValLE_pad (bs : List Bool) (k : Nat) : bitsValLE (bs ++ List.replicate k false) = bitsValLE bs := by
  induction bs with
  | nil =>
    induction k with
    | zero => rfl
    | succ k ih => simp only [List.nil_append] at ih ⊢; simp [List.replicate_succ, bitsValLE, ih]
  | cons b r ih => simp [bitsValLE, ih]

theorem bits_eq_iff {v : Label → Bool} : ∀ (ins : List Label) (bits : List Bool), bits.length = ins.length →
    (ins.map v = bits ↔ valLE v ins = bitsValLE bits) := by
  intro ins
  induction ins with
  | nil => intro bits h; cases bits <;> simp_all [valLE, bitsValLE]
  | cons x r ih =>
    intro bits h
    rcases bits with _ | ⟨b, bs⟩
    · simp at h
    have := ih bs (by simpa using h)
    simp only [List.map_cons, List.cons.injEq, valLE, bitsValLE, this, bv]
    constructor
    · rintro ⟨h1, h2⟩; rw [h1, h2]
    · intro h3
      have hb : (v x).toNat ≤ 1 := by cases v x <;> simp
      have hb' : b.toNat ≤ 1 := by cases b <;> simp
      refine ⟨?_, by omega⟩
      have : (v x).toNat = b.toNat := by omega
      revert this; cases v x <;> cases b <;> simp

theorem sem_eqLiterals {v : Label → Bool} : ∀ (bits : List Bool) (ins acc lits : List Label),
    Sem (eqLiterals bits ins acc) v lits → bits.length = ins.length →
      ∃ ls, lits = acc ++ ls ∧ ls.length = ins.length ∧ ((∀ x ∈ ls, v x = true) ↔ ins.map v = bits) := by
  intro bits
  induction bits with
  | nil =>
    intro ins acc lits h hl
    have : ins = [] := by cases ins <;> simp_all
    subst this
    simp only [eqLiterals, sem_pure] at h; subst h
    exact ⟨[], by simp, rfl, by simp⟩
  | cons b bs ih =>
    intro ins acc lits h hl
    rcases ins with _ | ⟨x, xs⟩
    · simp at hl
    unfold eqLiterals at h
    split at h
    · rename_i hb
      obtain ⟨ls, h1, h2, h3⟩ := ih _ _ _ h (by simpa using hl)
      refine ⟨x :: ls, by rw [h1]; simp, by simp [h2], ?_⟩
      simp only [List.mem_cons, forall_eq_or_imp, h3, List.map_cons, List.cons.injEq, hb]
    · rename_i hb
      simp only [sem_bind] at h
      obtain ⟨l, hl', hrec⟩ := h
      obtain ⟨ls, h1, h2, h3⟩ := ih _ _ _ hrec (by simpa using hl)
      have hv : v l = !v x := (Option.some.inj (sem_emit hl')).symm
      refine ⟨l :: ls, by rw [h1]; simp, by simp [h2], ?_⟩
      have hbf : b = false := by simpa using hb
      simp only [List.mem_cons, forall_eq_or_imp, h3, List.map_cons, List.cons.injEq, hbf, hv]
      cases v x <;> simp

theorem sem_andChain {v : Label → Bool} : ∀ (rest : List Label) (last out : Label),
    Sem (andChain rest last) v out → (v out = true ↔ v last = true ∧ ∀ x ∈ rest, v x = true) := by
  intro rest
  induction rest with
  | nil => intro last out h; simp only [andChain, sem_pure] at h; subst h; simp
  | cons o r ih =>
    intro last out h
    simp only [andChain, sem_bind] at h
    obtain ⟨l, hl, hrec⟩ := h
    have hv : v l = (v last && v o) := by rw [← Option.some.inj (sem_emit hl)]; simp
    rw [ih _ _ hrec, hv]
    simp only [Bool.and_eq_true, List.mem_cons, forall_eq_or_imp, and_assoc]

theorem sem_addEqual {v : Label → Bool} {ins : List Label} {num : Nat} {out : Label}
    (h : Sem (addEqual ins num) v out) (hn : 1 ≤ ins.length) : (v out = true ↔ valLE v ins = num) := by
  unfold addEqual at h
  have hd := bitsValLE_binDigits (num + 1) num (by omega)
  simp only at h
  split at h
  · -- the constant does not fit
    rename_i hgt
    have hf : v out = false := (Option.some.inj (sem_emit h)).symm
    have hlt := valLE_lt v ins
    have hbig : 2 ^ ins.length ≤ num := by
      simp only [eqBits, List.length_append, List.length_replicate] at hgt
      rcases Nat.eq_zero_or_pos num with rfl | h1
      · exact absurd hgt (by show ¬ (1 + (ins.length - 1) > ins.length); omega)
      · exact Nat.le_trans (Nat.pow_le_pow_right Nat.two_pos (by omega)) (binDigits_len (num + 1) num (by omega) h1)
    rw [hf]; simp; omega
  · rename_i hle
    have hlen : (eqBits num ins.length).length = ins.length := by
      simp only [eqBits, List.length_append, List.length_replicate] at hle ⊢; omega
    have hval : bitsValLE (eqBits num ins.length) = num := by simp only [eqBits]; rw [bitsValLE_pad, hd]
    simp only [sem_bind] at h
    obtain ⟨lits, hl, hbody⟩ := h
    obtain ⟨ls, h1, h2, h3⟩ := sem_eqLiterals _ _ _ _ hl hlen
    simp only [List.nil_append] at h1; subst h1
    rw [← hval, ← bits_eq_iff ins _ hlen, ← h3]
    cases hbody with
    | fresh last hk =>
      rcases lits with _ | ⟨g0, _ | ⟨g1, rest⟩⟩
      · simp at h2; omega
      · simp only [sem_pure] at hk; subst hk; simp
      · obtain ⟨hb0, hchain⟩ := sem_gate hk
        rw [sem_andChain _ _ _ hchain, ← Option.some.inj hb0]
        simp only [List.map_nil, List.all_cons, List.all_nil, id, Bool.and_true, Bool.and_eq_true, List.mem_cons,
          forall_eq_or_imp, and_assoc]

theorem sem_addEqualZ {v : Label → Bool} {ins : List Label} {num : Int} {out : Label}
    (h : Sem (addEqualZ ins num) v out) (hn : 1 ≤ ins.length) : (v out = true ↔ (valLE v ins : Int) = num) := by
  cases num with
  | ofNat n =>
    have := sem_addEqual (num := n) h hn
    rw [this]
    exact ⟨fun e => by rw [e]; rfl, fun e => Int.ofNat.inj e⟩
  | negSucc k =>
    have hf : v out = false := (Option.some.inj (sem_emit (ty := ALWAYS_FALSE) (ops := []) h)).symm
    rw [hf]
    constructor
    · intro e; cases e
    · intro e; exact absurd e (by omega)

end Cirbo
