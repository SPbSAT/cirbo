import Cirbo.Proofs.GatesTT
import Cirbo.Proofs.PassMdg
/-!
MergeEquivalentGates groups the gates by their row of the per-gate truth table and rebuilds the circuit naming each operand
by the representative of its group, chosen at first use.
-/
namespace Cirbo

/-- the groups after the rows `done`: one group per row met, holding exactly the labels with that row -/
structure GInv (done : List (Label × List V3)) (gs : List (List V3 × List Label)) : Prop where
  rowsND : (gs.map (·.1)).Nodup
  mem : ∀ q ∈ gs, ∀ x, x ∈ q.2 ↔ (x, q.1) ∈ done
  cover : ∀ p ∈ done, ∃ q ∈ gs, q.1 = p.2

theorem megGroupStep_ginv {done : List (Label × List V3)} {gs : List (List V3 × List Label)}
    (inv : GInv done gs) (p : Label × List V3) : GInv (done ++ [p]) (megGroupStep gs p) := by
  obtain ⟨pl, pr⟩ := p
  unfold megGroupStep
  split
  · rename_i hany
    refine ⟨?_, fun q' hq' x => ?_, fun p' hp' => ?_⟩
    · have : ((·.1) ∘ fun q : List V3 × List Label => if (q.1 == pr) = true then (q.1, q.2 ++ [pl]) else q) = (·.1) := by
        funext q; simp only [Function.comp]; split <;> rfl
      rw [List.map_map, this]; exact inv.rowsND
    · obtain ⟨q, hq, rfl⟩ := List.mem_map.mp hq'
      have := inv.mem q hq x
      split
      · have e : q.1 = pr := by simpa using ‹(q.1 == pr) = true›
        simp [this, e]
      · have e : q.1 ≠ pr := by simpa using ‹¬(q.1 == pr) = true›
        simp [this, e]
    · have : ∃ q ∈ gs, q.1 = p'.2 := by
        rcases List.mem_append.mp hp' with h | h
        · exact inv.cover p' h
        · obtain ⟨q, hq, e⟩ := List.any_eq_true.mp hany
          exact ⟨q, hq, by simpa [List.mem_singleton.mp h] using e⟩
      obtain ⟨q, hq, e⟩ := this
      exact ⟨_, List.mem_map.mpr ⟨q, hq, rfl⟩, by split <;> exact e⟩
  · rename_i hany
    have hnew : ∀ q ∈ gs, q.1 ≠ pr := fun q hq e => hany (List.any_eq_true.mpr ⟨q, hq, by simpa using e⟩)
    refine ⟨?_, fun q hq x => ?_, fun p' hp' => ?_⟩
    · rw [List.map_append]
      refine List.nodup_append.mpr ⟨inv.rowsND, by simp, fun a ha b hb e => ?_⟩
      obtain ⟨q, hq, rfl⟩ := List.mem_map.mp ha
      exact hnew q hq (e.trans (by simpa using hb))
    · rcases List.mem_append.mp hq with hq | hq
      · simp [inv.mem q hq x, hnew q hq]
      · obtain rfl := List.mem_singleton.mp hq
        have : (x, pr) ∉ done := fun h => by
          obtain ⟨q, hq, e⟩ := inv.cover _ h
          exact hnew q hq e
        simp [this]
    · rcases List.mem_append.mp hp' with h | h
      · obtain ⟨q, hq, e⟩ := inv.cover p' h
        exact ⟨q, List.mem_append_left _ hq, e⟩
      · obtain rfl := List.mem_singleton.mp h
        exact ⟨_, List.mem_append_right _ (List.mem_singleton_self _), rfl⟩

theorem megGroupFold_ginv : ∀ (ps done : List (Label × List V3)) (gs : List (List V3 × List Label)),
    GInv done gs → GInv (done ++ ps) (ps.foldl megGroupStep gs)
  | [], _, _, h => by simpa using h
  | p :: r, done, _, h => by simpa using megGroupFold_ginv r (done ++ [p]) _ (megGroupStep_ginv h p)

theorem get?_megIndexStep (d : Dict Nat) (q : (List V3 × List Label) × Nat) (l : Label) :
    (megIndexStep d q).get? l = if l ∈ q.1.2 then some q.2 else d.get? l := by
  unfold megIndexStep
  generalize q.1.2 = ls
  induction ls generalizing d with
  | nil => simp
  | cons x t ih =>
    rw [List.foldl_cons, ih, Dict.get?_set]
    by_cases h1 : l ∈ t <;> by_cases h2 : l = x <;> simp [h1, h2]

theorem megIndex_sound : ∀ (qs : List ((List V3 × List Label) × Nat)) (d : Dict Nat) {l : Label} {i : Nat},
    (qs.foldl megIndexStep d).get? l = some i → d.get? l = some i ∨ ∃ q ∈ qs, q.2 = i ∧ l ∈ q.1.2
  | [], _, _, _, h => .inl h
  | q :: r, d, l, i, h => by
    rcases megIndex_sound r _ (List.foldl_cons .. ▸ h) with h1 | ⟨q', hq', h2⟩
    · rw [get?_megIndexStep] at h1
      split at h1
      · exact .inr ⟨q, List.mem_cons_self .., Option.some.inj h1, ‹_›⟩
      · exact .inl h1
    · exact .inr ⟨q', List.mem_cons_of_mem _ hq', h2⟩

theorem megIndex_complete : ∀ (qs : List ((List V3 × List Label) × Nat)) (d : Dict Nat) {l : Label} {i : Nat},
    (∀ q ∈ qs, l ∈ q.1.2 → q.2 = i) → (d.get? l = some i ∨ ∃ q ∈ qs, l ∈ q.1.2) →
    (qs.foldl megIndexStep d).get? l = some i
  | [], _, _, _, _, h => h.elim id fun ⟨_, hq, _⟩ => nomatch hq
  | q :: r, d, l, i, hu, h => by
    refine megIndex_complete r _ (fun q' hq' => hu q' (List.mem_cons_of_mem _ hq')) ?_
    rw [get?_megIndexStep]
    split
    · exact .inl (congrArg some (hu q (List.mem_cons_self ..) ‹_›))
    · rcases h with h | ⟨q', hq', hl⟩
      · exact .inl h
      · rcases List.mem_cons.mp hq' with rfl | hq'
        · exact absurd hl ‹_›
        · exact .inr ⟨q', hq', hl⟩

/-- the groups `_find_equivalent_gates_groups` returns: gates of one group have the same row of the per-gate truth
table, and two gates with the same row are in one group -/
theorem megGroups_spec {c : Circuit} {groups : Dict Nat} (h : megGroups c = .ok groups) :
    ∃ gtt, gatesTruthTable c = .ok gtt ∧
    (∀ l l' i, groups.get? l = some i → groups.get? l' = some i → gtt.get? l = gtt.get? l') ∧
    (∀ l1 l2 r, (l1, r) ∈ gtt → (l2, r) ∈ gtt → l1 ≠ l2 → ∃ i, groups.get? l1 = some i ∧ groups.get? l2 = some i) := by
  unfold megGroups at h
  cases hg : gatesTruthTable c with
  | error e => simp [hg] at h
  | ok gtt =>
    simp only [hg, Except.ok.injEq] at h
    subst h
    refine ⟨gtt, rfl, ?_⟩
    have hnk := gtt_nodupKeys hg
    have ginv : GInv gtt (gtt.foldl megGroupStep []) := by
      simpa using megGroupFold_ginv gtt [] [] ⟨List.nodup_nil, fun _ h => (nomatch h), fun _ h => (nomatch h)⟩
    generalize gtt.foldl megGroupStep [] = G at ginv ⊢
    generalize hB : G.filter (fun q => q.2.length > 1) = big
    have hbig : ∀ q, q ∈ big → q ∈ G := fun q hq => (List.mem_filter.mp (hB ▸ hq)).1
    have hrow : ∀ q ∈ G, ∀ l ∈ q.2, gtt.get? l = some q.1 := fun q hq l hl =>
      get?_eq_of_mem hnk ((ginv.mem q hq l).mp hl)
    constructor
    · intro l l' i h1 h2
      obtain ⟨q, hq, rfl, hql⟩ := (megIndex_sound _ [] h1).resolve_left (by simp [Dict.get?])
      obtain ⟨q', hq', hqi', hql'⟩ := (megIndex_sound _ [] h2).resolve_left (by simp [Dict.get?])
      have e : q'.1 = q.1 := by
        rw [List.mem_zipIdx_iff_getElem?] at hq hq'
        exact Option.some.inj ((hqi' ▸ hq').symm.trans hq)
      rw [hrow q.1 (hbig _ (List.fst_mem_of_mem_zipIdx hq)) l hql,
        hrow q'.1 (hbig _ (List.fst_mem_of_mem_zipIdx hq')) l' hql', e]
    · intro l1 l2 r h1 h2 hne
      obtain ⟨q, hq, rfl⟩ := ginv.cover _ h1
      have m1 := (ginv.mem q hq l1).mpr h1
      have m2 := (ginv.mem q hq l2).mpr h2
      have hqb : q ∈ big := hB ▸ List.mem_filter.mpr ⟨hq, by
        rcases hq2 : q.2 with _ | ⟨a, _ | ⟨b, t⟩⟩
        · rw [hq2] at m1; cases m1
        · rw [hq2] at m1 m2
          exact absurd ((List.mem_singleton.mp m1).trans (List.mem_singleton.mp m2).symm) hne
        · simp⟩
      obtain ⟨j, hjl, hje⟩ := List.getElem_of_mem hqb
      have hj : (q, j) ∈ big.zipIdx := by rw [List.mem_zipIdx_iff_getElem?]; simp [hjl, hje]
      -- a member of `q` is in no other group (its row is the group's), and `q` is listed once
      have hG : G.Nodup := List.Pairwise.of_map (·.1) (fun a b (hab : a.1 ≠ b.1) e => hab (by rw [e])) ginv.rowsND
      have huniq : ∀ l ∈ q.2, ∀ q' ∈ big.zipIdx, l ∈ q'.1.2 → q'.2 = j := by
        intro l hl q' hq' hl'
        have hq'G := hbig _ (List.fst_mem_of_mem_zipIdx hq')
        have e : q'.1 = q := nodup_map_inj _ _ ginv.rowsND _ hq'G _ hq
          (Option.some.inj ((hrow _ hq'G l hl').symm.trans (hrow q hq l hl)))
        rw [List.mem_zipIdx_iff_getElem?] at hq'
        simp only [e] at hq'
        have hlt : q'.2 < big.length := by
          rcases Nat.lt_or_ge q'.2 big.length with h | h
          · exact h
          · rw [List.getElem?_eq_none h] at hq'; cases hq'
        exact (List.getElem?_inj hlt (hB ▸ hG.filter _)).mp (hq'.trans (by simp [hjl, hje]))
      exact ⟨j, megIndex_complete _ [] (huniq l1 m1) (.inr ⟨_, hj, m1⟩),
        megIndex_complete _ [] (huniq l2 m2) (.inr ⟨_, hj, m2⟩)⟩

theorem megGroups_val {c : Circuit} (hu : WFU c) {groups : Dict Nat} (hgr : megGroups c = .ok groups)
    {b v : Label → Bool} (hv : IsValB c b v) {l x : Label} {gid : Nat} (hl : l ∈ c.labels) (hx : x ∈ c.labels)
    (h1 : groups.get? l = some gid) (h2 : groups.get? x = some gid) : v x = v l := by
  obtain ⟨gtt, hgtt, hrows, -⟩ := megGroups_spec hgr
  exact gtt_equal_rows_sound hu hgtt hx hl (congrArg (·.getD []) (hrows x l gid h2 h1)) hv

/-- the representatives chosen so far belong to the group they stand for, and are among `L` -/
def KeepInv (groups : Dict Nat) (L : List Label) (keep : Keep) : Prop :=
  ∀ p ∈ keep, groups.get? p.2 = some p.1 ∧ p.2 ∈ L

/-- `o` is what its group (if it has one) is represented by -/
def Emit (groups : Dict Nat) (keep : Keep) (o : Label) : Prop :=
  ∀ gid, groups.get? o = some gid → keep.lookup gid = some o

/-- `_Keep` only grows -/
def KeepLE (k1 k2 : Keep) : Prop := ∀ gid r, k1.lookup gid = some r → k2.lookup gid = some r

theorem megName_spec {groups : Dict Nat} {L : List Label} {keep : Keep} (hk : KeepInv groups L keep) {l : Label}
    (hl : l ∈ L) :
    KeepInv groups L (megName groups keep l).2 ∧ KeepLE keep (megName groups keep l).2 ∧
    (megName groups keep l).1 ∈ L ∧ Emit groups (megName groups keep l).2 (megName groups keep l).1 ∧
    ((megName groups keep l).1 = l ∨
      ∃ gid, groups.get? l = some gid ∧ groups.get? (megName groups keep l).1 = some gid) := by
  unfold megName
  cases hg : groups.get? l with
  | none => exact ⟨hk, fun _ _ h => h, hl, fun gid h => (nomatch hg.symm.trans h), .inl rfl⟩
  | some gid =>
    dsimp only
    cases hlk : keep.lookup gid with
    | some r =>
      dsimp only
      obtain ⟨h1, h2⟩ := hk _ (List.mem_of_lookup hlk)
      refine ⟨hk, fun _ _ h => h, h2, fun gid' h => ?_, .inr ⟨gid, rfl, h1⟩⟩
      obtain rfl : gid = gid' := Option.some.inj (h1.symm.trans h)
      exact hlk
    | none =>
      dsimp only
      refine ⟨fun p hp => ?_, fun _ _ h => by rw [List.lookup_append, h]; rfl, hl, fun gid' h => ?_, .inl rfl⟩
      · rcases List.mem_append.mp hp with hp | hp
        · exact hk p hp
        · obtain rfl := List.mem_singleton.mp hp; exact ⟨hg, hl⟩
      · obtain rfl : gid = gid' := Option.some.inj (hg.symm.trans h)
        simp [List.lookup_append, hlk]

theorem megNames_spec {groups : Dict Nat} {L : List Label} : ∀ (ls : List Label) {keep : Keep},
    KeepInv groups L keep → (∀ l ∈ ls, l ∈ L) →
    KeepInv groups L (megNames groups keep ls).2 ∧ KeepLE keep (megNames groups keep ls).2 ∧
    (∀ x ∈ (megNames groups keep ls).1, x ∈ L ∧ Emit groups (megNames groups keep ls).2 x) ∧
    (megNames groups keep ls).1.length = ls.length ∧
    ∀ v : Label → Bool, (∀ l ∈ L, ∀ x ∈ L, ∀ gid, groups.get? l = some gid → groups.get? x = some gid → v x = v l) →
      (megNames groups keep ls).1.map v = ls.map v
  | [], _, hk, _ => ⟨hk, fun _ _ h => h, fun _ h => (nomatch h), rfl, fun _ _ => rfl⟩
  | l :: r, keep, hk, hls => by
    have hl := hls l (List.mem_cons_self ..)
    obtain ⟨a1, a2, a3, a4, a5⟩ := megName_spec hk hl
    obtain ⟨b1, b2, b3, b4, b5⟩ := megNames_spec r a1 (fun x hx => hls x (List.mem_cons_of_mem _ hx))
    refine ⟨b1, fun g x h => b2 g x (a2 g x h), ?_, by simp [megNames, b4], fun v hv => ?_⟩
    · intro x hx
      rcases List.mem_cons.mp hx with rfl | hx
      · exact ⟨a3, fun gid h => b2 gid _ (a4 gid h)⟩
      · exact b3 x hx
    · simp only [megNames, List.map_cons, b5 v hv, List.cons.injEq, and_true]
      rcases a5 with e | ⟨gid, e1, e2⟩
      · rw [e]
      · exact hv l hl _ a3 gid e1 e2

theorem megStep_emit {c : Circuit} {groups : Dict Nat} {n n' : Circuit} {keep : Keep} {g : Gate}
    (hf : c.find? g.label = some g) (ha : n.addGate ⟨g.label, g.ty, (megNames groups keep g.ops).1⟩ = .ok n') :
    megStep c groups (.ok (n, keep)) g.label = .ok (n', (megNames groups keep g.ops).2) := by
  simp only [megStep, hf, ha]

theorem megGroups_ok {c : Circuit} (hu : WFU c) : ∃ groups, megGroups c = .ok groups := by
  obtain ⟨gtt, hg⟩ := gatesTruthTable_ok hu
  unfold megGroups
  rw [hg]
  exact ⟨_, rfl⟩

theorem meg_run {c : Circuit} (hw : WFS c) (har : ArOK c) : ∃ c', PassRun meg c c' ∧
    ∃ groups keep, megGroups c = .ok groups ∧
      (∀ g ∈ c'.gates, ∀ o ∈ g.ops, Emit groups keep o) ∧ ∀ o ∈ c'.outputs, Emit groups keep o := by
  have hu := WFU.ofWFS hw har
  obtain ⟨groups, hgr⟩ := megGroups_ok hu
  obtain ⟨log, hlog⟩ := traverse_outputs_ok hw true
  obtain ⟨hLnd, hLmem, hLord⟩ := full_order hw hlog
  have hgv : ∀ {n}, Rebuild c n → ∀ b v, IsValB c b v → ∀ l ∈ n.labels, ∀ x ∈ n.labels, ∀ gid,
      groups.get? l = some gid → groups.get? x = some gid → v x = v l :=
    fun hr b v hv l hl x hx gid => megGroups_val hu hgr hv (hr.labels_sub hl) (hr.labels_sub hx)
  obtain ⟨⟨n1, keep⟩, hst, hlab, hr, hk, he⟩ := rebuild_run (step := megStep c groups) (cir := (·.1)) (s0 := (Circuit.empty, []))
    (J := fun st => KeepInv groups st.1.labels st.2 ∧ ∀ g ∈ st.1.gates, ∀ o ∈ g.ops, Emit groups st.2 o)
    hw hLnd (fun l hl => (hLmem l).mp hl) hLord (fun ⟨n, keep⟩ g ⟨hk, he⟩ hr hf _ ho => by
      obtain ⟨m1, m2, m3, m4, m5⟩ := megNames_spec g.ops hk ho
      refine ⟨_, fun d hd => (m3 d hd).1, m4, fun b v hv => m5 v (hgv hr b v hv), fun n' ha =>
        ⟨_, megStep_emit hf ha, rfl,
          fun p hp => ⟨(m1 p hp).1, addGate_labels ha ▸ List.mem_append_left _ (m1 p hp).2⟩, fun x hx o ho' => ?_⟩⟩
      rcases List.mem_append.mp ((addGate_fields ha).gates ▸ hx) with hx | hx
      · exact fun gid h => m2 gid o (he x hx o ho' gid h)
      · obtain rfl := List.mem_singleton.mp hx
        exact (m3 o ho').2)
    rfl ⟨fun _ h => (nomatch h), fun _ h => (nomatch h)⟩
  obtain ⟨n2, hn2⟩ := setInputs_returns_of_shape hw (hlab ▸ hLnd) (fun l => hlab ▸ hLmem l) hr.shape
  obtain ⟨_, le, o1, m4, m5⟩ := megNames_spec c.outputs hk (fun o ho => hlab ▸ (hLmem o).mpr (hw.outputsOK o ho))
  obtain ⟨c', hc', hgc, hoc, hp, sh, hin⟩ := hr.finish_ok hn2 (outs := (megNames groups keep c.outputs).1)
    (fun o ho => (o1 o ho).1) m4 (fun b v hv => m5 v (hgv hr b v hv))
  exact ⟨c', ⟨by simp only [meg, hgr, hlog, hst, hn2, hc'], hp, sh, hin⟩, groups, (megNames groups keep c.outputs).2, hgr,
    fun g hg o ho gid hgid => le gid o (he g (hgc ▸ hg) o ho gid hgid), fun o ho => (o1 o (hoc ▸ ho)).2⟩

theorem meg_spec {c c' : Circuit} (hw : WFS c) (har : ArOK c) (h : meg c = .ok c') : PassRun meg c c' :=
  let ⟨_, r, _⟩ := meg_run hw har; r.of_ok h

theorem meg_total {c : Circuit} (hw : WFS c) (har : ArOK c) : ∃ c', meg c = .ok c' :=
  let ⟨c', r, _⟩ := meg_run hw har; ⟨c', r.ok⟩

end Cirbo
