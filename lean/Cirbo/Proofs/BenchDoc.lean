import Cirbo.Proofs.Bench
/-! # Bench documents (C11): a text is read line by line, so it means what its lines mean, in order (`DocSem.line`),
whether it was put together with `'\n'.join` or with a newline after every line -/
namespace Cirbo
open GateType

theorem splitLines_eq_go (s : Str) : splitLines s = splitLines.go [] s := by
  cases s <;> rfl

theorem splitLines_go_line (a : Str) (h : '\n' ∉ a) : ∀ (cur rest : Str),
    splitLines.go cur (a ++ '\n' :: rest) = (cur.reverse ++ a ++ ['\n']) :: splitLines.go [] rest := by
  induction a with
  | nil => intro cur rest; simp [splitLines.go]
  | cons ch t ih =>
    intro cur rest
    simp only [List.mem_cons, not_or] at h
    simp only [List.cons_append, splitLines.go, Ne.symm h.1, if_false]
    rw [ih h.2]
    simp

theorem splitLines_go_last (a : Str) (h : '\n' ∉ a) : ∀ (cur : Str),
    splitLines.go cur a = if (cur.reverse ++ a).isEmpty then [] else [cur.reverse ++ a] := by
  induction a with
  | nil => intro cur; simp [splitLines.go]
  | cons ch t ih =>
    intro cur
    simp only [List.mem_cons, not_or] at h
    simp only [splitLines.go, Ne.symm h.1, if_false]
    rw [ih h.2]
    simp

theorem splitLines_line {a rest : Str} (h : '\n' ∉ a) :
    splitLines (a ++ '\n' :: rest) = (a ++ ['\n']) :: splitLines rest := by
  rw [splitLines_eq_go, splitLines_go_line a h, splitLines_eq_go]; simp

theorem splitLines_last {a : Str} (h : '\n' ∉ a) : splitLines a = if a.isEmpty then [] else [a] := by
  rw [splitLines_eq_go, splitLines_go_last a h]; simp

/-- the lines, each with a newline after it -/
def unl (ls : List Str) : Str := ls.flatMap (· ++ ['\n'])

/-- `line` is accepted and turns the circuit read so far, `c`, into `f c`: it has no newline character
and parses the same with or without its terminator -/
structure LineSem (line : Str) (f : Circuit → Circuit) : Prop where
  nlfree : '\n' ∉ line
  sem : ∀ c nl, (nl = [] ∨ nl = ['\n']) → parseLine c (line ++ nl) = .ok (f c)

theorem blank_sem : LineSem [] id := by
  refine ⟨by simp, ?_⟩
  intro c nl hnl
  rcases hnl with rfl | rfl <;> simp [parseLine]

/-- a text whose lines are all accepted, and what they do -/
def DocSem (text : Str) (f : Circuit → Circuit) : Prop :=
  ∀ c, (splitLines text).foldlM parseLine c = .ok (f c)

theorem DocSem.nil : DocSem [] id := fun _ => rfl

theorem DocSem.line {line T : Str} {f g : Circuit → Circuit} (hl : LineSem line f) (hT : DocSem T g) :
    DocSem (line ++ '\n' :: T) (fun c => g (f c)) := by
  intro c
  have := hl.sem c ['\n'] (Or.inr rfl)
  rw [splitLines_line hl.nlfree]
  rw [List.foldlM_cons, this]
  exact hT (f c)

theorem DocSem.last {line : Str} {f : Circuit → Circuit} (hl : LineSem line f) : DocSem line f := by
  intro c
  have := hl.sem c [] (Or.inl rfl)
  rw [List.append_nil] at this
  rw [splitLines_last hl.nlfree]
  split
  · rename_i he
    rw [List.isEmpty_iff.mp he] at this
    exact (show parseLine c [] = .ok c by simp [parseLine]).symm.trans this
  · rw [List.foldlM_cons, this]; rfl

section
variable {α : Type} {line : α → Str} {f : α → Circuit → Circuit}

theorem DocSem.unl {xs : List α} (h : ∀ x ∈ xs, LineSem (line x) (f x)) :
    DocSem (unl (xs.map line)) (fun c => xs.foldl (fun c x => f x c) c) := by
  induction xs with
  | nil => exact DocSem.nil
  | cons x t ih =>
    have := DocSem.line (h x (by simp)) (ih (fun y hy => h y (by simp [hy])))
    simpa [Cirbo.unl] using this

/-- `'\n'.join(lines)` -/
theorem DocSem.join : ∀ {xs : List α}, (∀ x ∈ xs, LineSem (line x) (f x)) →
    DocSem (joinWith ['\n'] (xs.map line)) (fun c => xs.foldl (fun c x => f x c) c)
  | [], _ => DocSem.nil
  | [x], h => DocSem.last (h x (by simp))
  | x :: y :: r, h => by
    have := DocSem.line (h x (by simp)) (DocSem.join (xs := y :: r) (fun z hz => h z (by simp [hz])))
    simpa [joinWith] using this

/-- `'\n'.join(lines)`, a newline, and more text: with no line at all this is a blank line -/
theorem DocSem.join_nl {T : Str} {g : Circuit → Circuit} (hT : DocSem T g) : ∀ {xs : List α},
    (∀ x ∈ xs, LineSem (line x) (f x)) →
    DocSem (joinWith ['\n'] (xs.map line) ++ '\n' :: T) (fun c => g (xs.foldl (fun c x => f x c) c))
  | [], _ => DocSem.line blank_sem hT
  | [x], h => DocSem.line (h x (by simp)) hT
  | x :: y :: r, h => by
    have := DocSem.line (h x (by simp)) (DocSem.join_nl hT (xs := y :: r) (fun z hz => h z (by simp [hz])))
    simpa [joinWith] using this

end

/-- what can be printed and read back: labels, operands and outputs are identifiers, and every gate has an arity the
parser accepts for its type -/
structure Printable (c : Circuit) : Prop where
  labels : ∀ g ∈ c.gates, IsIdent g.label.toList
  ops : ∀ g ∈ c.gates, ∀ o ∈ g.ops, IsIdent o.toList
  arity : ∀ g ∈ c.gates, g.ty ≠ INPUT → parserArityOk g.ty g.ops.length = true
  outs : ∀ l ∈ c.outputs, IsIdent l.toList

theorem formatGate_ne_nil (g : Gate) : formatGate g ≠ [] := by
  unfold formatGate
  split <;> simp

end Cirbo
