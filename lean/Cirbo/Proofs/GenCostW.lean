import Cirbo.Proofs.GenCostSimple
/-!
# Shape and gate counts of the weighted sums in the simple scheme: `add_sum_n_weighted_bits_naive` in either basis
-/
namespace Cirbo

theorem shape_wReduce2 {blk2 : List Label → Prog (List Label)} (lvl : Nat)
    {nowR n' : List Label} {single s' : List (Nat × Label)} {k : Nat}
    (h : Cost (wReduce2 blk2 lvl nowR single) (n', s') k) :
    (nowR.length = 2 ∧ n'.length = 1 ∧ (∃ y, s' = insertS (lvl + 1) [y] single) ∧ ∀ c2, BlockCost blk2 c2 → k = c2) ∨
    (nowR.length ≠ 2 ∧ n' = nowR ∧ s' = single ∧ k = 0) := by
  unfold wReduce2 at h
  split at h
  · simp only [cost_bind, cost_pure] at h
    obtain ⟨r, m1, m2, hblk, ⟨p, m3, m4, hp2, ⟨e, rfl⟩, rfl⟩, rfl⟩ := h
    cases e
    exact Or.inl ⟨rfl, rfl, ⟨_, rfl⟩, fun c2 hb => by rw [hb _ _ _ hblk, costs_pair2 _ _ _ hp2]; rfl⟩
  · rename_i hno
    obtain ⟨e, rfl⟩ := cost_pure.mp h
    cases e
    refine Or.inr ⟨fun hl => ?_, rfl, rfl, rfl⟩
    match nowR, hl with
    | [a, b], _ => exact hno a b rfl

theorem shape_wLevel {blk3 blk2 : List Label → Prog (List Label)} {lvl : Nat} {nowS n1 n2 : List Label}
    {single s1 s2 : List (Nat × Label)} {r : Label} {k1 k2 k3 : Nat}
    (h1 : Cost (wReduce3 blk3 lvl nowS.length nowS.reverse single) (n1, s1) k1)
    (h2 : Cost (wReduce2 blk2 lvl n1 s1) (n2, s2) k2) (h3 : Cost (firstOfRev n2) r k3) :
    n2.length = 1 ∧ k3 = 0 ∧ ∃ ys j e, s2 = insertS (lvl + 1) ys single ∧ ys.length = j + e ∧ e ≤ 1 ∧
      2 * j + e + 1 = nowS.length ∧ ∀ c3 c2, BlockCost blk3 c3 → BlockCost blk2 c2 → k1 + k2 = c3 * j + c2 * e := by
  rw [wReduce3_eq] at h1
  obtain ⟨ys, rfl, hl, _, hle, hk1⟩ := shape_reduce3With _ _ _ _ _ _ h1
  obtain ⟨hk3, hne⟩ := cost_firstOfRev h3
  have hpos := List.length_pos_iff.mpr hne
  simp only [List.length_reverse] at hl hle
  have hle := hle (by omega)
  rcases shape_wReduce2 lvl h2 with ⟨b1, b2, ⟨y, rfl⟩, hk2⟩ | ⟨b1, rfl, rfl, rfl⟩
  · exact ⟨b2, hk3, ys ++ [y], ys.length, 1, (List.foldl_append ..).symm, List.length_append, Nat.le_refl 1, by omega,
      fun c3 c2 hb3 hb2 => by rw [hk1 c3 hb3, hk2 c2 hb2, Nat.mul_one]⟩
  · exact ⟨by omega, hk3, ys, ys.length, 0, rfl, rfl, Nat.zero_le 1, by omega, fun c3 c2 hb3 _ => by rw [hk1 c3 hb3]; omega⟩

theorem shape_wSimpleLevelWith {blk3 blk2 : List Label → Prog (List Label)} {lvl : Nat} {nowS : List Label}
    {single s2 : List (Nat × Label)} {r : Label} {k : Nat}
    (h : Cost (wSimpleLevelWith blk3 blk2 lvl nowS single) (r, s2) k) :
    ∃ ys j e, s2 = insertS (lvl + 1) ys single ∧ ys.length = j + e ∧ e ≤ 1 ∧ 2 * j + e + 1 = nowS.length ∧
      ∀ c3 c2, BlockCost blk3 c3 → BlockCost blk2 c2 → k = c3 * j + c2 * e := by
  unfold wSimpleLevelWith at h
  simp only [cost_bind, cost_pure] at h
  obtain ⟨⟨n1, s1⟩, k1, _, h1, ⟨⟨n2, s2'⟩, k2, _, h2, ⟨x, k3, _, h3, ⟨e, rfl⟩, rfl⟩, rfl⟩, rfl⟩ := h
  simp only at h2 h3 e
  cases e
  obtain ⟨_, rfl, ys, j, e, hs, hys, he, hn, hk⟩ := shape_wLevel h1 h2 h3
  exact ⟨ys, j, e, hs, hys, he, hn, fun c3 c2 hb3 hb2 => by rw [← hk c3 c2 hb3 hb2]; omega⟩

/-- gates of a full adder and of a half adder in each basis -/
def basisCosts : Basis → Nat × Nat
  | .xaig => (5, 2)
  | .aig => (7, 3)

theorem cost_wSimpleLevel {b : Basis} {lvl : Nat} {nowS : List Label}
    {single s2 : List (Nat × Label)} {r : Label} {k : Nat}
    (h : Cost (wSimpleLevel b lvl nowS single) (r, s2) k) :
    ∃ j f, k = (basisCosts b).1 * j + (basisCosts b).2 * f ∧ f ≤ 1 ∧ s2.length = single.length + j + f ∧
      2 * j + 1 + f ≤ nowS.length := by
  cases b <;> obtain ⟨ys, j, e, rfl, hys, he, hn, hk⟩ := shape_wSimpleLevelWith h <;>
    refine ⟨j, e, hk _ _ ?_ ?_, he, by rw [length_insertS]; omega, by omega⟩
  · exact costs_addSum3
  · exact costs_addSum2
  · exact costs_addSum3Aig
  · exact costs_addSum2Aig

theorem cost_weightedNaiveLoop (b : Basis) (inf : Nat) :
    ∀ (fuel : Nat) (single res r : List (Nat × Label)) (k : Nat),
      Cost (weightedNaiveLoop b inf fuel single res) r k →
      ∃ J3 J2 lv, k = (basisCosts b).1 * J3 + (basisCosts b).2 * J2 ∧ r.length = res.length + lv ∧
        J3 + lv ≤ single.length ∧ J2 ≤ lv := by
  intro fuel
  induction fuel with
  | zero => intro single res r k h; unfold weightedNaiveLoop at h; exact absurd h cost_fail
  | succ f ih =>
    intro single res r k h
    unfold weightedNaiveLoop at h
    split at h
    · obtain ⟨rfl, rfl⟩ := cost_pure.mp h
      exact ⟨0, 0, 0, rfl, rfl, Nat.zero_le _, Nat.le_refl 0⟩
    · simp only at h
      split at h
      · obtain ⟨rfl, rfl⟩ := cost_pure.mp h
        exact ⟨0, 0, 0, rfl, rfl, Nat.zero_le _, Nat.le_refl 0⟩
      · simp only [cost_bind] at h
        obtain ⟨⟨x, s'⟩, k1, k2, h1, h2, rfl⟩ := h
        simp only at h2
        obtain ⟨j, fl, hk1, hf, hs', hL⟩ := cost_wSimpleLevel h1
        obtain ⟨J3, J2, lv, hk2, hrl, hJ3, hJ2⟩ := ih _ _ _ _ h2
        have hlen := takeLevel_length (fun (x : Nat × Label) => x.1) (minLevel single [] inf) single
        simp only [List.length_map] at hL
        simp only [List.length_append, List.length_singleton] at hrl
        refine ⟨J3 + j, J2 + fl, lv + 1, ?_, by omega, by omega, by omega⟩
        rw [hk1, hk2, Nat.mul_add, Nat.mul_add]; omega

/-- XAIG: at most `5n - 3m` gates, as documented; AIG: at most `7n - 4m` (documented `7n - 3m`) -/
theorem cost_addSumWeightedNaive {ins r : List (Nat × Label)} {basis : BasisArg} {k : Nat}
    (h : Cost (addSumWeightedNaive ins basis) r k) :
    ∃ b, basis.resolve = .ok b ∧
      (b = .xaig → k + 3 * r.length ≤ 5 * ins.length) ∧ (b = .aig → k + 4 * r.length ≤ 7 * ins.length) := by
  unfold addSumWeightedNaive at h
  split at h
  · exact absurd h cost_fail
  · rename_i b hb
    split at h
    · exact absurd h cost_fail
    · obtain ⟨J3, J2, lv, hk, hl, hJ3, hJ2⟩ := cost_weightedNaiveLoop b _ _ _ _ _ _ h
      rw [(sortBy_facts ins).2.1] at hJ3
      simp only [List.length_nil, Nat.zero_add] at hl
      refine ⟨b, hb, ?_, ?_⟩
      · intro e; subst e; simp only [basisCosts] at hk; omega
      · intro e; subst e; simp only [basisCosts] at hk; omega

end Cirbo
