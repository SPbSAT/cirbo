import Cirbo.Proofs.Mutate
import Cirbo.Proofs.Ops
import Cirbo.Proofs.Val
/-!
# Frame lemma: adding gates never changes the function of pre-existing gates
-/
namespace Cirbo
open GateType Circuit

/-- a circuit state that extends `c` without disturbing it: more gates, same values on old gates -/
structure Extends (c cur : Circuit) (b v b' v' : Label → Bool) : Prop where
  val : IsValB cur b' v'
  agreeV : ∀ l ∈ c.labels, v' l = v l
  agreeB : ∀ l ∈ c.labels, b' l = b l
  sub : ∀ l ∈ c.labels, l ∈ cur.labels
  closed : ∀ g ∈ cur.gates, ∀ o ∈ g.ops, o ∈ cur.labels

/-- `bnew`: the value the input assignment gives to the new label if it is an INPUT -/
theorem addGate_frame {c cur cur' : Circuit} {g : Gate} {b v b' v' : Label → Bool}
    (hext : Extends c cur b v b' v') (hadd : cur.addGate g = .ok cur')
    (har : if g.ty = INPUT then True else arityOk g.ty g.ops.length = true) (bnew : Bool) :
    ∃ b'' v'', Extends c cur' b v b'' v'' ∧ (∀ l ∈ cur.labels, v'' l = v' l) ∧
      (∀ l, l ≠ g.label → b'' l = b' l) ∧ b'' g.label = bnew := by
  obtain ⟨hfresh, hops, hg, _, _, _, _⟩ := addGate_fields hadd
  have hlab : cur'.labels = cur.labels ++ [g.label] := by unfold labels; rw [hg]; simp
  have hold : ∀ x ∈ cur.gates, x.label ≠ g.label ∧ g.label ∉ x.ops := by
    intro x hx
    exact ⟨fun e => hfresh (e ▸ mem_labels_of_mem hx), fun hm => hfresh (hext.closed x hx _ hm)⟩
  obtain ⟨x, hx⟩ : ∃ x, if g.ty = INPUT then x = bnew else bfun g.ty (g.ops.map v') = some x := by
    by_cases ht : g.ty = INPUT
    · exact ⟨bnew, by simp [ht]⟩
    · simp only [ht, if_false] at har ⊢
      obtain ⟨r, hr⟩ := bfun_isSome_of_arityOk g.ty (g.ops.map v') (by simpa using har)
      exact ⟨r, hr⟩
  have hmap : ∀ y : Gate, g.label ∉ y.ops → y.ops.map (updV v' g.label x) = y.ops.map v' := fun y hn =>
    List.map_congr_left fun o ho => by simp [updV, show o ≠ g.label from fun e => hn (e ▸ ho)]
  refine ⟨updV b' g.label bnew, updV v' g.label x, ⟨?_, ?_, ?_, ?_, ?_⟩, ?_, ?_, ?_⟩
  · intro y hy
    rw [hg] at hy
    simp only [List.mem_append, List.mem_singleton] at hy
    rcases hy with hy | rfl
    · obtain ⟨h1, h2⟩ := hold y hy
      have := hext.val y hy
      by_cases ht : y.ty = INPUT
      · simp only [ht, if_true] at this ⊢; simp [updV, h1, this]
      · simp only [ht, if_false] at this ⊢; rw [hmap y h2, this]; simp [updV, h1]
    · by_cases ht : y.ty = INPUT
      · simp only [ht, if_true] at hx ⊢; simp [updV, hx]
      · simp only [ht, if_false] at hx ⊢; rw [hmap y fun hm => hfresh (hops _ hm), hx]; simp [updV]
  · intro l hl
    have : l ≠ g.label := fun e => hfresh (e ▸ hext.sub l hl)
    simp [updV, this, hext.agreeV l hl]
  · intro l hl
    have : l ≠ g.label := fun e => hfresh (e ▸ hext.sub l hl)
    simp [updV, this, hext.agreeB l hl]
  · intro l hl; rw [hlab]; simp [hext.sub l hl]
  · intro y hy o ho
    rw [hlab]; rw [hg] at hy
    simp only [List.mem_append, List.mem_singleton] at hy
    rcases hy with hy | rfl
    · simp [hext.closed y hy o ho]
    · simp [hops o ho]
  · intro l hl
    have : l ≠ g.label := fun e => hfresh (e ▸ hl)
    simp [updV, this]
  · intro l hl; simp [updV, hl]
  · simp [updV]

theorem Extends.refl {c : Circuit} {b v : Label → Bool} (hv : IsValB c b v)
    (hcl : ∀ g ∈ c.gates, ∀ o ∈ g.ops, o ∈ c.labels) : Extends c c b v b v :=
  ⟨hv, fun _ _ => rfl, fun _ _ => rfl, fun _ h => h, hcl⟩

end Cirbo
