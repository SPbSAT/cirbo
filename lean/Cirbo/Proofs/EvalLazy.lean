import Cirbo.Proofs.Eval
import Cirbo.Proofs.Val
/-!
# The demand-driven evaluator (`evaluate_circuit`): one iteration, the loop, the invariant on values
-/
namespace Cirbo
open GateType

/-- the operands `lazyStep` pushes: those that have no value yet -/
def missingOps (d : Asg) (ops : List Label) : List Label := ops.filter (fun o => !d.contains o)

theorem mem_missingOps {d : Asg} {ops : List Label} {o : Label} :
    o ∈ missingOps d ops ↔ o ∈ ops ∧ d.contains o = false := by
  simp [missingOps]

theorem missingOps_eq_nil {d : Asg} {ops : List Label} :
    missingOps d ops = [] ↔ ∀ o ∈ ops, d.contains o = true := by
  simp [missingOps, List.filter_eq_nil_iff]

theorem irrefl_of_rank {c : Circuit} {r : Label → Nat}
    (hrk : ∀ g ∈ c.gates, ∀ o ∈ g.ops, r o < r g.label) : ∀ g ∈ c.gates, g.label ∉ g.ops :=
  fun g hg ho => Nat.lt_irrefl _ (hrk g hg _ ho)

/-- A gate that is its own operand would be evaluated with that operand missing; `hirr` excludes it. -/
theorem lazyStep_snoc {c : Circuit} (hirr : ∀ g ∈ c.gates, g.label ∉ g.ops) {top : Label} {g : Gate}
    (hf : c.find? top = some g) (q : List Label) (d : Asg) :
    lazyStep c (q ++ [top]) d =
      if missingOps d g.ops = [] then
        match evalGate g d with
        | .error e => .error e
        | .ok r => .ok (q, d.set top r)
      else .ok (q ++ [top] ++ missingOps d g.ops, d) := by
  obtain ⟨hg, rfl⟩ := find_some_mem hf
  simp only [lazyStep, List.getLast?_concat, hf, ← missingOps.eq_1]
  rcases List.eq_nil_or_concat (missingOps d g.ops) with hm | ⟨m, o, hm⟩
  · rw [hm, List.append_nil, List.getLast?_concat, if_pos rfl, if_pos rfl, List.dropLast_concat]
    rfl
  · have ho : o ≠ g.label := fun e =>
      hirr g hg (e ▸ (mem_missingOps.mp (hm ▸ by simp : o ∈ missingOps d g.ops)).1)
    rw [hm, List.concat_eq_append, ← List.append_assoc, List.getLast?_concat,
      if_neg (fun e => ho (Option.some.inj e)), if_neg (by simp)]

theorem lazyStep_cases {c : Circuit} (hirr : ∀ g ∈ c.gates, g.label ∉ g.ops) (s : List Label) (d : Asg) :
    (s = [] ∧ lazyStep c s d = .ok ([], d)) ∨
    ∃ q top, s = q ++ [top] ∧
      ((c.find? top = none ∧ lazyStep c s d = .error "GateDoesntExistError") ∨
       ∃ g ∈ c.gates, g.label = top ∧ c.find? top = some g ∧
        ((missingOps d g.ops ≠ [] ∧ lazyStep c s d = .ok (s ++ missingOps d g.ops, d)) ∨
         (missingOps d g.ops = [] ∧ lazyStep c s d =
            match evalGate g d with
            | .error e => .error e
            | .ok r => .ok (q, d.set top r)))) := by
  rcases List.eq_nil_or_concat s with rfl | ⟨q, top, rfl⟩
  · exact .inl ⟨rfl, rfl⟩
  · rw [List.concat_eq_append]
    refine .inr ⟨q, top, rfl, ?_⟩
    cases hf : c.find? top with
    | none => exact .inl ⟨rfl, by simp only [lazyStep, List.getLast?_concat, hf]⟩
    | some g =>
      rw [lazyStep_snoc hirr hf]
      refine .inr ⟨g, (find_some_mem hf).1, (find_some_mem hf).2, rfl, ?_⟩
      by_cases hm : missingOps d g.ops = []
      · exact .inr ⟨hm, if_pos hm⟩
      · exact .inl ⟨hm, if_neg hm⟩

theorem lazyLoop_nil (c : Circuit) (fuel : Nat) (d : Asg) : lazyLoop c fuel [] d = .ok d := by
  cases fuel <;> rfl

theorem lazyLoop_succ {c : Circuit} {s : List Label} (hne : s ≠ []) (fuel : Nat) (d : Asg) :
    lazyLoop c (fuel + 1) s d =
      match lazyStep c s d with
      | .error e => .error e
      | .ok (s', d') => lazyLoop c fuel s' d' := by
  cases s with
  | nil => exact absurd rfl hne
  | cons x t => rfl

/-- induction along the loop; the property may depend on the remaining step budget, so that a
potential below the budget, or a second run with the same budget, can be carried along -/
theorem lazyLoop_induct {c : Circuit} {P : Nat → List Label → Asg → Prop}
    (step : ∀ n s d s' d', P (n + 1) s d → s ≠ [] → lazyStep c s d = .ok (s', d') → P n s' d') :
    ∀ fuel s d, P fuel s d →
      (∀ dfin, lazyLoop c fuel s d = .ok dfin → ∃ n, P n [] dfin) ∧
      (∀ e, lazyLoop c fuel s d = .error e →
        (e = "fuel" ∧ ∃ s1 d1, P 0 s1 d1) ∨
        ∃ n s1 d1, P (n + 1) s1 d1 ∧ lazyStep c s1 d1 = .error e)
  | 0, [], d, hP => ⟨fun _ h => ⟨0, by cases h; exact hP⟩, fun _ h => (nomatch h)⟩
  | 0, x :: t, d, hP =>
    ⟨fun _ h => (nomatch h), fun _ h => .inl ⟨(Except.error.inj h).symm, _, _, hP⟩⟩
  | fuel+1, [], d, hP => ⟨fun _ h => ⟨_, by cases h; exact hP⟩, fun _ h => (nomatch h)⟩
  | fuel+1, x :: t, d, hP => by
    rw [lazyLoop_succ (by simp)]
    cases hs : lazyStep c (x :: t) d with
    | error e' => exact ⟨fun _ h => (nomatch h), fun e h => by cases h; exact .inr ⟨_, _, _, hP, hs⟩⟩
    | ok p => exact lazyLoop_induct step fuel p.1 p.2 (step _ _ _ _ _ hP (by simp) hs)

/-- what holds of stack and dictionary throughout: entries carry the valuation's values, inputs
have entries, the stack holds internal gates, and what is requested is assigned or on the stack -/
structure LInv (c : Circuit) (v : Label → V3) (need s : List Label) (d : Asg) : Prop where
  val : ∀ l ∈ c.labels, ∀ x, d.get? l = some x → x = v l
  inp : ∀ l ∈ c.inputs, d.contains l = true
  stk : ∀ l ∈ s, l ∈ c.labels ∧ l ∉ c.inputs
  need : ∀ l ∈ need, l ∈ s ∨ d.contains l = true

theorem LInv.valOf_eq {c : Circuit} {v : Label → V3} {need s : List Label} {d : Asg}
    (inv : LInv c v need s d) {l : Label} (hl : l ∈ c.labels) (hc : d.contains l = true) :
    valOf d l = v l := by
  obtain ⟨x, hx⟩ := Option.isSome_iff_exists.mp hc
  rw [valOf, hx, ← inv.val l hl x hx]; rfl

theorem lazyStep_inv {c : Circuit} (h : WF c) {a v : Label → V3} (hv : IsVal3 c a v)
    {need s s' : List Label} {d d' : Asg} (inv : LInv c v need s d)
    (hs : lazyStep c s d = .ok (s', d')) : LInv c v need s' d' := by
  obtain ⟨rk, hrk⟩ := h.rank
  rcases lazyStep_cases (irrefl_of_rank hrk) s d with
    ⟨rfl, e⟩ | ⟨q, top, rfl, ⟨-, e⟩ | ⟨g, hg, rfl, -, ⟨-, e⟩ | ⟨hm, e⟩⟩⟩ <;> rw [e] at hs
  · cases hs; exact inv
  · cases hs
  · cases hs
    refine ⟨inv.val, inv.inp, fun l hl => ?_, fun l hl => (inv.need l hl).imp_left (List.mem_append_left _)⟩
    rcases List.mem_append.mp hl with hl | hl
    · exact inv.stk l hl
    · obtain ⟨ho, hc⟩ := mem_missingOps.mp hl
      exact ⟨h.closed g hg l ho, fun hi => by simp [inv.inp l hi] at hc⟩
  · have hty : g.ty ≠ INPUT := fun hty => (inv.stk g.label (by simp)).2 ((mem_inputs_iff h hg).mpr hty)
    cases he : evalGate g d with
    | error e => rw [he] at hs; cases hs
    | ok r =>
      rw [he] at hs; cases hs
      obtain ⟨hall, hr⟩ := (evalGate_ok_iff hty).mp he
      have hr : r = v g.label := by
        have h2 := hv g hg
        rw [if_neg hty, ← List.map_congr_left (fun o ho => inv.valOf_eq (h.closed g hg o ho) (hall o ho)), hr] at h2
        exact Option.some.inj h2
      refine ⟨fun l hl x hx => ?_, fun l hl => ?_, fun l hl => inv.stk l (by simp [hl]), fun l hl => ?_⟩
      · rw [Dict.get?_set] at hx
        split at hx
        · cases hx; rwa [‹l = g.label›]
        · exact inv.val l hl x hx
      · simp [contains_set, inv.inp l hl]
      · rcases inv.need l hl with hin | hin
        · rcases List.mem_append.mp hin with hin | hin
          · exact .inl hin
          · exact .inr (by simp [contains_set, List.mem_singleton.mp hin])
        · exact .inr (by simp [contains_set, hin])

theorem linv_init {c : Circuit} (h : WF c) (asg : Asg) (outs : Option (List Label))
    (hasg : ∀ g ∈ c.gates, g.ty ≠ INPUT → asg.get? g.label = none)
    (houts : ∀ o ∈ outs.getD c.outputs, o ∈ c.labels) {v : Label → V3}
    (hv : IsVal3 c (asgFun asg) v) {need : List Label}
    (hneed : (outs.getD c.outputs).filter (fun o => !c.inputs.contains o) = need) :
    LInv c v need need (initAsg c asg) := by
  refine ⟨fun l hl x hx => ?_, fun l hl => ?_, fun l hl => ?_, fun l hl => Or.inl hl⟩
  · obtain ⟨g, hg, rfl⟩ := gate_of_label hl
    have h2 := hv g hg
    rw [initAsg_get?] at hx
    by_cases hty : g.ty = INPUT
    · rw [if_pos ((mem_inputs_iff h hg).mpr hty)] at hx
      rw [if_pos hty] at h2
      rw [h2, ← Option.some.inj hx]
    · rw [if_neg (mt (mem_inputs_iff h hg).mp hty), hasg g hg hty] at hx
      cases hx
  · simp [Dict.contains, initAsg_get?, hl]
  · rw [← hneed] at hl
    simp only [List.mem_filter, Bool.not_eq_eq_eq_not, Bool.not_true, List.contains_eq_mem,
      decide_eq_false_iff_not] at hl
    exact ⟨houts l hl.1, hl.2⟩

end Cirbo
