import Cirbo.Proofs.ConnInv
import Cirbo.Model.Miter
/-!
# What a connection returns

`Connected`: the result in terms of the two circuits and the renaming alone, in either direction — the loop's final
state (`connect_run`) followed through the tail (`connFinish_spec`).
-/
namespace Cirbo
open GateType Circuit

theorem isValB_of_copies {c' other : Circuit} {φ : Label → Label}
    (h : ∀ g ∈ other.gates, g.ty ≠ INPUT → g.ren φ ∈ c'.gates)
    {b v : Label → Bool} (hv : IsValB c' b v) : IsValB other (v ∘ φ) (v ∘ φ) := by
  intro g hgm
  by_cases ht : g.ty = INPUT
  · simp [ht]
  · have hv' := hv _ (h g hgm ht)
    simp only [Gate.ren, ht, if_false, List.map_map] at hv' ⊢
    exact hv'

theorem connFinish_spec {c other c' : Circuit} {st : ConnSt} {thisC otherC : List Label} {name : Label}
    {pre : String} (h : connFinish c other st thisC otherC name pre = .ok c')
    (ho : st.c.outputs = c.outputs) (hb : st.c.blocks = c.blocks) {φ : Label → Label}
    (hφ : ∀ {ls r : List Label}, mapLabels st.o2n ls = .ok r → r = ls.map φ) :
    c'.gates = st.c.gates ∧
    c'.outputs = c.outputs.filter (fun o => !thisC.contains o) ++ (other.outputs.filter (fun o => !otherC.contains o)).map φ ∧
    c'.inputs = c.inputs.filter (fun i => ((c'.find? i).map (·.ty)) == some INPUT) ++
      (other.inputs.filter (fun i => !otherC.contains i)).map φ ∧
    (name ≠ "" → c'.getBlock name = .ok ⟨name, other.inputs.map φ, st.forBlock, other.outputs.map φ⟩) ∧
    (∀ n b, n ≠ name → c.getBlock n = .ok b → c'.getBlock n = .ok b) ∧
    (∀ b ∈ c'.blocks, b.name = name ∨ (∃ b0 ∈ c.blocks, b.name = b0.name) ∨ ∃ b0 ∈ other.blocks, b.name = pre ++ b0.name) := by
  obtain ⟨outs2, c1, ins2, c2, c3, h1, h2, h3, _, h5, h6, h7⟩ := connFinish_ok_iff.mp h
  obtain ⟨g3, i3, o3, mb, b3, n3⟩ := bfold_fields h6
  have g1 := setOutputs_gates h2
  have g2 := setInputs_gates h5
  rw [setInputs_blocks h5, setOutputs_blocks h2, hb] at b3
  have hgates : c3.gates = st.c.gates := by rw [g3, g2, g1]
  have hfind : ∀ {cc : Circuit}, cc.gates = st.c.gates → ∀ i, c1.find? i = cc.find? i := fun e i => by
    unfold Circuit.find?; rw [g1, e]
  have houts : c3.outputs = c.outputs.filter (fun o => !thisC.contains o) ++
      (other.outputs.filter (fun o => !otherC.contains o)).map φ := by
    rw [o3, (setInputs_interface h5).2, (setOutputs_interface h2).1, ho, hφ h1]
  have hins : ∀ {cc : Circuit}, cc.gates = st.c.gates → c3.inputs =
      c.inputs.filter (fun i => ((cc.find? i).map (·.ty)) == some INPUT) ++
      (other.inputs.filter (fun i => !otherC.contains i)).map φ := fun e => by
    rw [i3, (setInputs_interface h5).1, hφ h3]
    congr 1
    exact List.filter_congr (fun i _ => by rw [hfind e])
  have hnames : ∀ b ∈ c3.blocks, (∃ b0 ∈ c.blocks, b.name = b0.name) ∨ ∃ b0 ∈ other.blocks, b.name = pre ++ b0.name := by
    intro b hb'
    rw [b3] at hb'
    exact (List.mem_append.mp hb').imp (fun h => ⟨b, h, rfl⟩) (n3 b)
  have hold : ∀ n b, c.getBlock n = .ok b → c3.blocks.find? (fun x => x.name == n) = some b := by
    intro n b hgb
    unfold Circuit.getBlock at hgb
    cases hf : c.blocks.find? (fun x => x.name == n) with
    | none => simp [hf] at hgb
    | some b0 =>
      simp only [hf, Except.ok.injEq] at hgb
      rw [b3, List.find?_append, hf, ← hgb]; rfl
  by_cases hn : name = ""
  · simp only [hn, if_true] at h7
    subst h7
    exact ⟨hgates, houts, hins hgates, fun h => absurd hn h, fun n b _ hgb => by
      unfold Circuit.getBlock; rw [hold n b hgb], fun b hb' => Or.inr (hnames b hb')⟩
  · simp only [hn, if_false] at h7
    obtain ⟨bi, bo, hi, ho', rfl⟩ := h7
    rw [hφ hi, hφ ho']
    refine ⟨hgates, houts, hins hgates, fun _ => ?_, fun n b hne hgb => ?_, fun b hb' => ?_⟩
    · unfold Circuit.getBlock
      by_cases hany : c3.blocks.any (fun x => x.name == name) = true
      · simp only [hany, if_true]
        rw [find_map_replace (fun x : Block => x.name == name) _ (by simp) _ hany]
      · simp only [hany, Bool.false_eq_true, if_false]
        rw [List.find?_append, List.find?_eq_none.mpr (fun x hx hxe => hany (List.any_eq_true.mpr ⟨x, hx, hxe⟩))]
        simp
    · unfold Circuit.getBlock
      have hnn : (name == n) = false := by simpa using fun e : name = n => hne e.symm
      by_cases hany : c3.blocks.any (fun x => x.name == name) = true
      · simp only [hany, if_true]
        rw [find_map_other (fun x : Block => x.name == name) (fun x : Block => x.name == n) _ hnn
          (by intro x hx; simp only [beq_iff_eq] at hx; simpa [hx] using hnn), hold n b hgb]
      · simp only [hany, Bool.false_eq_true, if_false]
        rw [List.find?_append, hold n b hgb]; rfl
    · simp only at hb'
      split at hb'
      · obtain ⟨x, hx, rfl⟩ := List.mem_map.mp hb'
        split
        · exact Or.inl rfl
        · exact Or.inr (hnames x hx)
      · rcases List.mem_append.mp hb' with hb' | hb'
        · exact Or.inr (hnames b hb')
        · exact Or.inl (by simp at hb'; rw [hb'])

theorem map_connectors {thisC otherC : List Label} {φ : Label → Label} (hnd : otherC.Nodup)
    (hlen : thisC.length = otherC.length)
    (hφ : ∀ l x, Dict.get? (connMapping thisC otherC) l = some x → φ l = x) : otherC.map φ = thisC := by
  have hkeys : (otherC.zip thisC).map (·.1) = otherC := List.map_fst_zip (by omega)
  have hvals : (otherC.zip thisC).map (·.2) = thisC := List.map_snd_zip (by omega)
  have : (otherC.zip thisC).map (fun p => φ p.1) = (otherC.zip thisC).map (·.2) :=
    List.map_congr_left fun p hp => hφ p.1 p.2 ((connMapping_get? ..).trans
      (get?_eq_of_mem (by rw [NodupKeys, List.map_reverse, hkeys]; exact (List.reverse_perm _).nodup_iff.mpr hnd)
        (List.mem_reverse.mpr hp)))
  rw [← hvals, ← this]
  conv => lhs; rw [← hkeys]
  rw [List.map_map]; rfl

theorem connect_run {c other c' : Circuit} {thisC otherC : List Label} {right : Bool} {name : Label} {addP : Bool}
    (hwo : WFG other) (h : c.connectCircuit other thisC otherC right name addP = .ok c') :
    ∃ order st, order.Perm other.labels ∧ other.topSort true = .ok order ∧
      order.foldl (connStep other (connMapping thisC otherC) (connPre name addP) right)
        (.ok ⟨c, connMapping thisC otherC, []⟩) = .ok st ∧
      connFinish c other st thisC otherC name (connPre name addP) = .ok c' ∧
      ConnInv c other (connMapping thisC otherC) (connPre name addP) right order st := by
  obtain ⟨_, hthis, _, _, hndt, _, _, order, st, hts, hfold, hfin⟩ := connectCircuit_ok_iff.mp h
  obtain ⟨order', ho1, hperm, hord⟩ := topSort_inv_spec hwo
  cases hts.symm.trans ho1
  refine ⟨order, st, hperm, hts, hfold, hfin, connLoop_induction (fun done cur rest st st' e hi hs => ?_) (ConnInv.start ..) hfold⟩
  obtain ⟨hcur, hops⟩ := topo_prefix (hperm.nodup_iff.mpr hwo.nodup) hord e
  exact hi.step (fun k x hk => hthis x (List.of_mem_zip (connMapping_mem_zip hk)).2)
    (fun hr _ _ _ => connMapping_inj (hndt hr)) hcur hops hs

/-- `c'` is what `connect_circuit` makes of `c` and `other` under the renaming `φ` of `other`'s labels; a gate of
`other` is *placed* unless it is a connector of a left connection -/
structure Connected (c other : Circuit) (thisC otherC : List Label) (right : Bool) (name : Label) (pre : String)
    (φ : Label → Label) (c' : Circuit) : Prop where
  mapped : ∀ l x, Dict.get? (connMapping thisC otherC) l = some x → φ l = x
  copy : ∀ l, Dict.contains (connMapping thisC otherC) l = false → φ l = pre ++ l
  conn : otherC.map φ = thisC
  connTy : if right then ∀ l ∈ thisC, (c.find? l).map (·.ty) = some INPUT
    else ∀ l ∈ otherC, (other.find? l).map (·.ty) = some INPUT
  placed : ∀ g ∈ other.gates, (g.label ∈ otherC → right = true) → g.ren φ ∈ c'.gates
  kept : ∀ x ∈ c.gates, (right = true → x.label ∉ thisC) → x ∈ c'.gates
  origin : ∀ x ∈ c'.gates, x ∈ c.gates ∨ ∃ g ∈ other.gates, (g.label ∈ otherC → right = true) ∧ x = g.ren φ
  appends : right = false → ∃ extra, c'.gates = c.gates ++ extra
  labels : ∀ l ∈ c'.labels, l ∈ c.labels ∨ ∃ l0 ∈ other.labels, l = pre ++ l0
  nodup : c.labels.Nodup → c'.labels.Nodup
  outputs : c'.outputs = c.outputs.filter (fun o => !thisC.contains o) ++
    (other.outputs.filter (fun o => !otherC.contains o)).map φ
  -- read in the result, `set_inputs` running after the loop: an input fed by a right connection is no INPUT gate there
  inputs : c'.inputs = c.inputs.filter (fun i => ((c'.find? i).map (·.ty)) == some INPUT) ++
    (other.inputs.filter (fun i => !otherC.contains i)).map φ
  block : name ≠ "" → ∃ fb, c'.getBlock name = .ok ⟨name, other.inputs.map φ, fb, other.outputs.map φ⟩ ∧ fb.Nodup ∧
    ∀ x, x ∈ fb ↔ ∃ g ∈ other.gates, g.ty ≠ INPUT ∧ (g.label ∈ otherC → right = true) ∧ x = φ g.label
  older : ∀ n b, n ≠ name → c.getBlock n = .ok b → c'.getBlock n = .ok b
  names : ∀ b ∈ c'.blocks, b.name = name ∨ (∃ b0 ∈ c.blocks, b.name = b0.name) ∨ ∃ b0 ∈ other.blocks, b.name = pre ++ b0.name

theorem connect_spec {c other c' : Circuit} {thisC otherC : List Label} {right : Bool} {name : Label} {addP : Bool}
    (hwo : WFG other) (h : c.connectCircuit other thisC otherC right name addP = .ok c') :
    Connected c other thisC otherC right name (connPre name addP)
      (connRen (connMapping thisC otherC) (connPre name addP)) c' := by
  obtain ⟨_, _, _, hndo, _, hlen, hty, _⟩ := connectCircuit_ok_iff.mp h
  obtain ⟨order, st, hperm, _, _, hfin, hinv⟩ := connect_run hwo h
  obtain ⟨fg, fo, fi, fb, fold, fn⟩ := connFinish_spec hfin hinv.outputs hinv.blocks hinv.mapLabels
  have hin : ∀ {g}, g ∈ other.gates → g.label ∈ order ∧ other.find? g.label = some g := fun hg =>
    ⟨hperm.mem_iff.mpr (mem_labels_of_mem hg), find_label hwo.nodup hg⟩
  have hdir : ∀ {k : Label}, (k ∈ otherC → right = true) → Dict.contains (connMapping thisC otherC) k = true → right = true :=
    fun hk hc => hk (Classical.byContradiction fun hm => by rw [connMapping_not_mem hm] at hc; cases hc)
  refine ⟨fun _ _ => connRen_mapped, fun _ => connRen_copy, map_connectors hndo hlen fun l x hl => connRen_mapped hl, hty,
    fun g hg hd => fg ▸ hinv.placed _ (hin hg).1 g (hin hg).2 (hdir hd),
    fun x hx hk => fg ▸ hinv.kept x hx fun hr k _ hm => hk hr (List.of_mem_zip (connMapping_mem_zip hm)).2,
    fun x hx => ?_,
    fun hr => (hinv.appends hr).imp fun extra e => fg.trans e, fun l hl => ?_, fun h0 => ?_, fo, fi, fun hn => ⟨_, fb hn, hinv.forBlockNodup, fun x => ?_⟩,
    fold, fn⟩
  · refine (hinv.origin x (fg ▸ hx)).imp id fun ⟨k, _, g, hf, hd, e⟩ => ?_
    obtain ⟨hg, rfl⟩ := find_some_mem hf
    exact ⟨g, hg, fun hm => hd (connMapping_mem hlen hm), e⟩
  · unfold Circuit.labels at hl
    rw [fg, show st.c.gates.map (·.label) = st.c.labels from rfl, hinv.labels] at hl
    refine (List.mem_append.mp hl).imp id fun h1 => ?_
    obtain ⟨k, hk, rfl⟩ := List.mem_map.mp h1
    exact ⟨k, hperm.mem_iff.mp (List.mem_filter.mp hk).1, rfl⟩
  · unfold Circuit.labels
    rw [fg]
    exact hinv.nodup (hperm.nodup_iff.mpr hwo.nodup) h0
  · rw [hinv.forBlock x]
    constructor
    · rintro ⟨k, _, g, hf, ht, hd, rfl⟩
      obtain ⟨hg, rfl⟩ := find_some_mem hf
      exact ⟨g, hg, ht, fun hm => hd (connMapping_mem hlen hm), rfl⟩
    · rintro ⟨g, hg, ht, hd, rfl⟩
      exact ⟨g.label, (hin hg).1, g, (hin hg).2, ht, hdir hd, rfl⟩

/-- a connector of a left connection is an INPUT gate: every other gate is placed -/
theorem Connected.placed_of_ty {c other c' : Circuit} {thisC otherC : List Label} {right : Bool} {name : Label}
    {pre : String} {φ : Label → Label} (hc : Connected c other thisC otherC right name pre φ c')
    (hnd : other.labels.Nodup) {g : Gate} (hg : g ∈ other.gates) (ht : g.ty ≠ INPUT) :
    g.label ∈ otherC → right = true := fun hm => by
  have hty := hc.connTy
  cases right with
  | true => rfl
  | false =>
    simp only [Bool.false_eq_true, if_false] at hty
    exact absurd (ty_of_find_ty hnd hg (hty g.label hm)) ht

theorem Connected.sem {c other c' : Circuit} {thisC otherC : List Label} {right : Bool} {name : Label}
    {pre : String} {φ : Label → Label} (hc : Connected c other thisC otherC right name pre φ c')
    (hnd : other.labels.Nodup) (b v : Label → Bool) (hv : IsValB c' b v) : IsValB other (v ∘ φ) (v ∘ φ) :=
  isValB_of_copies (fun g hg ht => hc.placed g hg (hc.placed_of_ty hnd hg ht)) hv

theorem connect_left_semantics {c other c' : Circuit} {thisC otherC : List Label} {name : Label} {addP : Bool}
    (hwo : WFG other) (h : c.connectCircuit other thisC otherC false name addP = .ok c') :
    ∃ φ : Label → Label,
      (∀ b v, IsValB c' b v → IsValB other (v ∘ φ) (v ∘ φ)) ∧
      (∀ l x, Dict.get? (connMapping thisC otherC) l = some x → φ l = x) ∧
      (∀ g ∈ other.gates, g.ty ≠ INPUT → φ g.label = connPre name addP ++ g.label) := by
  have hc := connect_spec hwo h
  exact ⟨_, hc.sem hwo.nodup, hc.mapped, fun g hg ht => hc.copy _
    (connMapping_not_mem fun hm => nomatch hc.placed_of_ty hwo.nodup hg ht hm)⟩

/-- the conjuncts are read in the docstring of `c10_left_connection_interface_and_block` -/
theorem connect_left_full {c other c' : Circuit} {thisC otherC : List Label} {name : Label} {addP : Bool}
    (hwo : WFG other) (h : c.connectCircuit other thisC otherC false name addP = .ok c') :
    ∃ φ : Label → Label,
      (∀ b v, IsValB c' b v → IsValB other (v ∘ φ) (v ∘ φ)) ∧
      otherC.map φ = thisC ∧
      (∀ g ∈ other.gates, g.label ∉ otherC → φ g.label = connPre name addP ++ g.label) ∧
      (∃ extra, c'.gates = c.gates ++ extra) ∧
      (∀ g ∈ other.gates, g.label ∉ otherC → (⟨φ g.label, g.ty, g.ops.map φ⟩ : Gate) ∈ c'.gates) ∧
      (c.labels.Nodup → c'.labels.Nodup) ∧
      c'.outputs = c.outputs.filter (fun o => !thisC.contains o) ++ (other.outputs.filter (fun o => !otherC.contains o)).map φ ∧
      c'.inputs = c.inputs.filter (fun i => ((c'.find? i).map (·.ty)) == some INPUT) ++
        (other.inputs.filter (fun i => !otherC.contains i)).map φ ∧
      (name ≠ "" → ∃ fb, c'.getBlock name = .ok ⟨name, other.inputs.map φ, fb, other.outputs.map φ⟩) ∧
      (∀ n b, n ≠ name → c.getBlock n = .ok b → c'.getBlock n = .ok b) := by
  have hc := connect_spec hwo h
  exact ⟨_, hc.sem hwo.nodup, hc.conn, fun g hg hn => hc.copy _ (connMapping_not_mem hn), hc.appends rfl,
    fun g hg hn => hc.placed g hg fun hm => absurd hm hn,
    hc.nodup, hc.outputs, hc.inputs, fun hn => (hc.block hn).imp fun fb hfb => hfb.1, hc.older⟩

end Cirbo
