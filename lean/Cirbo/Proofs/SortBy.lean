import Cirbo.Model.Gen
/-!
# The insertion sort of the model (`insertBy`, `sortBy`) rearranges its input
-/
namespace Cirbo

theorem insertBy_perm {α} (lt : α → α → Bool) (x : α) (l : List α) : (insertBy lt x l).Perm (x :: l) := by
  induction l with
  | nil => exact List.Perm.refl _
  | cons y r ih =>
    unfold insertBy
    split
    · exact List.Perm.refl _
    · exact (List.Perm.cons y ih).trans (List.Perm.swap x y r)

theorem sortBy_perm {α} (lt : α → α → Bool) (l : List α) : (sortBy lt l).Perm l := by
  unfold sortBy
  suffices ∀ acc, (l.foldl (fun acc x => insertBy lt x acc) acc).Perm (l.reverse ++ acc) by
    have := this []
    simp only [List.append_nil] at this
    exact this.trans (List.reverse_perm l)
  induction l with
  | nil => intro acc; exact List.Perm.refl _
  | cons x r ih =>
    intro acc
    simp only [List.foldl_cons, List.reverse_cons, List.append_assoc, List.singleton_append]
    exact (ih _).trans (List.Perm.append_left _ (insertBy_perm lt x acc))

end Cirbo
