import Cirbo.Proofs.BitIO
/-! # The binary dictionary (C16): what was written is read back entry by entry (`writeDict_some`); a reader that
succeeds on a prefix leaves the rest unread (`readEntries_mono`) -/
namespace Cirbo

theorem foldl_beDigits (k len acc : Nat) :
    ((List.range len).reverse.map fun i => k / 256 ^ i % 256).foldl (fun acc b => acc * 256 + b) acc
      = acc * 256 ^ len + k % 256 ^ len := by
  induction len generalizing acc with
  | zero => simp [Nat.mod_one]
  | succ len ih =>
    rw [List.range_succ, List.reverse_append, List.map_append, List.reverse_singleton, List.map_singleton,
      List.singleton_append, List.foldl_cons, ih, Nat.mod_pow_succ, Nat.pow_succ]
    rw [Nat.add_mul]
    have : acc * 256 * 256 ^ len = acc * (256 ^ len * 256) := by
      rw [Nat.mul_assoc, Nat.mul_comm 256]
    rw [this, Nat.mul_comm (k / 256 ^ len % 256)]
    omega

theorem beBytes_spec {k len : Nat} {bs : List Nat} (h : beBytes k len = some bs) :
    ofBeBytes bs = k ∧ bs.length = len := by
  unfold beBytes at h
  split at h
  · rename_i hk
    simp only [Option.some.injEq] at h
    subst h
    refine ⟨?_, by simp⟩
    have := foldl_beDigits k len 0
    simp only [Nat.zero_mul, Nat.zero_add, Nat.mod_eq_of_lt hk] at this
    exact this
  · cases h

theorem takeExact_append (a b : List Nat) (n : Nat) (h : a.length = n) :
    takeExact (a ++ b) n = some (a, b) := by subst h; simp [takeExact]

theorem readEntries_written : ∀ (d : BDict) (body : List (List Nat)) (rest : List Nat),
    d.mapM entryBytes = some body → readEntries d.length (body.flatten ++ rest) = some (d, rest) := by
  intro d
  induction d with
  | nil => intro body rest h; simp at h; subst h; rfl
  | cons kv r ih =>
    intro body rest h
    simp only [List.mapM_cons, Option.bind_eq_bind, Option.bind_eq_some_iff, Option.pure_def, Option.some.injEq] at h
    obtain ⟨e, he, body', hr, rfl⟩ := h
    simp only [entryBytes] at he
    split at he
    · rename_i kl vl hkl hvl
      rw [Option.some.injEq] at he
      subst he
      obtain ⟨k1, k2⟩ := beBytes_spec hkl
      obtain ⟨v1, v2⟩ := beBytes_spec hvl
      simp only [List.length_cons, readEntries, List.flatten_cons, List.append_assoc, Option.bind_eq_bind,
        takeExact_append kl _ 2 k2, k1, takeExact_append kv.1 _ _ rfl, takeExact_append vl _ 2 v2, v1,
        takeExact_append kv.2 _ _ rfl, Option.bind_some, ih body' rest hr]
      rfl
    · cases he

def keysNodup (d : BDict) : Prop := (d.map (·.1)).Nodup

theorem dictOfEntries_nodup (d : BDict) (h : keysNodup d) : dictOfEntries d = d := by
  unfold dictOfEntries
  suffices ∀ (acc rest : BDict), keysNodup (acc ++ rest) →
      rest.foldl (fun acc kv => if acc.any (fun p => p.1 == kv.1)
        then acc.map (fun p => if p.1 == kv.1 then (p.1, kv.2) else p) else acc ++ [kv]) acc = acc ++ rest by
    simpa using this [] d (by simpa using h)
  intro acc rest
  induction rest generalizing acc with
  | nil => intro _; simp
  | cons kv r ih =>
    intro hnd
    have hnot : acc.any (fun p => p.1 == kv.1) = false := by
      rw [List.any_eq_false]
      intro p hp hpe
      simp only [beq_iff_eq] at hpe
      unfold keysNodup at hnd
      rw [List.map_append, List.nodup_append] at hnd
      exact hnd.2.2 p.1 (List.mem_map.mpr ⟨p, hp, rfl⟩) kv.1 (by simp) hpe
    simp only [List.foldl_cons, hnot, Bool.false_eq_true, if_false]
    have := ih (acc ++ [kv]) (by simpa using hnd)
    simpa using this

theorem writeDict_some {d : BDict} {bs : List Nat} (hw : writeDict d = some bs) :
    ∃ hdr body, bs = hdr ++ body ∧ ofBeBytes hdr = d.length ∧
      hdr.length = 8 ∧ ∀ rest, readEntries d.length (body ++ rest) = some (d, rest) := by
  unfold writeDict at hw
  cases hh : beBytes d.length 8 with
  | none => simp [hh] at hw
  | some hdr =>
    cases hb : d.mapM entryBytes with
    | none => simp [hh, hb] at hw
    | some body =>
      simp only [hh, hb, Option.some.injEq] at hw
      obtain ⟨h1, h2⟩ := beBytes_spec hh
      exact ⟨hdr, body.flatten, hw.symm, h1, h2, fun rest => readEntries_written d body rest hb⟩

theorem takeExact_mono {p s a r : List Nat} {n : Nat} (h : takeExact p n = some (a, r)) :
    takeExact (p ++ s) n = some (a, r ++ s) := by
  unfold takeExact at h ⊢
  split at h
  · cases h
  · rename_i hl
    simp only [Option.some.injEq, Prod.mk.injEq] at h
    obtain ⟨rfl, rfl⟩ := h
    have hl' : ¬ (p ++ s).length < n := by simp; omega
    have hn : n ≤ p.length := by omega
    simp only [hl', if_false, Option.some.injEq, Prod.mk.injEq]
    exact ⟨List.take_append_of_le_length hn, List.drop_append_of_le_length hn⟩

theorem readEntries_mono : ∀ (n : Nat) (p s : List Nat) (es : BDict) (r : List Nat),
    readEntries n p = some (es, r) → readEntries n (p ++ s) = some (es, r ++ s) := by
  intro n
  induction n with
  | zero => intro p s es r h; simp [readEntries] at h ⊢; obtain ⟨rfl, rfl⟩ := h; exact ⟨rfl, rfl⟩
  | succ n ih =>
    intro p s es r h
    simp only [readEntries, Option.bind_eq_bind, Option.bind_eq_some_iff] at h
    obtain ⟨⟨kl, r1⟩, h1, ⟨k, r2⟩, h2, ⟨vl, r3⟩, h3, ⟨v, r4⟩, h4, ⟨rest, r5⟩, h5, h6⟩ := h
    simp only [Option.pure_def, Option.some.injEq, Prod.mk.injEq] at h6
    simp only [readEntries, Option.bind_eq_bind, takeExact_mono h1, takeExact_mono h2, takeExact_mono h3,
      takeExact_mono h4, ih _ _ _ _ h5, Option.bind_some, Option.pure_def, h6.1, h6.2]

end Cirbo
