import Cirbo.Proofs.ConnFull
import Cirbo.Model.Wrappers
/-!
# `Block.into_circuit` after a connection: the recorded block, extracted, computes the attached circuit
-/
namespace Cirbo
open GateType Circuit

/-- `_emplace_gate` of a list of gates, one after the other -/
theorem rawAddGates_spec : ∀ (gs : List Gate) (n : Circuit),
    (∀ x ∈ (gs.foldl rawAddGate n).gates, x ∈ n.gates ∨ x ∈ gs) ∧
    (∀ l, l ∈ n.labels ∨ l ∈ gs.map (·.label) → l ∈ (gs.foldl rawAddGate n).labels) ∧
    (∀ x ∈ n.gates, x.label ∉ gs.map (·.label) → x ∈ (gs.foldl rawAddGate n).gates) ∧
    ((gs.map (·.label)).Nodup → ∀ g ∈ gs, g ∈ (gs.foldl rawAddGate n).gates) ∧
    (gs.foldl rawAddGate n).inputs = n.inputs ++ (gs.filter (fun g => g.ty = INPUT)).map (·.label)
  | [], n => by simp
  | g :: r, n => by
    obtain ⟨a, b, c, d, e⟩ := rawAddGates_spec r (n.rawAddGate g)
    simp only [List.foldl_cons, List.map_cons, List.mem_cons, List.nodup_cons, not_or]
    refine ⟨fun x hx => ?_, fun l hl => b l ?_, fun x hx hn => c x (mem_rawAddGate_other n g x hx hn.1) hn.2,
      fun hnd g' hg' => ?_, ?_⟩
    · rcases a x hx with h | h
      · exact (rawAddGate_mem_cases n g x h).imp id Or.inl
      · exact Or.inr (Or.inr h)
    · rcases hl with hl | rfl | hl
      · exact Or.inl (rawAddGate_labels_sub n g l hl)
      · exact Or.inl (mem_labels_of_mem (mem_rawAddGate_self n g))
      · exact Or.inr hl
    · rcases hg' with rfl | hg'
      · exact c _ (mem_rawAddGate_self n g') hnd.1
      · exact d hnd.2 g' hg'
    · rw [e, rawAddGate_inputs]
      by_cases ht : g.ty = INPUT <;> simp [ht]

theorem intoInputs_inputs : ∀ (ins : List Label) (n : Circuit),
    (ins.foldl (fun n i => n.rawAddGate ⟨i, INPUT, []⟩) n).inputs = n.inputs ++ ins := by
  intro ins
  induction ins with
  | nil => intro n; simp
  | cons i r ih => intro n; simp only [List.foldl_cons]; rw [ih, rawAddGate_inputs]; simp

theorem intoFold_ok_iff (c : Circuit) : ∀ (ls : List Label) (n E : Circuit),
    ls.foldl (intoStep c) (.ok n) = .ok E ↔
      (∀ l ∈ ls, ∃ g, c.find? l = some g) ∧ E = (ls.filterMap c.find?).foldl rawAddGate n := by
  intro ls
  induction ls with
  | nil => intro n E; simp [eq_comm]
  | cons l r ih =>
    intro n E
    cases hf : c.find? l with
    | none =>
      simp only [List.foldl_cons, intoStep, hf, foldlR_error (step := intoStep c) (fun _ _ => rfl)]
      exact ⟨nofun, fun h => by simpa [hf] using h.1 l (by simp)⟩
    | some g =>
      simp [intoStep, hf, ih, List.filterMap_cons_some hf]

theorem intoCircuit_spec {c E : Circuit} {b : Block} (hnd : b.gates.Nodup) (h : c.intoCircuit b = .ok E) :
    (∀ l ∈ b.gates, ∃ g, c.find? l = some g ∧ g ∈ E.gates) ∧ E.outputs = b.outputs ∧
    ((∀ l ∈ b.gates, ∀ g, c.find? l = some g → g.ty ≠ INPUT) → E.inputs = b.inputs) := by
  unfold intoCircuit at h
  simp only at h
  split at h
  · cases h
  · rename_i c2 hc2
    split at h
    · cases h
    · rename_i c3 hso
      split at h
      · cases h
        obtain ⟨hall, rfl⟩ := (intoFold_ok_iff c _ _ _).mp hc2
        obtain ⟨_, _, _, hpl, hin⟩ := rawAddGates_spec (b.gates.filterMap c.find?)
          (b.inputs.foldl (fun n i => n.rawAddGate ⟨i, INPUT, []⟩) Circuit.empty)
        obtain ⟨ho3, hi3⟩ := setOutputs_interface hso
        refine ⟨fun l hl => ?_, ho3, fun hty => ?_⟩
        · obtain ⟨g, hg⟩ := hall l hl
          have hg' := hpl (by rw [filterMap_find_labels hall]; exact hnd) g (List.mem_filterMap.mpr ⟨l, hl, hg⟩)
          exact ⟨g, hg, by rw [setOutputs_gates hso]; exact hg'⟩
        · rw [hi3, hin, intoInputs_inputs, List.filter_eq_nil_iff.mpr, List.map_nil, List.append_nil]; rfl
          intro g hg
          obtain ⟨l, hl, hf⟩ := List.mem_filterMap.mp hg
          simpa using hty l hl g hf
      · cases h

/-- the block `name` of `c'` records `other` under `φ`: `other`'s interface renamed, and exactly the images of
`other`'s non-INPUT gates, which are gates of `c'` -/
structure Records (c' other : Circuit) (name : Label) (φ : Label → Label) : Prop where
  nodup : c'.labels.Nodup
  block : ∃ fb, c'.getBlock name = .ok ⟨name, other.inputs.map φ, fb, other.outputs.map φ⟩ ∧ fb.Nodup ∧
    (∀ x ∈ fb, ∃ g ∈ other.gates, g.ty ≠ INPUT ∧ x = φ g.label) ∧
    (∀ g ∈ other.gates, g.ty ≠ INPUT → φ g.label ∈ fb ∧ g.ren φ ∈ c'.gates)

theorem Records.sem {c' other E : Circuit} {φ : Label → Label} {name : Label}
    (hr : Records c' other name φ) (h : c'.blockIntoCircuit name = .ok E) :
    (∀ b v, IsValB E b v → IsValB other (v ∘ φ) (v ∘ φ)) ∧
    E.inputs = other.inputs.map φ ∧ E.outputs = other.outputs.map φ := by
  obtain ⟨fb, hb, hnd, hsub, hmem⟩ := hr.block
  unfold blockIntoCircuit at h
  rw [hb] at h
  obtain ⟨i1, i2, i3⟩ := intoCircuit_spec hnd h
  have hfind : ∀ g ∈ other.gates, g.ty ≠ INPUT → c'.find? (φ g.label) = some (g.ren φ) :=
    fun g hg ht => find_label hr.nodup (hmem g hg ht).2
  refine ⟨fun b v => isValB_of_copies fun g hg ht => ?_, i3 fun l hl g hf => ?_, i2⟩
  · obtain ⟨g', hf', hE⟩ := i1 _ (hmem g hg ht).1
    cases (hfind g hg ht).symm.trans hf'
    exact hE
  · obtain ⟨g0, hg0, ht0, rfl⟩ := hsub l hl
    cases (hfind g0 hg0 ht0).symm.trans hf
    exact ht0

theorem connect_records {c other c' : Circuit} {thisC otherC : List Label} {right : Bool} {name : Label} {addP : Bool}
    (hwo : WFG other) (hndc : c.labels.Nodup)
    (h : c.connectCircuit other thisC otherC right name addP = .ok c') (hn : name ≠ "") :
    Records c' other name (connRen (connMapping thisC otherC) (connPre name addP)) := by
  have hc := connect_spec hwo h
  obtain ⟨fb, hb, hnd, hfb⟩ := hc.block hn
  exact ⟨hc.nodup hndc, fb, hb, hnd, fun x hx => (by obtain ⟨g, hg, ht, _, e⟩ := (hfb x).mp hx; exact ⟨g, hg, ht, e⟩),
    fun g hg ht => ⟨(hfb _).mpr ⟨g, hg, ht, hc.placed_of_ty hwo.nodup hg ht, rfl⟩,
      hc.placed g hg (hc.placed_of_ty hwo.nodup hg ht)⟩⟩

end Cirbo
