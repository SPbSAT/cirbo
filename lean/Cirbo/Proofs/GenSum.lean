import Cirbo.Proofs.GenCostX
/-!
# Value theorems for the summation generators (over `Sem`)

`bv`, `cnt`, `valLE` (and `pbv`, `pcnt` for the pairs `(x, x ⊕ y)`) are what every later value file reads bits with.
-/
namespace Cirbo

/-- a bit as a number -/
def bv (v : Label → Bool) (l : Label) : Nat := (v l).toNat
/-- number of true bits -/
def cnt (v : Label → Bool) (ls : List Label) : Nat := (ls.map (bv v)).sum
/-- little-endian value of a list of bits -/
def valLE (v : Label → Bool) : List Label → Nat
  | [] => 0
  | x :: r => bv v x + 2 * valLE v r

theorem sem_emit {ty : GateType} {ops : List Label} {ok} {v : Label → Bool} {l : Label}
    (h : Sem (emit ty ops ok) v l) : bfun ty (ops.map v) = some (v l) := by
  cases h with
  | fresh l0 h0 =>
    cases h0 with
    | add hb hp => cases hp; exact hb

theorem sem_emitTT {x y : Label} {t : TT} {v : Label → Bool} {l : Label}
    (h : Sem (emitTT x y t) v l) : v l = ttApply t (v x) (v y) := by
  unfold emitTT at h
  split at h
  · cases h with
    | fresh l0 h0 => cases h0
  · rename_i ty hty
    exact (Option.some.inj ((ttType_sem hty _ _).symm.trans (sem_emit h))).symm

theorem cnt_nil (v) : cnt v [] = 0 := rfl
theorem cnt_cons (v x r) : cnt v (x :: r) = bv v x + cnt v r := by simp [cnt]
theorem cnt_append (v a b) : cnt v (a ++ b) = cnt v a + cnt v b := by simp [cnt]
theorem cnt_reverse (v a) : cnt v a.reverse = cnt v a := by
  rw [cnt, List.map_reverse, List.sum_reverse]; rfl

theorem valLE_append (v a b) : valLE v (a ++ b) = valLE v a + 2 ^ a.length * valLE v b := by
  induction a with
  | nil => simp [valLE]
  | cons x r ih => simp only [List.cons_append, valLE, ih, List.length_cons, Nat.pow_succ]; rw [Nat.mul_add]; ac_rfl

theorem valLE_take_drop (v : Label → Bool) (l : List Label) (i : Nat) :
    valLE v l = valLE v (l.take i) + 2 ^ i * valLE v (l.drop i) := by
  rcases Nat.le_total i l.length with hi | hi
  · conv => lhs; rw [← List.take_append_drop i l, valLE_append, List.length_take, Nat.min_eq_left hi]
  · rw [List.take_of_length_le hi, List.drop_of_length_le hi]; rfl

theorem valLE_take_of_lt (v : Label → Bool) (l : List Label) (L : Nat) (h : valLE v l < 2 ^ L) :
    valLE v (l.take L) = valLE v l :=
  (eq_of_lt_of_add_mul (valLE_take_drop v l L) h).symm

theorem valLE_split (v : Label → Bool) {l : List Label} {i m : Nat} (hl : l.length = i + m) :
    (l.take i).length = i ∧ (l.drop i).length = m ∧
    valLE v l = valLE v (l.take i) + 2 ^ i * valLE v (l.drop i) :=
  ⟨by rw [List.length_take, hl]; exact Nat.min_eq_left (Nat.le_add_right i m),
    by rw [List.length_drop, hl, Nat.add_sub_cancel_left], valLE_take_drop v l i⟩

theorem valLE_level (v : Label → Bool) (res : List Label) (r : Label) (C : Nat) :
    valLE v (res ++ [r]) + 2 ^ (res ++ [r]).length * C = valLE v res + 2 ^ res.length * (bv v r + 2 * C) := by
  rw [valLE_append, List.length_append, List.length_singleton, Nat.pow_succ, Nat.mul_add, Nat.mul_assoc]
  simp only [valLE, Nat.mul_zero, Nat.add_zero]
  omega

theorem valLE_lt (v : Label → Bool) (l : List Label) : valLE v l < 2 ^ l.length := by
  induction l with
  | nil => simp [valLE]
  | cons x r ih =>
    simp only [valLE, List.length_cons, Nat.pow_succ]
    have : bv v x ≤ 1 := by unfold bv; cases v x <;> simp
    omega

theorem valLE_mul_lt (v : Label → Bool) (a b : List Label) : valLE v a * valLE v b < 2 ^ (a.length + b.length) := by
  rw [Nat.pow_add]; exact Nat.mul_lt_mul'' (valLE_lt v a) (valLE_lt v b)

theorem cnt_take_drop (v : Label → Bool) (l : List Label) (i : Nat) : cnt v l = cnt v (l.take i) + cnt v (l.drop i) := by
  conv => lhs; rw [← List.take_append_drop i l, cnt_append]

theorem valLE_replicate_false {v : Label → Bool} {z : Label} (hz : v z = false) (n : Nat) :
    valLE v (List.replicate n z) = 0 := by
  induction n with
  | zero => rfl
  | succ n ih => simp [List.replicate_succ, valLE, ih, bv, hz]

theorem cnt_congr {v v' : Label → Bool} {ls : List Label} (h : ∀ l ∈ ls, v' l = v l) : cnt v' ls = cnt v ls := by
  unfold cnt; congr 1; apply List.map_congr_left; intro l hl; simp [bv, h l hl]

theorem valLE_congr {v v' : Label → Bool} {ls : List Label} (h : ∀ l ∈ ls, v' l = v l) : valLE v' ls = valLE v ls := by
  induction ls with
  | nil => rfl
  | cons x r ih =>
    simp only [valLE, bv, h x (by simp)]
    rw [ih (fun l hl => h l (by simp [hl]))]

theorem valLE_pad {v : Label → Bool} {z : Label} (hz : v z = false) (l : List Label) (k : Nat) :
    valLE v (l ++ List.replicate k z) = valLE v l := by
  rw [valLE_append, valLE_replicate_false hz]; simp

theorem valLE_revIf_congr {c : Circuit} {v v' : Label → Bool} {ls : List Label} (be : Bool)
    (h2 : ∀ l ∈ c.labels, v' l = v l) (hx : ∀ l ∈ ls, l ∈ c.labels) :
    valLE v' (revIf ls be) = valLE v (revIf ls be) :=
  valLE_congr fun l hl => h2 l (hx l (mem_revIf.mp hl))

theorem valLE_true (v : Label → Bool) : ∀ (a : List Label), (∀ l ∈ a, v l = true) → valLE v a + 1 = 2 ^ a.length := by
  intro a
  induction a with
  | nil => intro _; simp [valLE]
  | cons x t ih =>
    intro h
    have hx : bv v x = 1 := by simp [bv, h x (by simp)]
    have := ih (fun l hl => h l (by simp [hl]))
    simp only [valLE, List.length_cons, Nat.pow_succ, hx]
    omega

theorem cnt_le_one (v : Label → Bool) (col : List Label) (h : col.length ≤ 1) : cnt v col ≤ 1 := by
  match col, h with
  | [], _ => simp [cnt]
  | [x], _ => simp only [cnt_cons, cnt_nil]; unfold bv; cases v x <;> simp
  | _ :: _ :: _, h => simp at h

theorem sem_addSum2 {ins : List Label} {v : Label → Bool} {r : List Label} (h : Sem (addSum2 ins) v r) :
    ∃ x y s c, ins = [x, y] ∧ r = [s, c] ∧ bv v s + 2 * bv v c = bv v x + bv v y := by
  unfold addSum2 at h
  split at h
  · rename_i x y
    simp only [sem_bind, sem_pure] at h
    obtain ⟨g1, h1, g2, h2, rfl⟩ := h
    refine ⟨x, y, g1, g2, rfl, rfl, ?_⟩
    simp only [bv, sem_emitTT h1, sem_emitTT h2]
    cases v x <;> cases v y <;> rfl
  · exact absurd h sem_fail

theorem sem_addSum3 {ins : List Label} {v : Label → Bool} {r : List Label} (h : Sem (addSum3 ins) v r) :
    ∃ x y z s c, ins = [x, y, z] ∧ r = [s, c] ∧ bv v s + 2 * bv v c = bv v x + bv v y + bv v z := by
  unfold addSum3 at h
  split at h
  · rename_i x y z
    simp only [sem_bind, sem_pure] at h
    obtain ⟨g1, h1, g2, h2, g3, h3, g4, h4, g5, h5, rfl⟩ := h
    refine ⟨x, y, z, g4, g5, rfl, rfl, ?_⟩
    simp only [bv, sem_emitTT h5, sem_emitTT h4, sem_emitTT h3, sem_emitTT h2, sem_emitTT h1]
    cases v x <;> cases v y <;> cases v z <;> rfl
  · exact absurd h sem_fail

theorem sem_addSum2Aig {ins : List Label} {v : Label → Bool} {r : List Label} (h : Sem (addSum2Aig ins) v r) :
    ∃ x y s c, ins = [x, y] ∧ r = [s, c] ∧ bv v s + 2 * bv v c = bv v x + bv v y := by
  unfold addSum2Aig at h
  split at h
  · rename_i x y
    simp only [sem_bind, sem_pure] at h
    obtain ⟨g1, h1, g2, h2, g3, h3, rfl⟩ := h
    refine ⟨x, y, g3, g2, rfl, rfl, ?_⟩
    simp only [bv, sem_emitTT h3, sem_emitTT h2, sem_emitTT h1]
    cases v x <;> cases v y <;> rfl
  · exact absurd h sem_fail

theorem sem_addSum3Aig {ins : List Label} {v : Label → Bool} {r : List Label} (h : Sem (addSum3Aig ins) v r) :
    ∃ x y z s c, ins = [x, y, z] ∧ r = [s, c] ∧ bv v s + 2 * bv v c = bv v x + bv v y + bv v z := by
  unfold addSum3Aig at h
  split at h
  · rename_i x y z
    simp only [sem_bind, sem_pure] at h
    obtain ⟨g1, h1, g2, h2, g3, h3, g4, h4, g5, h5, g6, h6, g7, h7, rfl⟩ := h
    refine ⟨x, y, z, g6, g7, rfl, rfl, ?_⟩
    simp only [bv, sem_emitTT h7, sem_emitTT h6, sem_emitTT h5, sem_emitTT h4, sem_emitTT h3, sem_emitTT h2, sem_emitTT h1]
    cases v x <;> cases v y <;> cases v z <;> rfl
  · exact absurd h sem_fail

/-- a pair `(x, x ⊕ y)` stands for the two bits `x` and `y` -/
def pbv (v : Label → Bool) (p : Label × Label) : Nat := bv v p.1 + (xor (v p.1) (v p.2)).toNat

theorem sem_addStockmeyer {s x xy w0 w1 : Label} {v : Label → Bool} (h : Sem (addStockmeyer [s, x, xy]) v [w0, w1]) :
    bv v w0 + 2 * bv v w1 = bv v s + pbv v (x, xy) := by
  simp only [addStockmeyer, sem_bind, sem_pure] at h
  obtain ⟨_, h1, g2, h2, g3, h3, _, h4, e⟩ := h
  cases e
  simp only [pbv, bv, sem_emitTT h4, sem_emitTT h3, sem_emitTT h2, sem_emitTT h1]
  cases v s <;> cases v x <;> cases v xy <;> rfl

/-- MDFA: `z + x1 + y1 + x2 + y2 = z' + 2·(a + b)`, the carries again as a pair `(a, a ⊕ b)` -/
theorem sem_addMdfa {z x1 xy1 x2 xy2 z' a ab : Label} {v : Label → Bool}
    (h : Sem (addMdfa [z, x1, xy1, x2, xy2]) v [z', a, ab]) :
    bv v z' + 2 * pbv v (a, ab) = bv v z + pbv v (x1, xy1) + pbv v (x2, xy2) := by
  simp only [addMdfa, sem_bind, sem_pure] at h
  obtain ⟨g1, h1, g2, h2, g3, h3, _, h4, g5, h5, _, h6, g7, h7, _, h8, e⟩ := h
  cases e
  simp only [pbv, bv, sem_emitTT h8, sem_emitTT h7, sem_emitTT h6, sem_emitTT h5, sem_emitTT h4, sem_emitTT h3,
    sem_emitTT h2, sem_emitTT h1]
  cases v z <;> cases v x1 <;> cases v xy1 <;> cases v x2 <;> cases v xy2 <;> rfl

theorem sem_addSimplifiedMdfa {x1 xy1 x2 xy2 z' a ab : Label} {v : Label → Bool}
    (h : Sem (addSimplifiedMdfa [x1, xy1, x2, xy2]) v [z', a, ab]) :
    bv v z' + 2 * pbv v (a, ab) = pbv v (x1, xy1) + pbv v (x2, xy2) := by
  simp only [addSimplifiedMdfa, sem_bind, sem_pure] at h
  obtain ⟨g2, h2, _, h4, g5, h5, _, h6, g7, h7, _, h8, e⟩ := h
  cases e
  simp only [pbv, bv, sem_emitTT h8, sem_emitTT h7, sem_emitTT h6, sem_emitTT h5, sem_emitTT h4, sem_emitTT h2]
  cases v x1 <;> cases v xy1 <;> cases v x2 <;> cases v xy2 <;> rfl

/-- the bits `blk` returns, read little-endian, count the inputs that are true -/
def Counts (blk : List Label → Prog (List Label)) : Prop :=
  ∀ ins v r, Sem (blk ins) v r → valLE v r = cnt v ins

theorem counts_sum2 : Counts addSum2 := fun _ _ _ h => by
  obtain ⟨_, _, _, _, rfl, rfl, e⟩ := sem_addSum2 h; simpa [valLE, cnt] using e
theorem counts_sum3 : Counts addSum3 := fun _ _ _ h => by
  obtain ⟨_, _, _, _, _, rfl, rfl, e⟩ := sem_addSum3 h; simpa [valLE, cnt, Nat.add_assoc] using e
theorem counts_sum2Aig : Counts addSum2Aig := fun _ _ _ h => by
  obtain ⟨_, _, _, _, rfl, rfl, e⟩ := sem_addSum2Aig h; simpa [valLE, cnt] using e
theorem counts_sum3Aig : Counts addSum3Aig := fun _ _ _ h => by
  obtain ⟨_, _, _, _, _, rfl, rfl, e⟩ := sem_addSum3Aig h; simpa [valLE, cnt, Nat.add_assoc] using e

theorem sem_pair2 {r : List Label} {v} {x y : Label} (h : Sem (pair2 r) v (x, y)) : r = [x, y] := by
  unfold pair2 at h
  split at h
  · rw [sem_pure] at h; cases h; rfl
  · exact absurd h sem_fail

theorem sem_triple3 {r : List Label} {v} {x y z : Label} (h : Sem (triple3 r) v (x, y, z)) : r = [x, y, z] := by
  unfold triple3 at h
  split at h
  · rw [sem_pure] at h; cases h; rfl
  · exact absurd h sem_fail

theorem sem_reduce3With {σ : Type} {blk3} (hb : Counts blk3) {push : Label → σ → σ} {v : Label → Bool} :
    ∀ (fuel : Nat) (nowR : List Label) (s : σ) (n' : List Label) (s' : σ),
      Sem (reduce3With blk3 push fuel nowR s) v (n', s') →
      ∃ ys, s' = pushAll push ys s ∧ cnt v n' + 2 * cnt v ys = cnt v nowR := by
  intro fuel
  induction fuel with
  | zero =>
    intro nowR s n' s' h
    unfold reduce3With at h
    rw [sem_pure] at h; cases h
    exact ⟨[], rfl, rfl⟩
  | succ fuel ih =>
    intro nowR s n' s' h
    rcases nowR with _ | ⟨a, _ | ⟨b, _ | ⟨c, rest⟩⟩⟩
    case cons.cons.cons =>
      simp only [reduce3With, sem_bind] at h
      obtain ⟨r, hr, ⟨x, y⟩, hp, hrec⟩ := h
      cases sem_pair2 hp
      have hval := hb _ _ _ hr
      obtain ⟨ys, rfl, i1⟩ := ih _ _ _ _ hrec
      refine ⟨y :: ys, rfl, ?_⟩
      simp only [valLE, cnt_cons, cnt_nil] at hval i1 ⊢; omega
    all_goals
      simp only [reduce3With, sem_pure, Prod.mk.injEq] at h
      obtain ⟨rfl, rfl⟩ := h
      exact ⟨[], rfl, rfl⟩

theorem sem_reduce3 {blk3} (hb : Counts blk3) {v : Label → Bool} {fuel : Nat} {nowR next n' nx' : List Label}
    (h : Sem (reduce3 blk3 fuel nowR next) v (n', nx')) :
    ∃ ys, nx' = next ++ ys ∧ cnt v n' + 2 * cnt v ys = cnt v nowR := by
  rw [reduce3_eq] at h
  obtain ⟨ys, e, r⟩ := sem_reduce3With hb _ _ _ _ _ h
  exact ⟨ys, e.trans (pushAll_snoc ys next), r⟩

theorem sem_reduce2 {blk2} (hb : Counts blk2) {v : Label → Bool} {nowR next n' nx' : List Label}
    (h : Sem (reduce2 blk2 nowR next) v (n', nx')) :
    ∃ ys, nx' = next ++ ys ∧ cnt v n' + 2 * cnt v ys = cnt v nowR := by
  rcases nowR with _ | ⟨a, _ | ⟨b, rest⟩⟩
  case cons.cons =>
    simp only [reduce2, sem_bind, sem_pure] at h
    obtain ⟨r, hr, ⟨x, y⟩, hp, heq⟩ := h
    cases sem_pair2 hp
    cases heq
    have hval := hb _ _ _ hr
    refine ⟨[y], rfl, ?_⟩
    simp only [valLE, cnt_cons, cnt_nil] at hval ⊢; omega
  all_goals
    simp only [reduce2, sem_pure, Prod.mk.injEq] at h
    obtain ⟨rfl, rfl⟩ := h
    exact ⟨[], by simp, rfl⟩

theorem sem_firstOfRev {n : List Label} {v} {r : Label} (h : Sem (firstOfRev n) v r) : n.getLast? = some r := by
  unfold firstOfRev at h
  split at h
  · rename_i x hx; rw [sem_pure] at h; subst h; exact hx
  · exact absurd h sem_fail

theorem sem_levelsSimple {blk3 blk2} (h3 : Counts blk3) (h2 : Counts blk2) {v : Label → Bool} :
    ∀ (fuel : Nat) (nowR res out : List Label), Sem (levelsSimple blk3 blk2 fuel nowR res) v out →
      valLE v out = valLE v res + 2 ^ res.length * cnt v nowR := by
  intro fuel
  induction fuel with
  | zero => intro nowR res out h; unfold levelsSimple at h; exact absurd h sem_fail
  | succ fuel ih =>
    intro nowR res out h
    unfold levelsSimple at h
    split at h
    · rename_i he
      rw [sem_pure] at h; subst h
      have : nowR = [] := by simpa using he
      subst this; simp [cnt_nil]
    · simp only [sem_bind] at h
      obtain ⟨⟨n1, nx1⟩, hr3, ⟨n2, nx2⟩, hr2, r, hf, hrec⟩ := h
      obtain ⟨y3, e3, a1⟩ := sem_reduce3 h3 hr3
      obtain ⟨y2, e2, b1⟩ := sem_reduce2 h2 hr2
      obtain ⟨_, c3⟩ := hr3.cost
      obtain ⟨_, c2⟩ := hr2.cost
      obtain ⟨_, cf⟩ := hf.cost
      have hn2 : n2 = [r] := single_of_getLast (sem_firstOfRev hf) (Nat.le_of_eq (shape_simpleLevel c3 c2 cf).1)
      subst hn2
      have : bv v r + 2 * cnt v nx2 = cnt v nowR := by
        simp only [e2, e3, cnt_cons, cnt_nil, cnt_append] at a1 b1 ⊢; omega
      rw [ih _ _ _ hrec, cnt_reverse, valLE_level, this]

def pcnt (v : Label → Bool) (ps : List (Label × Label)) : Nat := (ps.map (pbv v)).sum
theorem pcnt_nil (v) : pcnt v [] = 0 := rfl
theorem pcnt_cons (v p r) : pcnt v (p :: r) = pbv v p + pcnt v r := by simp [pcnt]
theorem pcnt_append (v a b) : pcnt v (a ++ b) = pcnt v a + pcnt v b := by simp [pcnt]
theorem pcnt_reverse (v a) : pcnt v a.reverse = pcnt v a := by
  rw [pcnt, List.map_reverse, List.sum_reverse]; rfl

theorem sem_pairUp {v : Label → Bool} : ∀ (fuel : Nat) (nowR : List Label) (pairsR : List (Label × Label))
    (s' : List Label) (p' : List (Label × Label)), Sem (pairUp fuel nowR pairsR) v (s', p') →
      cnt v s' + pcnt v p' = cnt v nowR + pcnt v pairsR := by
  intro fuel
  induction fuel with
  | zero =>
    intro nowR pairsR s' p' h
    unfold pairUp at h
    rw [sem_pure] at h; cases h; rfl
  | succ fuel ih =>
    intro nowR pairsR s' p' h
    rcases nowR with _ | ⟨a, _ | ⟨b, rest⟩⟩
    case cons.cons =>
      simp only [pairUp, sem_bind] at h
      obtain ⟨xy, hxy, hrec⟩ := h
      have : pbv v (a, xy) = bv v a + bv v b := by
        simp only [pbv, bv, sem_emitTT hxy]; cases v a <;> cases v b <;> rfl
      rw [ih _ _ _ _ hrec, pcnt_cons, this]; simp only [cnt_cons]; omega
    all_goals
      simp only [pairUp, sem_pure, Prod.mk.injEq] at h
      obtain ⟨rfl, rfl⟩ := h
      rfl

/-- one round of `mdfaLoop`: two pairs (and the solo bit on top, if there is one) become a solo bit and a
pair one level up -/
theorem sem_mdfaStep {v : Label → Bool} {fuel : Nat} {soloR : List Label} {p1 p2 : Label × Label}
    {prest nextP : List (Label × Label)} {out}
    (h : Sem (mdfaLoop (fuel + 1) soloR (p1 :: p2 :: prest) nextP) v out) :
    ∃ z q, Sem (mdfaLoop fuel (z :: soloR.tail) prest (nextP ++ [q])) v out ∧
      bv v z + cnt v soloR.tail + 2 * pbv v q = cnt v soloR + pbv v p1 + pbv v p2 := by
  rcases soloR with _ | ⟨s, srest⟩
  · simp only [mdfaLoop, sem_bind] at h
    obtain ⟨r, hr, ⟨z, a, ab⟩, ht, hrec⟩ := h
    cases sem_triple3 ht
    have := sem_addSimplifiedMdfa hr
    exact ⟨z, (a, ab), hrec, by simp only [Prod.eta, cnt_nil, List.tail_nil] at this ⊢; omega⟩
  · simp only [mdfaLoop, sem_bind] at h
    obtain ⟨r, hr, ⟨z, a, ab⟩, ht, hrec⟩ := h
    cases sem_triple3 ht
    have := sem_addMdfa hr
    exact ⟨z, (a, ab), hrec, by simp only [Prod.eta, cnt_cons, List.tail_cons] at this ⊢; omega⟩

theorem sem_mdfaLoop {v : Label → Bool} : ∀ (fuel : Nat) (soloR : List Label) (pairsR nextP : List (Label × Label))
    (s' : List Label) (p' np' : List (Label × Label)), Sem (mdfaLoop fuel soloR pairsR nextP) v (s', p', np') →
      cnt v s' + pcnt v p' + 2 * pcnt v np' = cnt v soloR + pcnt v pairsR + 2 * pcnt v nextP := by
  intro fuel
  induction fuel with
  | zero =>
    intro soloR pairsR nextP s' p' np' h
    unfold mdfaLoop at h
    rw [sem_pure] at h; cases h; rfl
  | succ fuel ih =>
    intro soloR pairsR nextP s' p' np' h
    rcases pairsR with _ | ⟨p1, _ | ⟨p2, prest⟩⟩
    case cons.cons =>
      obtain ⟨z, q, hrec, hval⟩ := sem_mdfaStep h
      rw [ih _ _ _ _ _ _ hrec]; simp only [cnt_cons, pcnt_cons, pcnt_append, pcnt_nil]; omega
    all_goals
      simp only [mdfaLoop, sem_pure, Prod.mk.injEq] at h
      obtain ⟨rfl, rfl, rfl⟩ := h
      rfl

theorem sem_lastPair {v : Label → Bool} {soloR : List Label} {pairsR : List (Label × Label)} {nextS s' ns' : List Label}
    (h : Sem (lastPair soloR pairsR nextS) v (s', ns')) (hl : pairsR.length ≤ 1) :
    cnt v s' + 2 * cnt v ns' = cnt v soloR + pcnt v pairsR + 2 * cnt v nextS := by
  rcases pairsR with _ | ⟨p, _ | ⟨p2, prest⟩⟩
  · simp only [lastPair, sem_pure, Prod.mk.injEq] at h; obtain ⟨rfl, rfl⟩ := h
    simp [pcnt_nil]
  · rcases soloR with _ | ⟨s, srest⟩
    · simp only [lastPair, sem_bind, sem_pure, Prod.mk.injEq] at h
      obtain ⟨cy, hcy, rfl, rfl⟩ := h
      have : bv v p.2 + 2 * bv v cy = pbv v p := by
        simp only [pbv, bv, sem_emitTT hcy]; cases v p.1 <;> cases v p.2 <;> rfl
      simp only [cnt_cons, cnt_nil, cnt_append, pcnt_cons, pcnt_nil]; omega
    · simp only [lastPair, sem_bind, sem_pure, Prod.mk.injEq] at h
      obtain ⟨r, hr, ⟨x, y⟩, hp, rfl, rfl⟩ := h
      cases sem_pair2 hp
      have := sem_addStockmeyer hr
      simp only [cnt_cons, cnt_nil, cnt_append, pcnt_cons, pcnt_nil, Prod.eta] at this ⊢; omega
  · simp at hl

theorem sem_xaigLevel {v : Label → Bool} {soloR : List Label} {pairsR : List (Label × Label)} {r : Label}
    {nextS : List Label} {nextP : List (Label × Label)}
    (h : Sem (xaigLevel soloR pairsR) v (r, nextS, nextP)) :
    bv v r + 2 * (cnt v nextS + pcnt v nextP) = cnt v soloR + pcnt v pairsR := by
  simp only [xaigLevel, sem_bind, sem_pure, Prod.mk.injEq] at h
  obtain ⟨⟨s1, p1, nP⟩, hm, ⟨s2, nS0⟩, hl, ⟨s3, nS1⟩, h3, ⟨s4, nS2⟩, h2, r', hf, e1, e2, e3⟩ := h
  subst e1 e2 e3
  obtain ⟨_, cm⟩ := hm.cost
  obtain ⟨_, c3⟩ := h3.cost
  obtain ⟨_, c2⟩ := h2.cost
  obtain ⟨_, cf⟩ := hf.cost
  obtain ⟨_, _, _, _, m2, _⟩ := shape_mdfaLoop _ _ _ _ _ _ _ _ cm
  have hn : s4 = [r] := single_of_getLast (sem_firstOfRev hf) (Nat.le_of_eq (shape_simpleLevel c3 c2 cf).1)
  subst hn
  have m1 := sem_mdfaLoop _ _ _ _ _ _ _ hm
  have l1 := sem_lastPair hl (m2 (by omega))
  obtain ⟨y3, rfl, a1⟩ := sem_reduce3 counts_sum3 h3
  obtain ⟨y2, rfl, b1⟩ := sem_reduce2 counts_sum2 h2
  simp only [cnt_cons, cnt_nil, cnt_append, pcnt_nil] at *
  omega

theorem sem_xaigLevels {v : Label → Bool} : ∀ (fuel : Nat) (soloR : List Label) (pairsR : List (Label × Label))
    (res out : List Label), Sem (xaigLevels fuel soloR pairsR res) v out →
      valLE v out = valLE v res + 2 ^ res.length * (cnt v soloR + pcnt v pairsR) := by
  intro fuel
  induction fuel with
  | zero => intro soloR pairsR res out h; unfold xaigLevels at h; exact absurd h sem_fail
  | succ fuel ih =>
    intro soloR pairsR res out h
    unfold xaigLevels at h
    split at h
    · rename_i he
      rw [sem_pure] at h; subst h
      simp only [Bool.and_eq_true, List.isEmpty_iff] at he
      obtain ⟨rfl, rfl⟩ := he
      simp [cnt_nil, pcnt_nil]
    · rename_i he
      simp only [sem_bind] at h
      obtain ⟨⟨r, nS, nP⟩, hlev, hrec⟩ := h
      have hv := sem_xaigLevel hlev
      rw [ih _ _ _ _ hrec, cnt_reverse, pcnt_reverse, valLE_level, hv]

theorem sem_addSumNBitsXaig {v : Label → Bool} {ins out : List Label} (h : Sem (addSumNBitsXaig ins) v out) :
    valLE v out = cnt v ins := by
  simp only [addSumNBitsXaig, sem_bind] at h
  obtain ⟨⟨s, p⟩, hp, hl⟩ := h
  have e := sem_pairUp _ _ _ _ _ hp
  rw [sem_xaigLevels _ _ _ _ _ hl, e, cnt_reverse]
  simp [valLE, pcnt_nil]

theorem sem_addSumNBitsAig {v : Label → Bool} {ins out : List Label} (h : Sem (addSumNBitsAig ins) v out) :
    valLE v out = cnt v ins := by
  rw [addSumNBitsAig] at h
  rw [sem_levelsSimple counts_sum3Aig counts_sum2Aig _ _ _ _ h, cnt_reverse]
  simp [valLE]

theorem sem_addSumNBits {v : Label → Bool} {ins out : List Label} {basis : BasisArg} {be : Bool}
    (h : Sem (addSumNBits ins basis be) v out) : valLE v (revIf out be) = cnt v ins := by
  unfold addSumNBits at h
  split at h
  · exact absurd h sem_fail
  · rename_i b _
    simp only [sem_bind, sem_pure] at h
    obtain ⟨r, hr, rfl⟩ := h
    rw [revIf_revIf]
    have : valLE v r = cnt v (revIf ins be) := by
      cases b
      · exact sem_addSumNBitsXaig hr
      · exact sem_addSumNBitsAig hr
    rw [this]
    cases be <;> simp [revIf, cnt_reverse]

theorem sem_addSumNBitsEasy {v : Label → Bool} {ins out : List Label} {be : Bool}
    (h : Sem (addSumNBitsEasy ins be) v out) : valLE v (revIf out be) = cnt v ins := by
  simp only [addSumNBitsEasy, sem_bind, sem_pure] at h
  obtain ⟨r, hr, rfl⟩ := h
  rw [revIf_revIf, sem_levelsSimple counts_sum3 counts_sum2 _ _ _ _ hr, cnt_reverse]
  cases be <;> simp [revIf, cnt_reverse, valLE]

theorem sem_sumPair {r : List Label} {v} {x y : Label} (h : Sem (sumPair r) v (x, y)) : r = [x, y] := by
  unfold sumPair at h
  split at h
  · rw [sem_pure] at h; cases h; rfl
  · exact absurd h sem_fail

theorem sem_sumChain {v : Label → Bool} : ∀ (xs ys outs : List Label) (carry : Label) (outs' : List Label) (c' : Label),
    Sem (sumChain xs ys outs carry) v (outs', c') → ys.length ≤ xs.length →
      ∃ ss, outs' = outs ++ ss ∧ ss.length = xs.length ∧
        valLE v ss + 2 ^ ss.length * bv v c' = bv v carry + valLE v xs + valLE v ys := by
  intro xs
  induction xs with
  | nil =>
    intro ys outs carry outs' c' h hl
    have : ys = [] := by simpa using hl
    subst this
    simp only [sumChain, sem_pure, Prod.mk.injEq] at h
    obtain ⟨rfl, rfl⟩ := h
    exact ⟨[], by simp, rfl, by simp [valLE]⟩
  | cons x xs ih =>
    intro ys outs carry outs' c' h hl
    simp only [sumChain, sem_bind] at h
    obtain ⟨r, hr, ⟨s, c⟩, hp, hrec⟩ := h
    have := sem_sumPair hp; subst this
    have hv := sem_addSumNBits hr
    simp only [revIf, Bool.false_eq_true, if_false, valLE] at hv
    have hl' : ys.tail.length ≤ xs.length := by
      cases ys with
      | nil => simp
      | cons y yr => simpa using hl
    obtain ⟨ss, hss, hlen, hval⟩ := ih _ _ _ _ _ hrec hl'
    refine ⟨s :: ss, by rw [hss]; simp, by rw [List.length_cons, hlen, List.length_cons], ?_⟩
    simp only [valLE, List.length_cons, pow_succ_mul]
    cases ys with
    | nil =>
      simp only [cnt_cons, cnt_nil, List.tail_nil, valLE] at hv hval ⊢
      omega
    | cons y yr =>
      simp only [cnt_cons, cnt_nil, List.tail_cons, valLE] at hv hval ⊢
      omega

theorem sem_sumTwoCore {v : Label → Bool} {la lb out : List Label} (h : Sem (sumTwoCore la lb) v out)
    (hl : lb.length ≤ la.length) : valLE v out = valLE v la + valLE v lb ∧ out.length = la.length + 1 := by
  unfold sumTwoCore at h
  split at h
  · rename_i x xs y ys
    simp only [sem_bind, sem_pure] at h
    obtain ⟨r, hr, ⟨s0, c0⟩, hp, ⟨outs, carry⟩, hc, rfl⟩ := h
    have := sem_sumPair hp; subst this
    have hv := sem_addSumNBits hr
    simp only [revIf, Bool.false_eq_true, if_false, valLE, cnt_cons, cnt_nil] at hv
    obtain ⟨ss, hss, hlen, hval⟩ := sem_sumChain _ _ _ _ _ _ hc (by simpa using hl)
    subst hss
    refine ⟨?_, by simp [hlen]⟩
    simp only [List.cons_append, List.nil_append, valLE, valLE_append, Nat.mul_zero, Nat.add_zero] at hval ⊢
    omega
  · exact absurd h sem_fail

theorem sem_addSumTwoNumbers {v : Label → Bool} {a b out : List Label} {be : Bool}
    (h : Sem (addSumTwoNumbers a b be) v out) :
    valLE v (revIf out be) = valLE v (revIf a be) + valLE v (revIf b be) ∧ out.length = max a.length b.length + 1 := by
  unfold addSumTwoNumbers at h
  simp only [sem_bind, sem_pure] at h
  obtain ⟨r, hr, rfl⟩ := h
  rw [revIf_revIf, revIf_length, ← revIf_length a be, ← revIf_length b be]
  split at hr
  · rename_i hlt
    obtain ⟨h1, h2⟩ := sem_sumTwoCore hr (Nat.le_of_lt hlt)
    exact ⟨h1.trans (Nat.add_comm _ _), by omega⟩
  · rename_i hlt
    obtain ⟨h1, h2⟩ := sem_sumTwoCore hr (Nat.le_of_not_lt hlt)
    exact ⟨h1, by omega⟩

theorem sem_addSumTwoNumbersWithShift {v : Label → Bool} {a b out : List Label} {be : Bool} {shift : Nat}
    (h : Sem (addSumTwoNumbersWithShift shift a b be) v out) :
    valLE v (revIf out be) = valLE v (revIf a be) + 2 ^ shift * valLE v (revIf b be) ∧
    out.length = if shift ≥ a.length then shift + b.length else shift + (max (a.length - shift) b.length + 1) := by
  unfold addSumTwoNumbersWithShift at h
  simp only [] at h
  rw [← revIf_length a be, ← revIf_length b be]
  generalize revIf a be = A at h ⊢
  generalize revIf b be = B at h ⊢
  split at h
  · rename_i hge
    rw [if_pos hge]
    split at h
    · rename_i hne
      split at h
      · rename_i _ x xs
        simp only [sem_bind, sem_pure] at h
        obtain ⟨zero, hz, rfl⟩ := h
        have hzv : v zero = false := by
          rw [sem_emitTT hz]; cases v x <;> rfl
        rw [revIf_revIf, revIf_length, valLE_append, valLE_append, valLE_replicate_false hzv]
        simp only [List.length_append, List.length_replicate]
        have : (x :: xs).length + (shift - (x :: xs).length) = shift := by omega
        rw [this]; simp
      · exact absurd h sem_fail
    · rename_i heq
      rw [sem_pure] at h; subst h
      have : shift = A.length := by simpa using heq
      rw [revIf_revIf, valLE_append, revIf_length, List.length_append, this]
      exact ⟨rfl, rfl⟩
  · rename_i hlt
    rw [if_neg hlt]
    simp only [sem_bind, sem_pure] at h
    obtain ⟨res, hr, rfl⟩ := h
    obtain ⟨hv, hlen⟩ := sem_addSumTwoNumbers hr
    simp only [revIf, Bool.false_eq_true, if_false] at hv
    refine ⟨?_, by rw [revIf_length, List.length_append, List.length_take, hlen, List.length_drop]; omega⟩
    rw [revIf_revIf, valLE_append, hv, List.length_take, Nat.min_eq_left (by omega), valLE_take_drop v A shift,
      Nat.mul_add, Nat.add_assoc]

end Cirbo
