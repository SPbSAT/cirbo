import Cirbo.Proofs.GenDiv
import Mathlib.Tactic.Ring
/-!
# `add_sqrt`: digit-by-digit square root
-/
namespace Cirbo

theorem sem_addOne {v : Label → Bool} {a out : List Label} {uno : Label}
    (h : Sem (addSumTwoNumbers a [uno] false) v out) (hu : v uno = true) (ha : 0 < a.length)
    (hfit : valLE v a + 1 < 2 ^ a.length) :
    out.dropLast.length = a.length ∧ valLE v out.dropLast = valLE v a + 1 := by
  have hl : out.length = a.length + 1 := by
    rw [(sem_addSumTwoNumbers h).2, List.length_singleton, Nat.max_eq_left ha]
  have hv : valLE v out = valLE v a + 1 := by simpa [revIf, valLE, bv, hu] using (sem_addSumTwoNumbers h).1
  refine ⟨by rw [List.length_dropLast, hl, Nat.add_sub_cancel], ?_⟩
  rw [List.dropLast_eq_take, hl, Nat.add_sub_cancel, valLE_take_of_lt v out _ (hv ▸ hfit), hv]

/-- `c[1:] + [zero]` is `c >> 1` -/
theorem valLE_shiftRight {v : Label → Bool} {zero : Label} (hz : v zero = false) (c : List Label) :
    valLE v (c.drop 1 ++ [zero]) = valLE v c / 2 := by
  cases c with
  | nil => simp [valLE, bv, hz]
  | cons c0 cr =>
    rw [List.drop_one, List.tail_cons, valLE_append]
    simp only [valLE, bv, hz, Bool.toNat_false, Nat.mul_zero, Nat.add_zero]
    cases v c0 <;> simp; omega

theorem split_unique {L H P m : Nat} (hL : L < P) (h : L + P * H = P * m) : L = 0 ∧ H = m :=
  Nat.add_mul_unique hL (by omega) ((Nat.zero_add _).symm ▸ h)

/-- `digit_step` for squaring: `P = 4^s`, the remainder is `Xl + P·Xh`, the trial subtrahend `(4ρ + 1)·P` -/
theorem sqrt_step_arith {A ρ P Xl Xh S M Xh' ρ' : Nat} {per : Bool}
    (hX : Xl + P * Xh + ρ * ρ * (P * 4) = A) (hub : A < (ρ + 1) * (ρ + 1) * (P * 4)) (hXl : Xl < P)
    (hsub : Xh + M * per.toNat = (4 * ρ + 1) + S) (hper : per = true ↔ Xh < 4 * ρ + 1)
    (hXh' : Xh' = if per = true then Xh else S) (hρ' : ρ' = if per = true then 2 * ρ else 2 * ρ + 1) :
    Xl + P * Xh' + ρ' * ρ' * P = A ∧ A < (ρ' + 1) * (ρ' + 1) * P := by
  have key : ((!per) = true ∧ Xh = 4 * ρ + 1 + Xh') ∨ ((!per) = false ∧ Xh' = Xh ∧ Xh < 4 * ρ + 1) := by
    subst hXh'; cases per <;> simp at hsub hper ⊢ <;> omega
  obtain rfl : ρ' = (!per).toNat + 2 * ρ := by subst hρ'; cases per <;> simp; omega
  exact digit_step (f := fun r => r * r) (by ring) (by ring) (by ring) hXl key hX hub

/-- before digit `j`: `c = ρ·4^j` for the root digits found, `x = a − ρ²·4^j`, and `a < (ρ+1)²·4^j` -/
structure SqInv (v : Label → Bool) (half A : Nat) (j : Nat) (st : List Label × List Label) : Prop where
  xl : st.1.length = 2 * half
  cl : st.2.length = 2 * half
  ex : ∃ ρ, valLE v st.2 = ρ * 4 ^ j ∧ valLE v st.1 + ρ * ρ * 4 ^ j = A ∧ A < (ρ + 1) * (ρ + 1) * 4 ^ j

theorem four_pow (s : Nat) : (2 : Nat) ^ (2 * s) = 4 ^ s := by
  rw [Nat.pow_mul]

theorem valLE_split4 (v : Label → Bool) {l : List Label} {s m : Nat} (hl : l.length = 2 * s + m) :
    (l.take (2 * s)).length = 2 * s ∧ (l.drop (2 * s)).length = m ∧ valLE v (l.take (2 * s)) < 4 ^ s ∧
    valLE v l = valLE v (l.take (2 * s)) + 4 ^ s * valLE v (l.drop (2 * s)) := by
  obtain ⟨h1, h2, h3⟩ := valLE_split v hl
  have hlt := valLE_lt v (l.take (2 * s))
  rw [h1, four_pow] at hlt
  rw [four_pow] at h3
  exact ⟨h1, h2, hlt, h3⟩

theorem sem_sqrtStep {v : Label → Bool} {zero uno : Label} {half A : Nat} (hz : v zero = false) (hu : v uno = true)
    (s : Nat) (st st' : List Label × List Label) (hs : s < half) (hinv : SqInv v half A (s + 1) st)
    (h : Sem (sqrtStep zero uno st s) v st') : SqInv v half A s st' := by
  obtain ⟨t, rfl⟩ : ∃ t, half = s + 1 + t := ⟨half - (s + 1), by omega⟩
  have hlen : 2 * (s + 1 + t) = 2 * s + 2 * (t + 1) := by omega
  have hpos : 0 < 2 * (t + 1) := by omega
  have hM : 2 ^ (2 * (t + 1)) = 4 * 4 ^ t := by rw [four_pow, Nat.pow_succ, Nat.mul_comm]
  obtain ⟨x, c⟩ := st
  obtain ⟨xl, cl, ρ, hC, hX, hub⟩ := hinv
  simp only [sqrtStep, sem_bind, sem_pure] at h
  obtain ⟨sm0, hsm0, ⟨subRes, per⟩, hsub, xhi, hxhi, sm1, hsm1, chi, hchi, rfl⟩ := h
  dsimp only at xl cl hC hX hub hsub hxhi hchi
  rw [Nat.pow_succ] at hC hX hub
  have lc1 : (c.drop 1 ++ [zero]).length = 2 * s + 2 * (t + 1) := by
    rw [List.length_append, List.length_drop, List.length_singleton, cl]; omega
  have hc1 : valLE v (c.drop 1 ++ [zero]) = 4 ^ s * (2 * ρ) := by
    rw [valLE_shiftRight hz, hC, show ρ * (4 ^ s * 4) = 4 ^ s * (2 * ρ) * 2 by ring, Nat.mul_div_cancel _ Nat.two_pos]
  generalize c.drop 1 ++ [zero] = c1 at *
  obtain ⟨ctl, cdl, hCl, hCs⟩ := valLE_split4 v (cl.trans hlen)
  obtain ⟨xtl, xdl, hXl, hXs⟩ := valLE_split4 v (xl.trans hlen)
  obtain ⟨c1tl, c1dl, hC1l, hC1s⟩ := valLE_split4 v lc1
  have h2s := four_pow s
  generalize hP : 4 ^ s = P at *
  -- `c` has no bits below `2s`, above them it is `4ρ`; `sm = 4ρ + 1` fits
  obtain ⟨_, hch⟩ := split_unique hCl (hCs.symm.trans (hC.trans (by ring : ρ * (P * 4) = P * (4 * ρ))))
  have hfit := valLE_lt v (c.drop (2 * s))
  rw [cdl, hM, hch] at hfit
  obtain ⟨lsm, vsm⟩ := sem_addOne hsm0 hu (cdl ▸ hpos) (by rw [cdl, hM, hch]; omega)
  rw [hch] at vsm
  obtain ⟨s1, s2, s3⟩ := sem_subCompareLE hsub (lsm.trans (cdl.trans xdl.symm))
  rw [vsm] at s2 s3
  obtain ⟨_, rfl, e2, e3⟩ := sem_selLoop _ _ [] _ hxhi s1
  -- `c >> 1` is `2ρ` above `2s`, and `sm1 = 2ρ + 1`
  obtain ⟨hc1l0, hc1h⟩ := split_unique hC1l (hC1s.symm.trans hc1)
  obtain ⟨lsm1, vsm1⟩ := sem_addOne hsm1 hu (c1dl ▸ hpos) (by rw [c1dl, hM, hc1h]; omega)
  obtain ⟨_, rfl, f2, f3⟩ := sem_selLoop _ _ [] _ hchi lsm1
  rw [vsm1, hc1h] at f3
  rw [hXs] at hX
  obtain ⟨a1, a2⟩ := sqrt_step_arith hX hub hXl s2 s3 e3 f3
  refine ⟨by rw [List.length_append, xtl, e2, xdl, hlen], by rw [List.length_append, c1tl, f2, c1dl, hlen],
    valLE v chi, ?_, ?_, hP ▸ a2⟩
  · dsimp only
    rw [hP, valLE_append, c1tl, h2s, hc1l0, Nat.zero_add, Nat.mul_comm]
  · dsimp only
    rw [hP, valLE_append, xtl, h2s]
    exact a1

theorem sqrt_padding {v : Label → Bool} {zero : Label} (hz : v zero = false) (x0 : List Label) {odd : Bool}
    (ho : odd = (x0.length % 2 == 1)) {half : Nat} (hh : x0.length / 2 + (if odd then 1 else 0) = half) :
    (if odd then x0.length + 1 else x0.length) = 2 * half ∧ half = (x0.length + 1) / 2 ∧
    (if odd then x0 ++ [zero] else x0).length = 2 * half ∧ valLE v (if odd then x0 ++ [zero] else x0) = valLE v x0 := by
  subst hh
  cases odd
  · have h2 : x0.length % 2 ≠ 1 := ne_of_beq_false ho.symm
    have h : x0.length = 2 * (x0.length / 2 + 0) ∧ x0.length / 2 + 0 = (x0.length + 1) / 2 := by omega
    exact ⟨h.1, h.2, h.1, rfl⟩
  · have h2 : x0.length % 2 = 1 := eq_of_beq ho.symm
    have h : x0.length + 1 = 2 * (x0.length / 2 + 1) ∧ x0.length / 2 + 1 = (x0.length + 1) / 2 := by omega
    exact ⟨h.1, h.2, (List.length_append ..).trans h.1, valLE_pad hz x0 1⟩

theorem sem_addSqrt {v : Label → Bool} {ins out : List Label} {be : Bool} (h : Sem (addSqrt ins be) v out) :
    out.length = (ins.length + 1) / 2 ∧
    valLE v (revIf out be) * valLE v (revIf out be) ≤ valLE v (revIf ins be) ∧
    valLE v (revIf ins be) < (valLE v (revIf out be) + 1) * (valLE v (revIf out be) + 1) := by
  unfold addSqrt at h
  simp only [] at h
  rw [← revIf_length ins be]
  generalize revIf ins be = x0 at h ⊢
  split at h
  · exact absurd h sem_fail
  · rename_i first xr
    generalize hx0 : first :: xr = x0 at h ⊢
    simp only [sem_bind, sem_pure] at h
    obtain ⟨zero, hzero, uno, huno, ⟨xf, c⟩, hloop, rfl⟩ := h
    have hz : v zero = false := by rw [sem_emitTT hzero]; cases v first <;> rfl
    have hu : v uno = true := by rw [sem_emitTT huno]; cases v first <;> rfl
    obtain ⟨hn2, hhf, hx1l, hx1v⟩ := sqrt_padding hz x0 rfl rfl
    generalize x0.length / 2 + (if (x0.length % 2 == 1) = true then 1 else 0) = half at hloop hn2 hhf hx1l
    generalize (if (x0.length % 2 == 1) = true then x0.length + 1 else x0.length) = n at hloop hn2
    generalize (if (x0.length % 2 == 1) = true then x0 ++ [zero] else x0) = x1 at hloop hx1l hx1v
    subst hn2
    have hloop' : Sem (progFold (List.range' 0 half).reverse (x1, List.replicate (2 * half) zero) (sqrtStep zero uno)) v (xf, c) := by
      rw [← List.range_eq_range']; exact hloop
    have hA := valLE_lt v x0
    have hinit : SqInv v half (valLE v x0) (0 + half) (x1, List.replicate (2 * half) zero) := by
      refine ⟨hx1l, List.length_replicate .., 0, ?_, ?_, ?_⟩
      · simp only; rw [valLE_replicate_false hz]; simp
      · simp only; rw [hx1v]; simp
      · simp only [Nat.zero_add, Nat.one_mul]
        calc valLE v x0 < 2 ^ x0.length := hA
          _ ≤ 2 ^ (2 * half) := Nat.pow_le_pow_right (by omega) (by omega)
          _ = 4 ^ half := four_pow half
    have hend := sem_progFold_desc (v := v) (SqInv v half (valLE v x0)) half 0 _ (xf, c) hinit
      (fun i st st' _ h2 hp hs => sem_sqrtStep hz hu i st st' (by omega) hp hs) hloop'
    obtain ⟨_, cl, ρ, hC, hX, hub⟩ := hend
    simp only [Nat.pow_zero, Nat.mul_one] at hC hX hub
    -- `ρ² ≤ a < 2^(2·half)`, so the low half of `c` is all of it
    have hρ : ρ < 2 ^ half := Nat.mul_self_lt_mul_self_iff.mp <|
      calc ρ * ρ ≤ valLE v x0 := hX ▸ Nat.le_add_left _ _
        _ < 2 ^ x0.length := hA
        _ ≤ 2 ^ (half + half) := Nat.pow_le_pow_right Nat.two_pos (by omega)
        _ = 2 ^ half * 2 ^ half := Nat.pow_add ..
    have htake : valLE v (c.take half) = ρ := by
      rw [valLE_take_of_lt v c half (by rw [hC]; exact hρ), hC]
    refine ⟨by rw [revIf_length, List.length_take, cl, hhf]; omega, ?_, ?_⟩
    · rw [revIf_revIf, htake]; omega
    · rw [revIf_revIf, htake]; exact hub

end Cirbo
