import Cirbo.Proofs.GenSquare
/-!
# `add_mul_wallace` computes the product, on `n + m` bits

A round keeps the number the matrix stands for (`MV`) modulo `2^(n+m)`; its invariant `RInv` also records that a
non-empty column stays non-empty, which gives the width.  The code compares entries with a placeholder string, so the
theorems need that no drawn label is the placeholder (`SemF`).
-/
namespace Cirbo

variable {P H : Label → Prop}

theorem newLabel_ne_placeholder (n : Nat) : newLabel n ≠ Gen.placeholderStr := by
  unfold newLabel Gen.placeholderStr
  intro h
  have := congrArg String.toList h
  simp only [String.toList_append] at this
  have h2 : ("new_" : String).toList = ['n', 'e', 'w', '_'] := by decide
  have h3 : ("_PLACEHOLDER_STR_" : String).toList.head? = some '_' := by decide
  rw [h2] at this
  have := congrArg List.head? this
  simp only [List.cons_append, List.head?_cons] at this
  rw [h3] at this
  cases this

theorem Drawn.ne_PH {l : Label} (h : Drawn l) : l ≠ PH := by
  obtain ⟨n, rfl⟩ := h; exact newLabel_ne_placeholder n

theorem addSumNBits_one (a : Label) : addSumNBits [a] (.enum .xaig) false = Prog.pure [a] := rfl

/-- the small adders a Wallace round places, by evaluation (operands are popped from the end, hence reversed) -/
theorem addSumNBits_two (a b : Label) : addSumNBits [a, b] (.enum .xaig) false =
    (do let xy ← emitTT b a t0110
        let cy ← emitTT b xy t0010
        pure [xy, cy]) := rfl

theorem addSumNBits_three (a b c : Label) : addSumNBits [a, b, c] (.enum .xaig) false =
    (do let xy ← emitTT c b t0110
        let w0 ← emitTT a xy t0110
        let g2 ← emitTT c xy t0010
        let g3 ← emitTT a xy t0001
        let w1 ← emitTT g2 g3 t0110
        pure [w0, w1]) := rfl

theorem sumSmall_shape {v : Label → Bool} {inp res : List Label} (h1 : 1 ≤ inp.length) (h3 : inp.length ≤ 3)
    (hf : SemF P H (addSumNBits inp (.enum .xaig) false) v res) :
    (∃ a, inp = [a] ∧ res = [a]) ∨ (∃ r0 r1, res = [r0, r1] ∧ Got P H r0 ∧ Got P H r1) := by
  match inp, h1, h3 with
  | [a], _, _ =>
    rw [addSumNBits_one] at hf
    cases hf; exact Or.inl ⟨a, rfl, rfl⟩
  | [a, b], _, _ =>
    rw [addSumNBits_two] at hf
    simp only [along_bind, along_pure] at hf
    obtain ⟨xy, h1, cy, h2, rfl⟩ := hf
    exact Or.inr ⟨xy, cy, rfl, semF_emitTT h1, semF_emitTT h2⟩
  | [a, b, c], _, _ =>
    rw [addSumNBits_three] at hf
    simp only [along_bind, along_pure] at hf
    obtain ⟨xy, h1, w0, h2, g2, h3, g3, h4, w1, h5, rfl⟩ := hf
    exact Or.inr ⟨w0, w1, rfl, semF_emitTT h2, semF_emitTT h5⟩
  | _ :: _ :: _ :: _ :: _, _, h3 => simp at h3

abbrev Mat := List (List Label)

variable {Q : Label → Prop}

/-- a cell's share of `MV`: column `k` has weight `2^k`, a placeholder counts nothing -/
def cellVal (v : Label → Bool) (c : Mat) (col row : Nat) : Nat :=
  if entry c col row = PH then 0 else 2 ^ col * bv v (entry c col row)

theorem cellVal_ph {v : Label → Bool} {c : Mat} {col row : Nat} (h : entry c col row = PH) : cellVal v c col row = 0 :=
  if_pos h

/-- the number a placeholder matrix stands for -/
def MV (v : Label → Bool) (c : Mat) : Nat := sumR c.length fun col => sumR (c.getD col []).length fun row => cellVal v c col row

/-- `c` has `W` columns of `R` rows each -/
structure Rect (c : Mat) (W R : Nat) : Prop where
  w : c.length = W
  r : ∀ col ∈ c, col.length = R

/-- every entry of the matrix is the placeholder or satisfies `Q` -/
def QM (Q : Label → Prop) (c : Mat) : Prop := ∀ col ∈ c, ∀ x ∈ col, x = PH ∨ Q x

theorem rect_getD {c : Mat} {W R : Nat} (h : Rect c W R) {k : Nat} (hk : k < W) : (c.getD k []).length = R :=
  h.r _ (List.getD_mem_of_lt [] (h.w ▸ hk))

theorem mv_cells (v : Label → Bool) {c : Mat} {W R : Nat} (h : Rect c W R) :
    MV v c = sumR W (fun col => sumR R (fun row => cellVal v c col row)) := by
  unfold MV
  rw [h.w]
  exact sumR_congr fun col hcol => by rw [rect_getD h hcol]

theorem rect_headD {c : Mat} {W R : Nat} (hW : 1 ≤ W) (h : Rect c W R) : (c.headD []).length = R := by
  cases c with
  | nil => have := h.w; simp at this; omega
  | cons x t => exact h.r x (by simp)

theorem qm_getD {c : Mat} (h : QM Q c) (k : Nat) : ∀ x ∈ c.getD k [], x = PH ∨ Q x := by
  intro x hx
  rcases Nat.lt_or_ge k c.length with hk | hk
  · exact h _ (List.getD_mem_of_lt [] hk) x hx
  · rw [List.getD_of_length_le _ hk] at hx
    cases hx

theorem matSet_eq_set (c : Mat) (col row : Nat) (x : Label) :
    matSet c col row x = if col < c.length then c.set col ((c.getD col []).set row x) else c := by
  unfold matSet
  rw [List.zipIdx_map_eq_set (fun (l : List Label) => l.set row x) []]
  split
  · rfl
  · exact List.set_eq_of_length_le (by omega)

theorem rect_matSet {c : Mat} {W R : Nat} (h : Rect c W R) (col row : Nat) (x : Label) : Rect (matSet c col row x) W R := by
  rw [matSet_eq_set]
  split
  · rename_i hc
    refine ⟨by simp [h.w], ?_⟩
    intro cl hcl
    rcases List.mem_or_eq_of_mem_set hcl with h1 | h1
    · exact h.r cl h1
    · rw [h1, List.length_set]; exact rect_getD h (h.w ▸ hc)
  · exact h

theorem qm_matSet {c : Mat} (h : QM Q c) (col row : Nat) {x : Label} (hx : Q x) : QM Q (matSet c col row x) := by
  rw [matSet_eq_set]
  split
  · intro cl hcl y hy
    rcases List.mem_or_eq_of_mem_set hcl with h1 | h1
    · exact h cl h1 y hy
    · subst h1
      rcases List.mem_or_eq_of_mem_set hy with h2 | h2
      · exact qm_getD h col y h2
      · exact Or.inr (h2 ▸ hx)
  · exact h

theorem entry_matSet {c : Mat} {W R : Nat} (h : Rect c W R) {col row : Nat} (hc : col < W) (hr : row < R) (x : Label) (a b : Nat) :
    entry (matSet c col row x) a b = if a = col ∧ b = row then x else entry c a b := by
  rw [matSet_eq_set, if_pos (h.w ▸ hc)]
  exact entry_set c col row x (h.w ▸ hc) (by rw [rect_getD h hc]; exact hr) a b

theorem mv_matSet (v : Label → Bool) {c : Mat} {W R : Nat} (h : Rect c W R) {col row : Nat} (hc : col < W) (hr : row < R)
    {x : Label} (hph : entry c col row = PH) (hx : x ≠ PH) :
    MV v (matSet c col row x) = MV v c + 2 ^ col * bv v x := by
  rw [mv_cells v (rect_matSet h col row x), mv_cells v h]
  have he : ∀ a b, ¬ (a = col ∧ b = row) → cellVal v (matSet c col row x) a b = cellVal v c a b := fun a b hn => by
    unfold cellVal; rw [entry_matSet h hc hr, if_neg hn]
  refine sumR_bump hc (sumR_bump hr ?_ fun b _ hb => he col b fun e => hb e.2) fun a _ ha =>
    sumR_congr fun b _ => he a b fun e => ha e.1
  have e : entry (matSet c col row x) col row = x := (entry_matSet h hc hr x col row).trans (if_pos ⟨rfl, rfl⟩)
  unfold cellVal
  rw [e, if_neg hx, if_pos hph, Nat.zero_add]

theorem entry_replicate (W R2 a b : Nat) : entry (List.replicate W (List.replicate R2 PH)) a b = PH := by
  unfold entry
  simp only [List.getD_eq_getElem?_getD, List.getElem?_replicate]
  split
  · simp only [Option.getD_some, List.getElem?_replicate]; split <;> rfl
  · rfl

theorem rect_replicate (W R : Nat) : Rect (List.replicate W (List.replicate R PH)) W R :=
  ⟨by simp, fun col hcol => by rw [List.eq_of_mem_replicate hcol]; simp⟩

theorem mv_allPH (v : Label → Bool) (W R : Nat) : MV v (List.replicate W (List.replicate R PH)) = 0 := by
  rw [mv_cells v (rect_replicate W R), ← sumR_const_zero W]
  refine sumR_congr fun a _ => ?_
  rw [← sumR_const_zero R]
  exact sumR_congr fun b _ => cellVal_ph (entry_replicate W R a b)

theorem qm_replicate (W R : Nat) : QM Q (List.replicate W (List.replicate R PH)) := by
  intro col hcol x hx
  rw [List.eq_of_mem_replicate hcol] at hx
  exact Or.inl (List.eq_of_mem_replicate hx)

/-- one step of the inner loop of `ppMatrix`: the gate `a[j] ∧ b[i]` is added and put in row `i` of column `i + j` -/
def wRowStep (bi : Label) (i : Nat) (acc : Prog Mat) (aj : Label × Nat) : Prog Mat := do
  let cc ← acc
  let g ← emitTT aj.1 bi t0001
  pure (matSet cc (i + aj.2) i g)

theorem semF_wRowFold {v : Label → Bool} {bi : Label} {i W R : Nat} (hP : ∀ l, P l → l ≠ PH) :
    ∀ (a : List Label) (s : Nat) (acc : Prog Mat) (out : Mat),
    SemF P H ((a.zipIdx s).foldl (wRowStep bi i) acc) v out →
    ∃ c0, SemF P H acc v c0 ∧ (Rect c0 W R → QM (Got P H) c0 → i < R → i + s + a.length ≤ W →
      (∀ k, i + s ≤ k → k < W → entry c0 k i = PH) →
      Rect out W R ∧ QM (Got P H) out ∧ MV v out = MV v c0 + 2 ^ (i + s) * (bv v bi * valLE v a) ∧
      (∀ col row, row ≠ i → entry out col row = entry c0 col row) ∧
      (∀ col, entry out col i = PH ↔ entry c0 col i = PH ∧ ¬ (i + s ≤ col ∧ col < i + s + a.length))) := by
  intro a
  induction a with
  | nil =>
    intro s acc out h
    exact ⟨out, h, fun hr hq _ _ _ => ⟨hr, hq, by simp [valLE], fun _ _ _ => rfl, fun col => by simp⟩⟩
  | cons x t ih =>
    intro s acc out h
    simp only [List.zipIdx_cons, List.foldl_cons] at h
    obtain ⟨c1, h1, hrel⟩ := ih (s + 1) _ out h
    simp only [wRowStep, along_bind, along_pure] at h1
    obtain ⟨cc, hcc, g, hg, rfl⟩ := h1
    refine ⟨cc, hcc, ?_⟩
    intro hr hq hi hlen hph
    simp only [List.length_cons] at hlen
    have hgp : Got P H g := semF_emitTT hg
    have hgne : g ≠ PH := hP g hgp.1
    have hcol : i + s < W := by omega
    obtain ⟨r1, r2, r3, r4, r5⟩ := hrel (rect_matSet hr _ _ _) (qm_matSet hq _ _ hgp) hi (by omega) (by
      intro k hk1 hk2
      rw [entry_matSet hr hcol hi, if_neg (by omega)]
      exact hph k (by omega) hk2)
    refine ⟨r1, r2, ?_, ?_, ?_⟩
    rotate_left 2
    · intro col
      rw [r5 col, entry_matSet hr hcol hi, List.length_cons]
      by_cases hc : col = i + s
      · subst hc
        simp only [true_and, if_true]
        exact ⟨fun h => absurd h.1 hgne, fun h => absurd ⟨Nat.le_refl _, by omega⟩ h.2⟩
      · rw [if_neg (fun h => hc h.1)]
        exact and_congr_right fun _ => not_congr (by omega)
    · rw [r3, mv_matSet v hr hcol hi (hph (i + s) (Nat.le_refl _) hcol) hgne]
      rw [(bv_emitAnd (semF_sem hg)).trans (Nat.mul_comm _ _), valLE, mul_horner, ← Nat.add_assoc i s 1, Nat.pow_succ, Nat.mul_comm _ 2, Nat.add_assoc]
    · intro col row hrow
      rw [r4 col row hrow, entry_matSet hr hcol hi, if_neg (fun h => hrow h.2)]

theorem semF_ppMatrix {v : Label → Bool} {a : List Label} {W R : Nat} (hP : ∀ l, P l → l ≠ PH) :
    ∀ (b : List Label) (s : Nat) (c out : Mat), SemF P H (ppMatrix a (b.zipIdx s) c) v out →
    Rect c W R → QM (Got P H) c → s + b.length ≤ R → (b ≠ [] → a.length + s + b.length ≤ W + 1) →
    (∀ col row, s ≤ row → col < W → entry c col row = PH) →
    Rect out W R ∧ QM (Got P H) out ∧ MV v out = MV v c + 2 ^ s * (valLE v a * valLE v b) ∧
    (∀ col row, entry out col row = PH ↔ entry c col row = PH ∧
      ¬ (s ≤ row ∧ row < s + b.length ∧ row ≤ col ∧ col < row + a.length)) := by
  intro b
  induction b with
  | nil =>
    intro s c out h hr hq _ _ _
    simp only [List.zipIdx_nil, ppMatrix, along_pure] at h
    subst h
    exact ⟨hr, hq, by simp [valLE], fun col row => by simp; omega⟩
  | cons bi r ih =>
    intro s c out h hr hq hlen hw hph
    simp only [List.zipIdx_cons, ppMatrix, along_bind] at h
    obtain ⟨c', hc', hrec⟩ := h
    have hc'' : SemF P H ((a.zipIdx 0).foldl (wRowStep bi s) (pure c)) v c' := hc'
    obtain ⟨c0, h0, hrow⟩ := semF_wRowFold (W := W) (R := R) hP a 0 _ c' hc''
    have h0' : c0 = c := along_pure.mp h0
    rw [h0'] at hrow
    simp only [List.length_cons] at hlen hw
    have hw' := hw (by simp)
    obtain ⟨r1, r2, r3, r4, r5⟩ := hrow hr hq (by omega) (by omega) (fun k _ hk => hph k s (Nat.le_refl _) hk)
    obtain ⟨q1, q2, q3, q4⟩ := ih (s + 1) c' out hrec r1 r2 (by omega) (fun _ => by omega) (by
      intro col row hrow hcol
      rw [r4 col row (by omega)]
      exact hph col row (by omega) hcol)
    refine ⟨q1, q2, ?_, ?_⟩
    rotate_left 1
    · intro col row
      rw [q4 col row, List.length_cons]
      by_cases hrs : row = s
      · subst hrs
        rw [r5 col, Nat.add_zero, and_assoc]
        exact and_congr_right fun _ => by omega
      · rw [r4 col row hrs]
        exact and_congr_right fun _ => not_congr (by omega)
    rw [q3, r3, valLE, mul_horner, Nat.add_zero, Nat.pow_succ, Nat.mul_comm (bv v bi), Nat.mul_comm _ 2, Nat.add_assoc]

theorem semF_partialProducts {v : Label → Bool} (hP : ∀ l, P l → l ≠ PH) {A B : List Label} {c : Mat}
    (h : SemF P H (ppMatrix A B.zipIdx (List.replicate (A.length + B.length) (List.replicate B.length PH))) v c) :
    Rect c (A.length + B.length) B.length ∧ QM (Got P H) c ∧ MV v c = valLE v A * valLE v B ∧
    ∀ col row, entry c col row = PH ↔ ¬ (row < B.length ∧ row ≤ col ∧ col < row + A.length) := by
  obtain ⟨cr, cq, cv, cph⟩ := semF_ppMatrix (W := A.length + B.length) (R := B.length)
    hP B 0 _ c h (rect_replicate _ _) (qm_replicate _ _) (by omega) (fun _ => by omega)
    (fun col row _ _ => entry_replicate _ _ col row)
  rw [mv_allPH, Nat.zero_add, Nat.pow_zero, Nat.one_mul] at cv
  refine ⟨cr, cq, cv, fun col row => ?_⟩
  rw [cph col row]
  simp [entry_replicate]

/-- the (up to three) entries of a column in rows `row, row+1, row+2` that are not placeholders -/
def inp3 (column : List Label) (row : Nat) : List Label :=
  ([row, row + 1, row + 2].map (fun k => column.getD k PH)).filter (fun x => x != PH)

/-- the placing of the result bits of one column step -/
def wPlace (width col g2 : Nat) (cn : Mat) (res : List Label) : Mat :=
  (res.zipIdx).foldl (fun (acc : Mat) (ri : Label × Nat) =>
    if col + ri.2 < width then matSet acc (col + ri.2) (g2 + ri.2) ri.1 else acc) cn

/-- the body of the loop over the columns in `wallaceRound` -/
def wColStep (c : Mat) (width row : Nat) (cn : Mat) (col : Nat) : Prog Mat := do
  let inp := inp3 (c.getD col []) row
  if inp.isEmpty then pure cn else do
    let res ← addSumNBits inp (.enum .xaig) false
    pure (wPlace width col (2 * (row / 3)) cn res)

theorem inp3_len (column : List Label) (row : Nat) : (inp3 column row).length ≤ 3 := by
  unfold inp3
  exact Nat.le_trans (List.length_filter_le _ _) (by simp)

theorem inp3_q {column : List Label} (hq : ∀ x ∈ column, x = PH ∨ Q x) (row : Nat) : ∀ x ∈ inp3 column row, Q x := by
  intro x hx
  unfold inp3 at hx
  obtain ⟨h1, h2⟩ := List.mem_filter.mp hx
  have hne : x ≠ PH := by simpa using h2
  obtain ⟨k, _, rfl⟩ := List.mem_map.mp h1
  rcases Nat.lt_or_ge k column.length with hk | hk
  · exact (hq _ (List.getD_mem_of_lt PH hk)).resolve_left hne
  · rw [List.getD_eq_getElem?_getD, List.getElem?_eq_none hk] at hne
    exact absurd rfl hne

theorem wPlace_one {W col : Nat} (hc : col < W) (g2 : Nat) (cn : Mat) (r0 : Label) :
    wPlace W col g2 cn [r0] = matSet cn col g2 r0 := by
  simp only [wPlace, List.zipIdx_cons, List.zipIdx_nil, List.foldl_cons, List.foldl_nil, Nat.add_zero, hc, if_true]

theorem wPlace_two {W col : Nat} (hc : col < W) (g2 : Nat) (cn : Mat) (r0 r1 : Label) :
    wPlace W col g2 cn [r0, r1] =
      if col + 1 < W then matSet (matSet cn col g2 r0) (col + 1) (g2 + 1) r1 else matSet cn col g2 r0 := by
  simp only [wPlace, List.zipIdx_cons, List.zipIdx_nil, List.foldl_cons, List.foldl_nil, Nat.add_zero, hc, if_true,
    Nat.zero_add]

theorem wPlace_spec (v : Label → Bool) (hQ : ∀ l, Q l → l ≠ PH) {cn : Mat} {W R2 col g2 : Nat} {res : List Label}
    (hr : Rect cn W R2) (hq : QM Q cn) (hc : col < W) (hg : g2 + 1 < R2)
    (hres : (∃ r0, res = [r0] ∧ Q r0) ∨ (∃ r0 r1, res = [r0, r1] ∧ Q r0 ∧ Q r1))
    (hp0 : entry cn col g2 = PH) (hp1 : col + 1 < W → entry cn (col + 1) (g2 + 1) = PH) :
    entry (wPlace W col g2 cn res) col g2 ≠ PH ∧
    Rect (wPlace W col g2 cn res) W R2 ∧ QM Q (wPlace W col g2 cn res) ∧
    (∃ k, MV v (wPlace W col g2 cn res) + 2 ^ W * k = MV v cn + 2 ^ col * valLE v res) ∧
    (∀ a b, ¬ (a = col ∧ b = g2) → ¬ (a = col + 1 ∧ b = g2 + 1) → entry (wPlace W col g2 cn res) a b = entry cn a b) := by
  have hg0 : g2 < R2 := by omega
  have h0 : ∀ {r0}, Q r0 → entry (matSet cn col g2 r0) col g2 ≠ PH := fun q0 => by
    rw [entry_matSet hr hc hg0, if_pos ⟨rfl, rfl⟩]; exact hQ _ q0
  have hoth : ∀ r0 a b, ¬ (a = col ∧ b = g2) → entry (matSet cn col g2 r0) a b = entry cn a b := fun r0 a b h1 => by
    rw [entry_matSet hr hc hg0, if_neg h1]
  rcases hres with ⟨r0, rfl, q0⟩ | ⟨r0, r1, rfl, q0, q1⟩
  · rw [wPlace_one hc]
    refine ⟨h0 q0, rect_matSet hr _ _ _, qm_matSet hq _ _ q0, ⟨0, ?_⟩, fun a b h1 _ => hoth r0 a b h1⟩
    rw [mv_matSet v hr hc hg0 hp0 (hQ _ q0)]; simp [valLE]
  · rw [wPlace_two hc]
    have hr1 := rect_matSet hr col g2 r0
    have hq1 := qm_matSet hq col g2 q0
    have hmv1 := mv_matSet v hr hc hg0 hp0 (hQ _ q0)
    -- the carry bit `r1` goes to column `col + 1`, or is dropped past the top column
    have hval : ∀ M, M = MV v cn + 2 ^ col * bv v r0 + 2 ^ (col + 1) * bv v r1 →
        M = MV v cn + 2 ^ col * valLE v [r0, r1] := by
      intro M hM
      simp only [hM, valLE, Nat.mul_zero, Nat.add_zero]
      rw [Nat.mul_add, Nat.pow_succ, Nat.mul_assoc, Nat.add_assoc]
    split
    · rename_i hc1
      have hp1' : entry (matSet cn col g2 r0) (col + 1) (g2 + 1) = PH := by
        rw [hoth _ _ _ (by omega)]; exact hp1 hc1
      refine ⟨?_, rect_matSet hr1 _ _ _, qm_matSet hq1 _ _ q1, ⟨0, hval _ ?_⟩, fun a b h1 h2 => ?_⟩
      · rw [entry_matSet hr1 hc1 hg, if_neg (by omega)]; exact h0 q0
      · rw [mv_matSet v hr1 hc1 hg hp1' (hQ _ q1), hmv1]; rfl
      · rw [entry_matSet hr1 hc1 hg, if_neg h2, hoth r0 a b h1]
    · rename_i hc1
      have hW : W = col + 1 := by omega
      refine ⟨h0 q0, hr1, hq1, ⟨bv v r1, hval _ ?_⟩, fun a b h1 _ => hoth r0 a b h1⟩
      rw [hmv1, hW]

/-- what rows `row … row+2` of column `col` stand for -/
def colSum (v : Label → Bool) (c : Mat) (row col : Nat) : Nat := 2 ^ col * cnt v (inp3 (c.getD col []) row)

/-- the new matrix `cn` of a round on `c` when the groups of three rows below `g` are summed and, of group `g`, the
columns below `col`: the cells not yet written are placeholders, a group that held a bit of a column left a bit in
row `2·g'` of it, and `cn` stands for what was summed -/
structure RInv (v : Label → Bool) (Q : Label → Prop) (c : Mat) (W R2 : Nat) (g col : Nat) (cn : Mat) : Prop where
  rect : Rect cn W R2
  qm : QM Q cn
  val : ∃ K, MV v cn + 2 ^ W * K = sumR g (fun g' => sumR W (colSum v c (g' * 3))) + sumR col (colSum v c (g * 3))
  free : ∀ a b, 2 * g + 2 ≤ b ∨ (b = 2 * g ∧ col ≤ a) ∨ (b = 2 * g + 1 ∧ col < a) → entry cn a b = PH
  occ : ∀ g' col', g' < g ∨ (g' = g ∧ col' < col) → col' < W → inp3 (c.getD col' []) (g' * 3) ≠ [] →
    entry cn col' (2 * g') ≠ PH

theorem RInv.next {v : Label → Bool} {c : Mat} {W R2 g : Nat} {cn : Mat} (inv : RInv v Q c W R2 g W cn) :
    RInv v Q c W R2 (g + 1) 0 cn := by
  obtain ⟨K, hK⟩ := inv.val
  refine ⟨inv.rect, inv.qm, ⟨K, by rw [hK, sumR_succ, sumR_zero, Nat.add_zero]⟩, fun a b h => inv.free a b (by omega),
    fun g' col' h hc => inv.occ g' col' (by omega) hc⟩

theorem semF_wColStep {v : Label → Bool} (hP : ∀ l, P l → l ≠ PH)
    {c : Mat} {W R2 g : Nat} (hqc : QM (Got P H) c) (hg : 2 * g + 1 < R2)
    {col : Nat} {cn cn' : Mat} (hc : col < W) (inv : RInv v (Got P H) c W R2 g col cn)
    (h : SemF P H (wColStep c W (g * 3) cn col) v cn') : RInv v (Got P H) c W R2 g (col + 1) cn' := by
  unfold wColStep at h
  simp only at h
  obtain ⟨K, hK⟩ := inv.val
  split at h
  · rename_i hemp
    cases along_pure.mp h
    have he : inp3 (c.getD col []) (g * 3) = [] := by simpa using hemp
    refine ⟨inv.rect, inv.qm, ⟨K, ?_⟩, fun a b h => inv.free a b (by omega), fun g' col' h hc' hne => ?_⟩
    · rw [sumR_succ, hK, colSum, he, cnt_nil]; rfl
    · by_cases e : g' = g ∧ col' = col
      · exact absurd (e.1 ▸ e.2 ▸ he) hne
      · exact inv.occ g' col' (by omega) hc' hne
  · rename_i hne
    simp only [along_bind, along_pure] at h
    obtain ⟨res, hres, rfl⟩ := h
    have hlen1 : 1 ≤ (inp3 (c.getD col []) (g * 3)).length := List.length_pos_iff.mpr (by simpa using hne)
    have hval := sem_addSumNBits (semF_sem hres)
    simp only [revIf, Bool.false_eq_true, if_false] at hval
    have hshape : (∃ r0, res = [r0] ∧ Got P H r0) ∨ (∃ r0 r1, res = [r0, r1] ∧ Got P H r0 ∧ Got P H r1) := by
      rcases sumSmall_shape hlen1 (inp3_len _ _) hres with ⟨a, ha, hr⟩ | ⟨r0, r1, hr, p0, p1⟩
      · exact Or.inl ⟨a, hr, inp3_q (qm_getD hqc col) (g * 3) a (by rw [ha]; simp)⟩
      · exact Or.inr ⟨r0, r1, hr, p0, p1⟩
    rw [Nat.mul_div_cancel _ (by omega : 0 < 3)]
    obtain ⟨w5, w1, w2, ⟨k, w3⟩, w4⟩ := wPlace_spec v (fun l h => hP l h.1) inv.rect inv.qm hc hg hshape
      (inv.free col _ (by omega)) (fun _ => inv.free _ _ (by omega))
    refine ⟨w1, w2, ⟨K + k, ?_⟩, fun a b h => ?_, fun g' col' h hc' hne' => ?_⟩
    · rw [sumR_succ, Nat.mul_add, colSum, ← hval]; omega
    · rw [w4 a b (by omega) (by omega)]; exact inv.free a b (by omega)
    · by_cases e : g' = g ∧ col' = col
      · rw [e.1, e.2]; exact w5
      · rw [w4 col' (2 * g') (by omega) (by omega)]; exact inv.occ g' col' (by omega) hc' hne'

/-- a round: `cn` from the groups of three rows, then the `R % 3` left-over rows appended to each column -/
theorem round_cn {v : Label → Bool} (hP : ∀ l, P l → l ≠ PH)
    {c c' : Mat} {W R : Nat} (hW : 1 ≤ W) (hr : Rect c W R) (hq : QM (Got P H) c)
    (h : SemF P H (wallaceRound W c) v c') :
    ∃ cn, c' = cn.zipIdx.map (fun (ci : List Label × Nat) => ci.1 ++ (c.getD ci.2 []).drop (R - R % 3)) ∧
      RInv v (Got P H) c W (2 * (R / 3)) (R / 3) 0 cn := by
  unfold wallaceRound at h
  simp only [rect_headD hW hr, along_bind, along_pure] at h
  obtain ⟨cn, hcn, rfl⟩ := h
  have hfull : (R - R % 3) / 3 = R / 3 := by omega
  rw [hfull, progFold_map, List.range_eq_range'] at hcn
  have hend := along_progFold_range' (fun g => RInv v (Got P H) c W (2 * (R / 3)) g 0) (R / 3) 0 _ cn
    ⟨rect_replicate _ _, qm_replicate _ _, ⟨0, mv_allPH v _ _⟩, fun a b _ => entry_replicate _ _ a b,
      fun _ _ h => by omega⟩
    (fun g s s' _ hg hp hs => by
      rw [List.range_eq_range'] at hs
      have := along_progFold_range' (RInv v (Got P H) c W (2 * (R / 3)) g) W 0 s s' hp
        (fun i s s' _ hi hp hs => semF_wColStep hP hq (by omega) (by omega) hp hs) hs
      rw [Nat.zero_add] at this
      exact this.next) hcn
  rw [Nat.zero_add] at hend
  exact ⟨cn, rfl, hend⟩

theorem cnt_filter_PH (v : Label → Bool) (w : Nat) : ∀ l : List Label,
    w * cnt v (l.filter (fun x => x != PH)) = (l.map fun x => if x = PH then 0 else w * bv v x).sum
  | [] => rfl
  | x :: t => by
    rw [List.filter_cons, List.map_cons, List.sum_cons, ← cnt_filter_PH v w t]
    by_cases h : x = PH
    · subst h; simp
    · have : (x != PH) = true := by simpa using h
      rw [this, if_pos rfl, if_neg h, cnt_cons, Nat.mul_add]

theorem colSum_cells (v : Label → Bool) (c : Mat) (row col : Nat) :
    colSum v c row col = cellVal v c col row + cellVal v c col (row + 1) + cellVal v c col (row + 2) := by
  unfold colSum inp3
  rw [cnt_filter_PH]
  simp only [List.map_cons, List.map_nil, List.sum_cons, List.sum_nil, Nat.add_zero, Nat.add_assoc]
  rfl

theorem entry_round {c cn : Mat} {W R2 full : Nat} (hcn : Rect cn W R2) (col b : Nat) (hcol : col < W) :
    entry (cn.zipIdx.map (fun (ci : List Label × Nat) => ci.1 ++ (c.getD ci.2 []).drop full)) col b =
      if b < R2 then entry cn col b else entry c col (full + (b - R2)) := by
  have hc : col < cn.length := hcn.w ▸ hcol
  have hlen : cn[col].length = R2 := hcn.r _ (List.getElem_mem hc)
  unfold entry
  simp only [List.getD_eq_getElem?_getD, List.getElem?_map, List.getElem?_zipIdx, List.getElem?_eq_getElem hc,
    Option.map_some, Option.getD_some, Nat.zero_add, List.getElem?_append, hlen, List.getElem?_drop]
  split <;> rfl

/-- modulo `2^W`: carries out of the top column are dropped -/
theorem semF_wallaceRound {v : Label → Bool} (hP : ∀ l, P l → l ≠ PH)
    {c c' : Mat} {W R : Nat} (hW : 1 ≤ W) (hr : Rect c W R) (hq : QM (Got P H) c)
    (h : SemF P H (wallaceRound W c) v c') :
    Rect c' W (2 * (R / 3) + R % 3) ∧ QM (Got P H) c' ∧ ∃ K, MV v c = MV v c' + 2 ^ W * K := by
  obtain ⟨cn, rfl, hend⟩ := round_cn hP hW hr hq h
  obtain ⟨K, hK⟩ := hend.val
  rw [sumR_zero, Nat.add_zero] at hK
  have hfull' : R - R % 3 = R / 3 * 3 := by omega
  have hr' : Rect (cn.zipIdx.map (fun (ci : List Label × Nat) => ci.1 ++ (c.getD ci.2 []).drop (R - R % 3))) W
      (2 * (R / 3) + R % 3) := by
    refine ⟨by simp [hend.rect.w], ?_⟩
    intro col hcol
    obtain ⟨⟨ci, i⟩, hci, rfl⟩ := List.mem_map.mp hcol
    rw [List.mem_zipIdx_iff_getElem?] at hci
    have hi : i < cn.length := (List.getElem?_eq_some_iff.mp hci).1
    simp only [List.length_append, List.length_drop, hend.rect.r ci (List.mem_of_getElem? hci),
      rect_getD hr (hend.rect.w ▸ hi)]
    omega
  refine ⟨hr', ?_, ⟨K, ?_⟩⟩
  · intro col hcol x hx
    obtain ⟨⟨ci, i⟩, hci, rfl⟩ := List.mem_map.mp hcol
    rw [List.mem_zipIdx_iff_getElem?] at hci
    rcases List.mem_append.mp hx with h1 | h1
    · exact hend.qm ci (List.mem_of_getElem? hci) x h1
    · exact qm_getD hq i x (List.mem_of_mem_drop h1)
  · -- a column of `c` is its groups of three rows and the remaining rows, which the new matrix keeps
    have hr3 : Rect c W (R / 3 * 3 + R % 3) := by rw [show R / 3 * 3 + R % 3 = R by omega]; exact hr
    have hcol : ∀ col, col < W → sumR (R / 3 * 3 + R % 3) (cellVal v c col) =
        sumR (R / 3) (fun g => colSum v c (g * 3) col) + sumR (R % 3) (fun i => cellVal v c col (R / 3 * 3 + i)) := by
      intro col _
      rw [sumR_split, sumR_groups3]
      exact congrArg (· + _) (sumR_congr fun g _ => (colSum_cells v c (g * 3) col).symm)
    have hcol' : ∀ col, col < W → sumR (2 * (R / 3) + R % 3)
        (cellVal v (cn.zipIdx.map (fun (ci : List Label × Nat) => ci.1 ++ (c.getD ci.2 []).drop (R - R % 3))) col) =
        sumR (2 * (R / 3)) (cellVal v cn col) + sumR (R % 3) (fun i => cellVal v c col (R / 3 * 3 + i)) := by
      intro col hcol
      rw [sumR_split]
      refine congr (congrArg _ (sumR_congr fun b hb => ?_)) (sumR_congr fun i _ => ?_)
      · unfold cellVal; rw [entry_round hend.rect col b hcol, if_pos hb]
      · unfold cellVal
        rw [entry_round hend.rect col _ hcol, if_neg (Nat.not_lt.mpr (Nat.le_add_right _ i)), hfull', Nat.add_sub_cancel_left]
    rw [mv_cells v hr3, mv_cells v hr', sumR_congr hcol', sumR_add, ← mv_cells v hend.rect, sumR_congr hcol, sumR_add,
      sumR_swap W (R / 3) (fun g col => colSum v c (g * 3) col), ← hK]
    omega

theorem inp3_ne_nil {column : List Label} {row g : Nat} (hne : column.getD row PH ≠ PH) (h1 : g * 3 ≤ row)
    (h2 : row ≤ g * 3 + 2) : inp3 column (g * 3) ≠ [] := by
  have hm : column.getD row PH ∈ inp3 column (g * 3) := by
    have : row = g * 3 ∨ row = g * 3 + 1 ∨ row = g * 3 + 2 := by omega
    rcases this with e | e | e <;> simpa [inp3, ← e] using hne
  exact List.ne_nil_of_mem hm

theorem occ_wallaceRound {v : Label → Bool} (hP : ∀ l, P l → l ≠ PH)
    {c c' : Mat} {W R : Nat} (hW : 1 ≤ W) (hr : Rect c W R) (hq : QM (Got P H) c)
    (h : SemF P H (wallaceRound W c) v c') {col : Nat} (hcol : col < W)
    (hocc : ∃ row, row < R ∧ entry c col row ≠ PH) :
    (∃ row', row' < 2 * (R / 3) + R % 3 ∧ entry c' col row' ≠ PH) ∧ (R = 3 → entry c' col 0 ≠ PH) := by
  obtain ⟨cn, rfl, ginv⟩ := round_cn hP hW hr hq h
  obtain ⟨row, hrow, hne⟩ := hocc
  have hentry := fun b => entry_round (c := c) (full := R - R % 3) ginv.rect col b hcol
  by_cases hlow : row < R - R % 3
  · have hg : row / 3 < R / 3 := by omega
    have hin : inp3 (c.getD col []) (row / 3 * 3) ≠ [] := inp3_ne_nil (by unfold entry at hne; exact hne) (by omega) (by omega)
    have := ginv.occ (row / 3) col (Or.inl hg) hcol hin
    refine ⟨⟨2 * (row / 3), by omega, ?_⟩, fun hR3 => ?_⟩
    · rw [hentry, if_pos (by omega)]; exact this
    · rw [hentry, if_pos (by omega), show 0 = 2 * (row / 3) by omega]; exact this
  · refine ⟨⟨2 * (R / 3) + (row - (R - R % 3)), by omega, ?_⟩, fun hR3 => by omega⟩
    rw [hentry, if_neg (by omega)]
    have : R - R % 3 + (2 * (R / 3) + (row - (R - R % 3)) - 2 * (R / 3)) = row := by omega
    rw [this]; exact hne

theorem semF_wallaceRounds {v : Label → Bool} (hP : ∀ l, P l → l ≠ PH) {W : Nat} (hW : 1 ≤ W) :
    ∀ (fuel : Nat) (c c' : Mat) (R : Nat), Rect c W R → QM (Got P H) c → SemF P H (wallaceRounds W fuel c) v c' →
    Rect c' W 2 ∧ QM (Got P H) c' ∧ (∃ K, MV v c = MV v c' + 2 ^ W * K) ∧
    ∀ col, col < W → (∃ row, row < R ∧ entry c col row ≠ PH) → (R = 2 → c' = c) ∧ (R ≠ 2 → entry c' col 0 ≠ PH) := by
  intro fuel
  induction fuel with
  | zero => intro c c' R _ _ h; exact absurd h along_fail
  | succ fuel ih =>
    intro c c' R hr hq h
    simp only [wallaceRounds, rect_headD hW hr] at h
    split at h
    · rename_i h2
      cases along_pure.mp h
      have : R = 2 := by simpa using h2
      exact ⟨this ▸ hr, hq, ⟨0, by simp⟩, fun _ _ _ => ⟨fun _ => rfl, fun hne => absurd this hne⟩⟩
    · rename_i h2
      have hR2 : R ≠ 2 := by simpa using h2
      simp only [along_bind] at h
      obtain ⟨c1, h1, hrec⟩ := h
      obtain ⟨r1, q1, K1, k1⟩ := semF_wallaceRound hP hW hr hq h1
      obtain ⟨r2, q2, ⟨K2, k2⟩, o⟩ := ih c1 c' _ r1 q1 hrec
      refine ⟨r2, q2, ⟨K1 + K2, by rw [k1, k2, Nat.mul_add]; omega⟩, fun col hcol hocc => ⟨fun e => absurd e hR2, fun _ => ?_⟩⟩
      obtain ⟨o1, o2⟩ := occ_wallaceRound hP hW hr hq h1 hcol hocc
      obtain ⟨i1, i2⟩ := o col hcol o1
      by_cases hnext : 2 * (R / 3) + R % 3 = 2
      · rw [i1 hnext]; exact o2 (by omega)
      · exact i2 hnext

theorem sorted_span : ∀ (l : List Nat) (f t : Nat), (f :: l).Pairwise (· < ·) → (f :: l).getLast? = some t →
    (∀ x ∈ f :: l, f ≤ x ∧ x ≤ t) ∧ (f :: l).length ≤ t + 1 - f ∧
      ((f :: l).length = t + 1 - f → ∀ i, f ≤ i → i ≤ t → i ∈ f :: l)
  | [], f, t, _, ht => by
    cases ht
    refine ⟨fun x hx => ?_, Nat.le_of_eq (by simp), fun _ i h1 h2 => ?_⟩
    · cases List.mem_singleton.mp hx; exact ⟨Nat.le_refl _, Nat.le_refl _⟩
    · exact List.mem_singleton.mpr (Nat.le_antisymm h2 h1)
  | g :: l, f, t, hs, ht => by
    have hfg : f < g := (List.pairwise_cons.mp hs).1 g List.mem_cons_self
    rw [List.getLast?_cons_cons] at ht
    obtain ⟨h1, h2, h3⟩ := sorted_span l g t (List.pairwise_cons.mp hs).2 ht
    have hgt := (h1 g List.mem_cons_self).2
    simp only [List.length_cons] at h2 h3 ⊢
    refine ⟨fun x hx => ?_, by omega, fun hlen i hi1 hi2 => ?_⟩
    · rcases List.mem_cons.mp hx with rfl | hx
      · omega
      · have := h1 x hx; omega
    · rcases Nat.eq_or_lt_of_le hi1 with rfl | hlt
      · exact List.mem_cons_self
      · exact List.mem_cons_of_mem _ (h3 (by omega) i (by omega) hi2)

/-- `f` and `t` are the first and the last of the `n` positions below `W` at which `p` holds -/
structure Span (p : Nat → Bool) (W f t n : Nat) : Prop where
  le : f ≤ t
  lt : t < W
  first : p f = true
  last : p t = true
  below : ∀ i, i < f → p i = false
  above : ∀ i, t < i → i < W → p i = false
  count : n ≤ t + 1 - f
  full : n = t + 1 - f → ∀ i, f ≤ i → i ≤ t → p i = true

/-- what `headD`, `getLast?`, `isEmpty` and `length` of the list of used positions say -/
theorem filter_range_cases (p : Nat → Bool) (W : Nat) :
    ((List.range W).filter p = [] ∧ ∀ i, i < W → p i = false) ∨
    (((List.range W).filter p).isEmpty = false ∧
      Span p W (((List.range W).filter p).headD W) (((List.range W).filter p).getLast?.getD 0) ((List.range W).filter p).length) := by
  have hmem : ∀ x, x ∈ (List.range W).filter p ↔ x < W ∧ p x = true := fun x => by simp [List.mem_filter]
  have hsorted : ((List.range W).filter p).Pairwise (· < ·) := List.pairwise_lt_range.sublist List.filter_sublist
  cases hl : (List.range W).filter p with
  | nil =>
    refine Or.inl ⟨rfl, fun i hi => ?_⟩
    have := (not_congr (hmem i)).mp (hl ▸ List.not_mem_nil)
    simpa [hi] using this
  | cons f rest =>
    rw [hl] at hmem hsorted
    have ht := List.getLast?_eq_some_getLast (List.cons_ne_nil f rest)
    generalize (f :: rest).getLast _ = t at ht
    obtain ⟨hbd, hle, hfull⟩ := sorted_span rest f t hsorted ht
    have hf := (hmem f).mp List.mem_cons_self
    have htm := (hmem t).mp (List.mem_of_getLast? ht)
    -- a used position is a member, hence between `f` and `t`
    have hnot : ∀ i, i < W → (i < f ∨ t < i) → p i = false := by
      intro i hi ho
      cases hp : p i with
      | false => rfl
      | true => have := hbd i ((hmem i).mpr ⟨hi, hp⟩); omega
    rw [ht, List.headD_cons, Option.getD_some]
    exact Or.inr ⟨rfl, (hbd f List.mem_cons_self).2, htm.1, hf.2, htm.2, fun i hi => hnot i (by omega) (Or.inl hi),
      fun i h1 h2 => hnot i h2 (Or.inr h1), hle, fun hlen i h1 h2 => ((hmem i).mp (hfull hlen i h1 h2)).2⟩

theorem valLE_map_range' (v : Label → Bool) (F : Nat → Label) (n s : Nat) :
    valLE v ((List.range' s n).map F) = sumR n (fun j => 2 ^ j * bv v (F (s + j))) := by
  rw [valLE_sumR, List.length_map, List.length_range']
  apply sumR_congr; intro j hj
  simp [hj]

theorem valLE_cells (v : Label → Bool) (c : Mat) (ρ : Nat → Nat) (N : Nat) (h : ∀ i, i < N → entry c i (ρ i) ≠ PH) :
    valLE v ((List.range N).map (fun i => (c.getD i []).getD (ρ i) PH)) = sumR N (fun i => cellVal v c i (ρ i)) := by
  rw [List.range_eq_range', valLE_map_range']
  apply sumR_congr; intro j hj
  rw [Nat.zero_add, cellVal, if_neg (h j hj)]; rfl

/-- the number row `k` of the matrix stands for -/
def rowVal (v : Label → Bool) (c : Mat) (W k : Nat) : Nat := sumR W (fun col => cellVal v c col k)

theorem mv_two_rows (v : Label → Bool) {c : Mat} {W : Nat} (h : Rect c W 2) :
    MV v c = rowVal v c W 0 + rowVal v c W 1 := by
  rw [mv_cells v h]
  unfold rowVal
  rw [← sumR_add]
  apply sumR_congr
  intro col _
  simp [sumR_succ, sumR_zero]

/-- the bit the final adder sees at a position of a row: the entry, or the constant-false bit -/
def selBit (c : Mat) (k : Nat) (zero : Label) (i : Nat) : Label :=
  if entry c i k == PH then zero else entry c i k

theorem rowBits_eq (c : Mat) (k first last : Nat) (zero : Label) :
    rowBits c k first last zero = (List.range' first (last + 1 - first)).map (selBit c k zero) := by
  unfold rowBits
  rw [List.range_eq_range', List.drop_range']
  simp only [Nat.zero_add, Nat.mul_one]
  rfl

theorem rowBits_val (v : Label → Bool) (c : Mat) (W k f t : Nat) (zero : Label) (htW : t < W) (hft : f ≤ t)
    (hlow : ∀ i, i < f → entry c i k = PH) (hhigh : ∀ i, t < i → i < W → entry c i k = PH)
    (hz : ∀ i, f ≤ i → i ≤ t → entry c i k = PH → bv v zero = 0) :
    2 ^ f * valLE v (rowBits c k f t zero) = rowVal v c W k := by
  rw [rowBits_eq, valLE_map_range', ← sumR_mul]
  unfold rowVal
  -- split the positions into [0,f), [f,t], (t,W)
  have hW : W = f + ((t + 1 - f) + (W - (t + 1))) := by omega
  rw [hW, sumR_split, sumR_split]
  have z1 : sumR f (fun col => cellVal v c col k) = 0 := by
    rw [← sumR_const_zero f]
    exact sumR_congr fun i hi => cellVal_ph (hlow i hi)
  have z3 : sumR (W - (t + 1)) (fun w => cellVal v c (f + (t + 1 - f + w)) k) = 0 := by
    rw [← sumR_const_zero (W - (t + 1))]
    exact sumR_congr fun i hi => cellVal_ph (hhigh _ (by omega) (by omega))
  rw [z1, z3, Nat.zero_add, Nat.add_zero]
  apply sumR_congr
  intro j hj
  unfold cellVal selBit
  by_cases hp : entry c (f + j) k = PH
  · rw [if_pos hp, hp, beq_self_eq_true, if_pos rfl, hz (f + j) (by omega) (by omega) hp]; rfl
  · rw [if_neg hp, if_neg (by simpa using hp), Nat.pow_add, Nat.mul_assoc]

theorem usedCols_eq (c : Mat) (k : Nat) : usedCols c k = (List.range c.length).filter (fun i => entry c i k != PH) := rfl

theorem usedCols_cases {c : Mat} {W : Nat} (hw : c.length = W) (k : Nat) :
    (usedCols c k = [] ∧ ∀ i, i < W → entry c i k = PH) ∨
    ((usedCols c k).isEmpty = false ∧ Span (fun i => entry c i k != PH) W ((usedCols c k).headD W)
      ((usedCols c k).getLast?.getD 0) (usedCols c k).length) := by
  rw [usedCols_eq, hw]
  exact (filter_range_cases _ W).imp_left fun h => ⟨h.1, fun i hi => by simpa using h.2 i hi⟩

/-- `has_gaps` of `add_mul_wallace` -/
def hasGaps (c : Mat) (W : Nat) : Bool :=
  ((usedCols c 0).length != (usedCols c 0).getLast?.getD 0 + 1 ||
    !(usedCols c 1).isEmpty && (usedCols c 1).length != (usedCols c 1).getLast?.getD 0 + 1 - (usedCols c 1).headD W)

theorem hasGaps_of_ph {c : Mat} {W : Nat} (hw : c.length = W) {k first i : Nat}
    (hk : k = 0 ∧ first = 0 ∨ k = 1 ∧ first = (usedCols c 1).headD W) (hne : (usedCols c k).isEmpty = false)
    (h1 : first ≤ i) (h2 : i ≤ (usedCols c k).getLast?.getD 0) (hph : entry c i k = PH) : hasGaps c W = true := by
  cases hg : hasGaps c W with
  | true => rfl
  | false =>
    exfalso
    unfold hasGaps at hg
    simp only [Bool.or_eq_false_iff, bne_eq_false_iff_eq, Bool.and_eq_false_iff, Bool.not_eq_false'] at hg
    rcases usedCols_cases hw k with ⟨hnil, _⟩ | ⟨_, sp⟩
    · rw [hnil] at hne; cases hne
    · have := sp.le
      have := sp.count
      -- without gaps the used positions are all of `[f, t]`, and `first = f`
      have hfull : (usedCols c k).length = (usedCols c k).getLast?.getD 0 + 1 - (usedCols c k).headD W ∧
          (usedCols c k).headD W ≤ i := by
        rcases hk with ⟨rfl, rfl⟩ | ⟨rfl, rfl⟩
        · have := hg.1; omega
        · exact ⟨hg.2.resolve_left (by rw [hne]; exact Bool.false_ne_true), h1⟩
      simpa [hph] using sp.full hfull.1 i hfull.2 h2

theorem finalRow_val (v : Label → Bool) {c : Mat} {W : Nat} (hw : c.length = W) (k : Nat) (zero : Label) (first : Nat)
    (hfirst : first ≤ (usedCols c k).headD W)
    (hz : (usedCols c k).isEmpty = false → ∀ i, first ≤ i → i ≤ (usedCols c k).getLast?.getD 0 → entry c i k = PH →
      bv v zero = 0) :
    2 ^ first * valLE v (if (usedCols c k).isEmpty then [] else rowBits c k first ((usedCols c k).getLast?.getD 0) zero) =
      rowVal v c W k := by
  rcases usedCols_cases hw k with ⟨hnil, hno⟩ | ⟨hne, sp⟩
  · rw [hnil, List.isEmpty_nil, if_pos rfl, valLE, Nat.mul_zero]
    unfold rowVal
    rw [← sumR_const_zero W]
    exact sumR_congr fun i hi => (cellVal_ph (hno i hi)).symm
  · rw [hne, if_neg Bool.false_ne_true]
    have hph : ∀ i, (entry c i k != PH) = false → entry c i k = PH := fun i h => by simpa using h
    have := sp.le
    exact rowBits_val v c W k first _ zero sp.lt (by omega) (fun i hi => hph i (sp.below i (by omega)))
      (fun i h1 h2 => hph i (sp.above i h1 h2)) (hz hne)

/-- the length the final adder returns, from the used positions of the two rows -/
def finalLen (W : Nat) (pA pB : Nat → Bool) : Nat :=
  let ua := (List.range W).filter pA
  let ub := (List.range W).filter pB
  let lastA := ua.getLast?.getD 0
  let firstB := ub.headD W
  let lastB := ub.getLast?.getD 0
  let la := if ua.isEmpty then 0 else lastA + 1
  let lb := if ub.isEmpty then 0 else lastB + 1 - firstB
  if firstB ≥ la then firstB + lb else firstB + (max (la - firstB) lb + 1)

theorem finalLen_ge (W : Nat) (pA pB : Nat → Bool) (hW : 2 ≤ W)
    (h : pA (W - 2) = true ∨ (pB (W - 2) = true ∧ ∃ i, i < W ∧ pA i = true ∧ pB i = true)) :
    W ≤ finalLen W pA pB := by
  unfold finalLen
  simp only
  -- a position where `p` holds lies between the first and the last used one
  have mem : ∀ (p : Nat → Bool) {f t n i : Nat}, Span p W f t n → i < W → p i = true → f ≤ i ∧ i ≤ t := fun p f t n i sp hi hp =>
    ⟨Nat.le_of_not_lt fun h => by simpa [hp] using sp.below i h, Nat.le_of_not_lt fun h => by simpa [hp] using sp.above i h hi⟩
  rcases filter_range_cases pA W with ⟨_, noA⟩ | ⟨neA, spA⟩
  · rcases h with h | ⟨_, i, hi, hai, _⟩
    · simpa [h] using noA (W - 2) (by omega)
    · simpa [hai] using noA i hi
  · rw [neA]
    generalize ((List.range W).filter pA).headD W = fA at *
    generalize ((List.range W).filter pA).getLast?.getD 0 = tA at *
    generalize ((List.range W).filter pA).length = nA at *
    rcases filter_range_cases pB W with ⟨nilB, noB⟩ | ⟨neB, spB⟩
    · -- row 1 is empty and starts at `W`
      rw [nilB]
      simp only [List.headD_nil, List.isEmpty_nil, List.getLast?_nil, Option.getD_none, Bool.false_eq_true, if_true, if_false]
      split <;> omega
    · rw [neB]
      generalize ((List.range W).filter pB).headD W = fB at *
      generalize ((List.range W).filter pB).getLast?.getD 0 = tB at *
      generalize ((List.range W).filter pB).length = nB at *
      simp only [Bool.false_eq_true, if_false]
      have := spB.le
      rcases h with h | ⟨hbT, i, hi, hai, hbi⟩
      · -- row 0 reaches position `W - 2`
        have := mem pA spA (by omega) h
        split <;> omega
      · -- the rows overlap at `i`, so the sum is one bit longer than row 1, which reaches position `W - 2`
        have := mem pA spA hi hai
        have := mem pB spB hi hbi
        have := mem pB spB (by omega) hbT
        split <;> omega

theorem rowBits_length (c : Mat) (k first last : Nat) (zero : Label) :
    (rowBits c k first last zero).length = last + 1 - first := by
  unfold rowBits; simp

theorem length_ite_rowBits (e : Bool) (c : Mat) (k first last : Nat) (zero : Label) :
    (if e = true then ([] : List Label) else rowBits c k first last zero).length =
      if e = true then 0 else last + 1 - first := by
  split
  · rfl
  · exact rowBits_length ..

theorem semF_addMulWallace {v : Label → Bool} (hP : ∀ l, P l → l ≠ PH) {a b out : List Label} {be : Bool}
    (h : SemF P H (addMulWallace a b be) v out) :
    valLE v (revIf out be) = valLE v (revIf a be) * valLE v (revIf b be) ∧
    (1 ≤ a.length → 1 ≤ b.length →
      out.length = if a.length = 1 ∨ b.length = 1 then a.length + b.length - 1 else a.length + b.length) := by
  unfold addMulWallace at h
  simp only [along_bind] at h
  obtain ⟨c, hc, hbody⟩ := h
  rw [← revIf_length a be, ← revIf_length b be]
  generalize revIf a be = A at hc hbody ⊢
  generalize revIf b be = B at hc hbody ⊢
  obtain ⟨cr, cq, cv, cph⟩ := semF_partialProducts hP hc
  have cell : ∀ {col row}, row < B.length → row ≤ col → col < row + A.length → entry c col row ≠ PH :=
    fun h1 h2 h3 hph => (cph _ _).mp hph ⟨h1, h2, h3⟩
  have hprod := valLE_mul_lt v A B
  rw [← cv] at hprod ⊢
  split at hbody
  · -- a single multiplicand bit: the diagonal
    rename_i hn1
    have hA1 : A.length = 1 := by simpa using hn1
    cases along_pure.mp hbody
    refine ⟨?_, fun _ _ => by rw [revIf_length, List.length_map, List.length_range, if_pos (Or.inl hA1)]; omega⟩
    rw [revIf_revIf, valLE_cells v c (fun i => i) B.length (fun i hi => cell hi (Nat.le_refl _) (by omega)),
      mv_cells v cr, sumR_swap]
    apply sumR_congr
    intro row hrow
    have : ∀ col, col < A.length + B.length → cellVal v c col row = if row = col then cellVal v c col row else 0 := by
      intro col _
      split
      · rfl
      · exact cellVal_ph ((cph col row).mpr (by omega))
    rw [sumR_congr this, sumR_single _ row (by omega)]
  · split at hbody
    · -- a single multiplier bit: row 0
      rename_i hm1
      have hB1 : B.length = 1 := by simpa using hm1
      cases along_pure.mp hbody
      refine ⟨?_, fun _ _ => by rw [revIf_length, List.length_map, List.length_range, if_pos (Or.inr hB1)]; omega⟩
      rw [revIf_revIf, valLE_cells v c (fun _ => 0) A.length (fun i hi => cell (by omega) (Nat.zero_le _) (by omega)),
        mv_cells v cr, hB1, sumR_succ, sumR_succ, sumR_zero, Nat.zero_add, cellVal_ph ((cph A.length 0).mpr (by omega))]
      exact sumR_congr fun col _ => by rw [sumR_succ, sumR_zero, Nat.zero_add]
    · rename_i hn1 hm1
      simp only [along_bind, along_pure] at hbody
      obtain ⟨c', hrounds, zero, hzero, r, hr, rfl⟩ := hbody
      rw [revIf_revIf]
      have hW : 1 ≤ A.length + B.length := by
        rcases Nat.eq_zero_or_pos (A.length + B.length) with h0 | h0
        · exfalso
          have hc0 : c = [] := List.eq_nil_of_length_eq_zero (by rw [cr.w]; exact h0)
          rw [h0, hc0] at hrounds
          have hfail : wallaceRounds 0 (B.length + 2) ([] : Mat) = Prog.fail "fuel" := by
            rw [show B.length = 0 by omega]; rfl
          rw [hfail] at hrounds
          exact along_fail hrounds
        · exact h0
      obtain ⟨r2, q2, ⟨K, hK⟩, o⟩ := semF_wallaceRounds hP hW (B.length + 2) c c' B.length cr cq hrounds
      refine ⟨?_, fun ha hb => ?_⟩
      rotate_left
      · have hA2 : A.length ≠ 1 := by simpa using hn1
        have hB2 : B.length ≠ 1 := by simpa using hm1
        rw [if_neg (by omega), revIf_length, List.length_take]
        -- the top column of partial products holds `a_{n-1} ∧ b_{m-1}` in the last row; it ends in row 0 …
        obtain ⟨o1, o2⟩ := o (A.length + B.length - 2) (by omega) ⟨B.length - 1, by omega, cell (by omega) (by omega) (by omega)⟩
        have hfin : r.length = finalLen (A.length + B.length) (fun i => entry c' i 0 != PH) (fun i => entry c' i 1 != PH) := by
          rw [(sem_addSumTwoNumbersWithShift (semF_sem hr)).2]
          simp only [finalLen, usedCols_eq, r2.w, length_ite_rowBits, Nat.sub_zero]
        have hge : A.length + B.length ≤ r.length := by
          rw [hfin]
          apply finalLen_ge _ _ _ (by omega)
          simp only [bne_iff_ne, ne_eq]
          by_cases hR2 : B.length = 2
          · -- … unless there are only two rows from the start: then it is in row 1, and column 1 is used in both
            cases o1 hR2
            exact Or.inr ⟨cell (by omega) (by omega) (by omega), 1, by omega, cell (by omega) (by omega) (by omega),
              cell (by omega) (by omega) (by omega)⟩
          · exact Or.inl (o2 hR2)
        omega
      -- the constant-false bit is created when a row has gaps
      have hzv : hasGaps c' (A.length + B.length) = true → bv v zero = 0 := by
        intro hg
        replace hzero : SemF P H (if hasGaps c' (A.length + B.length) = true then
            match A with
            | x :: _ => emitTT x x t0000
            | [] => .fail "Py:IndexError"
          else pure PH) v zero := hzero
        rw [hg, if_pos rfl] at hzero
        split at hzero
        · rename_i x xs
          rw [bv, sem_emitTT (semF_sem hzero)]; cases v x <;> rfl
        · exact absurd hzero along_fail
      have hrowA := finalRow_val v r2.w 0 zero 0 (Nat.zero_le _) fun hne i h1 h2 hph =>
        hzv (hasGaps_of_ph r2.w (Or.inl ⟨rfl, rfl⟩) hne h1 h2 hph)
      have hrowB := finalRow_val v r2.w 1 zero ((usedCols c' 1).headD (A.length + B.length)) (Nat.le_refl _)
        fun hne i h1 h2 hph => hzv (hasGaps_of_ph r2.w (Or.inr ⟨rfl, rfl⟩) hne h1 h2 hph)
      rw [Nat.pow_zero, Nat.one_mul] at hrowA
      have hvr := (sem_addSumTwoNumbersWithShift (semF_sem hr)).1
      simp only [revIf, Bool.false_eq_true, if_false] at hvr
      rw [hrowA, hrowB, ← mv_two_rows v r2] at hvr
      -- nothing was dropped: the product is below `2^(n+m)`
      have hKeq := eq_of_lt_of_add_mul hK hprod
      rw [valLE_take_of_lt v r _ (by rw [hvr, ← hKeq]; exact hprod), hvr, hKeq]

end Cirbo
