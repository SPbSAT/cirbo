import Cirbo.Proofs.Frame
/-!
# `connect_circuit`: how a call runs, and what a left connection keeps

The call has three stages: the checks that build the mapping `other_connectors ↦ this_connectors`, the loop over
`other` in topological order, and the tail that sets the interface and records the blocks; each is characterised by
an equivalence. A left connection only adds gates, so the base circuit keeps its function.
-/
namespace Cirbo
open GateType Circuit

/-- `[old_to_new_names[l] for l in ls]` -/
theorem mapLabels_ok_iff {m : Dict Label} {ls r : List Label} :
    mapLabels m ls = .ok r ↔ ls.map (Dict.get? m) = r.map some := by
  unfold mapLabels
  suffices h : ∀ (ls acc : List Label),
      ls.foldl (fun (acc : R (List Label)) l => match acc with
        | .error e => .error e
        | .ok r => match Dict.get? m l with
          | none => .error "Py:KeyError"
          | some x => .ok (r ++ [x])) (.ok acc) = .ok r ↔ acc.map some ++ ls.map (Dict.get? m) = r.map some by
    have := h ls []
    simp only [List.map_nil, List.nil_append] at this
    exact this
  intro ls
  induction ls with
  | nil => intro acc; simp [List.map_inj_right fun (x y : Label) h => Option.some.inj h]
  | cons l t ih =>
    intro acc
    rw [List.foldl_cons]
    cases hg : Dict.get? m l with
    | none =>
      simp only [List.map_cons, hg]
      rw [foldlR_error (fun _ _ => rfl)]
      refine ⟨nofun, fun h => ?_⟩
      have : none ∈ r.map some := h ▸ by simp
      simp at this
    | some x => simp [ih, hg]

theorem mapLabels_length {m : Dict Label} {ls r : List Label} (h : mapLabels m ls = .ok r) : r.length = ls.length := by
  simpa using (congrArg List.length (mapLabels_ok_iff.mp h)).symm

theorem mapLabels_ok_of_all (m : Dict Label) (ls : List Label) (h : ∀ l ∈ ls, ∃ x, Dict.get? m l = some x) :
    ∃ r, mapLabels m ls = .ok r :=
  ⟨ls.map fun l => (Dict.get? m l).getD l, mapLabels_ok_iff.mpr (by
    rw [List.map_map]
    exact List.map_congr_left fun l hl => by obtain ⟨x, hx⟩ := h l hl; simp [hx])⟩

theorem mapLabels_values {m : Dict Label} {ls r : List Label} (h : mapLabels m ls = .ok r) {x : Label} (hx : x ∈ r) :
    ∃ l ∈ ls, Dict.get? m l = some x :=
  List.mem_map.mp (mapLabels_ok_iff.mp h ▸ List.mem_map_of_mem hx)

theorem mapLabels_defined {m : Dict Label} {ls r : List Label} (h : mapLabels m ls = .ok r) {l : Label} (hl : l ∈ ls) :
    ∃ x, Dict.get? m l = some x := by
  obtain ⟨x, _, hx⟩ := List.mem_map.mp (mapLabels_ok_iff.mp h ▸ List.mem_map_of_mem (f := Dict.get? m) hl)
  exact ⟨x, hx.symm⟩

theorem mapLabels_nil_of {m : Dict Label} {ls r : List Label} (h : mapLabels m ls = .ok r) (hl : ls = []) : r = [] :=
  List.length_eq_zero_iff.mp (by rw [mapLabels_length h, hl]; rfl)

theorem mapLabels_ren {o2n : Dict Label} {ls r : List Label} {φ : Label → Label} (h : mapLabels o2n ls = .ok r)
    (hφ : ∀ l ∈ ls, Dict.get? o2n l = some (φ l)) : r = ls.map φ :=
  (List.map_inj_right fun (x y : Label) h => Option.some.inj h).mp (by
    rw [← mapLabels_ok_iff.mp h, List.map_map]
    exact List.map_congr_left fun l hl => hφ l hl)

theorem connStep_error (other : Circuit) (m : Dict Label) (pre : String) (right : Bool) (e : String) (l : Label) :
    connStep other m pre right (.error e) l = .error e := rfl

abbrev connMapping (thisC otherC : List Label) : Dict Label :=
  (otherC.zip thisC).foldl (fun m p => Dict.set m p.1 p.2) ([] : Dict Label)
abbrev connPre (name : Label) (addP : Bool) : String := if name != "" && addP then name ++ "@" else ""

/-- the gate list kept for the new block, after a gate of type `ty` was placed under the label `l` -/
def recordGate (ty : GateType) (l : Label) (fb : List Label) : List Label :=
  if ty != INPUT && !fb.contains l then fb ++ [l] else fb

/-- the base circuit after the connector gate `g` took the place of the input labelled `g.label` -/
def rewire (c : Circuit) (g : Gate) : Circuit :=
  let c1 := g.ops.foldl (fun c o => c.addUser o g.label) c
  if c1.hasGate g.label then c1.setGate g else { c1 with gates := c1.gates ++ [g] }

theorem connStep_ok_iff {other : Circuit} {m : Dict Label} {pre : String} {right : Bool} {st st' : ConnSt} {cur : Label} :
    connStep other m pre right (.ok st) cur = .ok st' ↔ ∃ g, other.find? cur = some g ∧
      ((Dict.contains m cur = false ∧ ∃ ops c1, mapLabels (Dict.set st.o2n cur (pre ++ cur)) g.ops = .ok ops ∧
          st.c.addGate ⟨pre ++ cur, g.ty, ops⟩ = .ok c1 ∧
          st' = ⟨c1, Dict.set st.o2n cur (pre ++ cur), recordGate g.ty (pre ++ cur) st.forBlock⟩) ∨
       (Dict.contains m cur = true ∧ right = false ∧ st' = st) ∨
       (Dict.contains m cur = true ∧ right = true ∧ ∃ lbl ops, Dict.get? st.o2n cur = some lbl ∧
          mapLabels st.o2n g.ops = .ok ops ∧
          st' = ⟨rewire st.c ⟨lbl, g.ty, ops⟩, st.o2n, recordGate g.ty lbl st.forBlock⟩)) := by
  constructor
  · intro h
    unfold connStep at h
    simp only at h
    cases hf : other.find? cur with
    | none => simp [hf] at h
    | some g =>
      refine ⟨g, rfl, ?_⟩
      simp only [hf] at h
      cases hc : Dict.contains m cur with
      | false =>
        simp only [hc, Bool.not_false, if_true] at h
        cases hm : mapLabels (Dict.set st.o2n cur (pre ++ cur)) g.ops with
        | error e => simp [hm] at h
        | ok ops =>
          cases ha : st.c.addGate ⟨pre ++ cur, g.ty, ops⟩ with
          | error e => simp [hm, ha] at h
          | ok c1 =>
            simp only [hm, ha, Except.ok.injEq] at h
            exact Or.inl ⟨rfl, ops, c1, rfl, ha, h.symm⟩
      | true =>
        simp only [hc, Bool.not_true, Bool.false_eq_true, if_false] at h
        cases right with
        | false => exact Or.inr (Or.inl ⟨rfl, rfl, by simpa using h.symm⟩)
        | true =>
          simp only [if_true] at h
          cases hgo : Dict.get? st.o2n cur with
          | none => simp [hgo] at h
          | some lbl =>
            cases hm : mapLabels st.o2n g.ops with
            | error e => simp [hgo, hm] at h
            | ok ops =>
              simp only [hgo, hm, Except.ok.injEq] at h
              exact Or.inr (Or.inr ⟨rfl, rfl, lbl, ops, rfl, rfl, h.symm⟩)
  · rintro ⟨g, hf, ⟨hc, ops, c1, hm, ha, rfl⟩ | ⟨hc, rfl, rfl⟩ | ⟨hc, rfl, lbl, ops, hgo, hm, rfl⟩⟩
    · simp [connStep, hf, hc, hm, ha, recordGate]
    · simp [connStep, hf, hc]
    · simp [connStep, hf, hc, hm, hgo, recordGate, rewire]

theorem connLoop_induction {other : Circuit} {m : Dict Label} {pre : String} {right : Bool}
    {P : List Label → ConnSt → Prop} {order : List Label}
    (step : ∀ done cur rest st st', order = done ++ cur :: rest → P done st →
      connStep other m pre right (.ok st) cur = .ok st' → P (done ++ [cur]) st')
    {st0 st : ConnSt} (h0 : P [] st0) (h : order.foldl (connStep other m pre right) (.ok st0) = .ok st) :
    P order st :=
  foldlR_run (connStep_error other m pre right) step h0 h

theorem connLoop_returns {other : Circuit} {m : Dict Label} {pre : String} {right : Bool}
    {P : List Label → ConnSt → Prop} {order : List Label}
    (step : ∀ done cur rest st, order = done ++ cur :: rest → P done st →
      ∃ st', connStep other m pre right (.ok st) cur = .ok st' ∧ P (done ++ [cur]) st')
    {st0 : ConnSt} (h0 : P [] st0) :
    ∃ st, order.foldl (connStep other m pre right) (.ok st0) = .ok st ∧ P order st :=
  foldlR_total step order [] st0 rfl h0

/-- the step of the loop of `connect_circuit` that copies `other`'s blocks, under a name -/
def bstepFn (o2n : Dict Label) (pre : String) : R Circuit → Block → R Circuit := fun acc b => match acc with
  | .error e => .error e
  | .ok cc =>
    let nb := pre ++ b.name
    if cc.blocks.any (fun x => x.name == nb) then .error "CircuitValidationError" else
    match mapLabels o2n b.inputs, mapLabels o2n b.gates, mapLabels o2n b.outputs with
    | .ok i, .ok g, .ok o => .ok { cc with blocks := cc.blocks ++ [⟨nb, i, g, o⟩] }
    | _, _, _ => .error "Py:KeyError"

theorem bstepFn_ok_iff {o2n : Dict Label} {pre : String} {cc c1 : Circuit} {b : Block} :
    bstepFn o2n pre (.ok cc) b = .ok c1 ↔ cc.blocks.any (fun x => x.name == pre ++ b.name) = false ∧
      ∃ i g o, mapLabels o2n b.inputs = .ok i ∧ mapLabels o2n b.gates = .ok g ∧ mapLabels o2n b.outputs = .ok o ∧
        c1 = { cc with blocks := cc.blocks ++ [⟨pre ++ b.name, i, g, o⟩] } := by
  unfold bstepFn
  simp only
  cases hn : cc.blocks.any (fun x => x.name == pre ++ b.name) with
  | true => simp
  | false =>
    cases hi : mapLabels o2n b.inputs <;> cases hg : mapLabels o2n b.gates <;> cases ho : mapLabels o2n b.outputs <;>
      simp [eq_comm (a := c1)]

theorem bfold_fields {o2n : Dict Label} {pre : String} {bs : List Block} {cc c3 : Circuit}
    (h : bs.foldl (bstepFn o2n pre) (.ok cc) = .ok c3) :
    c3.gates = cc.gates ∧ c3.inputs = cc.inputs ∧ c3.outputs = cc.outputs ∧
    ∃ mb, c3.blocks = cc.blocks ++ mb ∧ ∀ b ∈ mb, ∃ b0 ∈ bs, b.name = pre ++ b0.name := by
  refine foldlR_ok (fun _ _ => rfl) (I := fun done c3 => c3.gates = cc.gates ∧ c3.inputs = cc.inputs ∧
    c3.outputs = cc.outputs ∧ ∃ mb, c3.blocks = cc.blocks ++ mb ∧ ∀ b ∈ mb, ∃ b0 ∈ done, b.name = pre ++ b0.name)
    ?_ ⟨rfl, rfl, rfl, [], by simp, nofun⟩ h
  rintro done b c1 c2 ⟨a1, a2, a3, mb, a4, a5⟩ hs
  obtain ⟨_, bi, bg, bo, _, _, _, rfl⟩ := bstepFn_ok_iff.mp hs
  refine ⟨a1, a2, a3, mb ++ [⟨pre ++ b.name, bi, bg, bo⟩], by simp [a4], fun x hx => ?_⟩
  rcases List.mem_append.mp hx with hx | hx
  · exact (a5 x hx).imp fun b0 h0 => ⟨List.mem_append_left _ h0.1, h0.2⟩
  · exact ⟨b, by simp, by rw [List.mem_singleton.mp hx]⟩

theorem connFinish_ok_iff {c other c' : Circuit} {st : ConnSt} {thisC otherC : List Label} {name : Label}
    {pre : String} :
    connFinish c other st thisC otherC name pre = .ok c' ↔ ∃ outs2 c1 ins2 c2 c3,
      mapLabels st.o2n (other.outputs.filter (fun o => !otherC.contains o)) = .ok outs2 ∧
      st.c.setOutputs (st.c.outputs.filter (fun o => !thisC.contains o) ++ outs2) = .ok c1 ∧
      mapLabels st.o2n (other.inputs.filter (fun i => !otherC.contains i)) = .ok ins2 ∧
      c.inputs.any (fun i => !c1.hasGate i) = false ∧
      c1.setInputs (c.inputs.filter (fun i => ((c1.find? i).map (·.ty)) == some INPUT) ++ ins2) = .ok c2 ∧
      other.blocks.foldl (bstepFn st.o2n pre) (.ok c2) = .ok c3 ∧
      if name = "" then c' = c3 else
        ∃ bi bo, mapLabels st.o2n other.inputs = .ok bi ∧ mapLabels st.o2n other.outputs = .ok bo ∧
          c' = { c3 with blocks :=
            if c3.blocks.any (fun x => x.name == name)
            then c3.blocks.map (fun x => if x.name == name then ⟨name, bi, st.forBlock, bo⟩ else x)
            else c3.blocks ++ [⟨name, bi, st.forBlock, bo⟩] } := by
  constructor
  · intro h
    unfold connFinish at h
    simp only at h
    split at h
    · cases h
    · rename_i outs2 h1
      split at h
      · cases h
      · rename_i c1 h2
        split at h
        · cases h
        · rename_i ins2 h3
          split at h
          · cases h
          · rename_i h4
            split at h
            · cases h
            · rename_i c2 h5
              split at h
              · cases h
              · rename_i c3 h6
                refine ⟨outs2, c1, ins2, c2, c3, h1, h2, h3, by simpa using h4, h5, h6, ?_⟩
                by_cases hn : name = ""
                · simpa [hn, eq_comm] using h
                · simp only [beq_iff_eq, hn, if_false] at h ⊢
                  split at h
                  · rename_i bi bo hi ho
                    refine ⟨bi, bo, hi, ho, ?_⟩
                    split at h <;> rename_i ha <;> simp only [Except.ok.injEq] at h <;> simp [← h, ha]
                  · cases h
  · rintro ⟨outs2, c1, ins2, c2, c3, h1, h2, h3, h4, h5, h6, h7⟩
    unfold connFinish
    simp only [h1, h2, h3, h4, h5, Bool.false_eq_true, if_false]
    generalize hr : List.foldl _ (Except.ok c2) other.blocks = r
    cases hr.symm.trans h6
    by_cases hn : name = ""
    · simp [hn] at h7 ⊢; exact h7.symm
    · simp only [hn, if_false] at h7
      obtain ⟨bi, bo, hi, ho, rfl⟩ := h7
      simp only [beq_iff_eq, hn, if_false, hi, ho]
      split <;> simp

theorem connFinish_gates {c other c' : Circuit} {st : ConnSt} {thisC otherC : List Label} {name : Label}
    {pre : String} (h : connFinish c other st thisC otherC name pre = .ok c') : c'.gates = st.c.gates := by
  obtain ⟨_, c1, _, c2, c3, _, h2, _, _, h5, h6, h7⟩ := connFinish_ok_iff.mp h
  have e : c3.gates = st.c.gates := (bfold_fields h6).1.trans ((setInputs_gates h5).trans (setOutputs_gates h2))
  split at h7
  · exact h7 ▸ e
  · obtain ⟨_, _, _, _, rfl⟩ := h7
    exact e

theorem nodupL_iff : ∀ (l : List Label), nodupL l = true ↔ l.Nodup := by
  intro l
  induction l with
  | nil => simp [nodupL]
  | cons x r ih => simp [nodupL, ih, List.nodup_cons]

theorem connectCircuit_ok_iff {c other c' : Circuit} {thisC otherC : List Label} {right : Bool} {name : Label}
    {addP : Bool} :
    c.connectCircuit other thisC otherC right name addP = .ok c' ↔
      c.blocks.any (fun b => b.name == name) = false ∧
      (∀ l ∈ thisC, l ∈ c.labels) ∧ (∀ l ∈ otherC, l ∈ other.labels) ∧
      otherC.Nodup ∧ (right = true → thisC.Nodup) ∧ thisC.length = otherC.length ∧
      (if right then ∀ l ∈ thisC, (c.find? l).map (·.ty) = some INPUT
       else ∀ l ∈ otherC, (other.find? l).map (·.ty) = some INPUT) ∧
      ∃ order st, other.topSort true = .ok order ∧
        order.foldl (connStep other (connMapping thisC otherC) (connPre name addP) right)
          (.ok ⟨c, connMapping thisC otherC, []⟩) = .ok st ∧
        connFinish c other st thisC otherC name (connPre name addP) = .ok c' := by
  constructor
  · intro h
    unfold connectCircuit at h
    split at h
    · cases h
    · rename_i hblk
      split at h
      · cases h
      · rename_i u1 hc1
        split at h
        · cases h
        · rename_i u2 hc2
          split at h
          · cases h
          · rename_i hnd
            split at h
            · cases h
            · rename_i hlen
              generalize hty : (if right = true then thisC.any (fun l => ((c.find? l).map (·.ty)) != some INPUT)
                else otherC.any (fun l => ((other.find? l).map (·.ty)) != some INPUT)) = bad at h
              cases bad with
              | true => cases h
              | false =>
                simp only [Bool.false_eq_true, if_false] at h
                split at h
                · cases h
                · rename_i order hts
                  split at h
                  · cases h
                  · rename_i st hfold
                    simp only [Bool.or_eq_true, Bool.not_eq_true', Bool.and_eq_true, not_or, Bool.not_eq_false,
                      not_and, nodupL_iff] at hnd
                    refine ⟨by simpa using hblk, checkGatesExist_ok_iff.mp hc1, checkGatesExist_ok_iff.mp hc2,
                      hnd.1, hnd.2, by simpa using hlen, ?_, order, st, hts, hfold, h⟩
                    cases right <;> simpa using hty
  · rintro ⟨hblk, h1, h2, hndo, hndt, hlen, hty, order, st, hts, hfold, hfin⟩
    unfold connectCircuit
    have hnd : (!nodupL otherC || (right && !nodupL thisC)) = false := by
      cases right
      · simp [(nodupL_iff _).mpr hndo]
      · simp [(nodupL_iff _).mpr hndo, (nodupL_iff _).mpr (hndt rfl)]
    have hty' : (if right then thisC.any (fun l => ((c.find? l).map (·.ty)) != some INPUT)
        else otherC.any (fun l => ((other.find? l).map (·.ty)) != some INPUT)) = false := by
      cases right <;> simpa using hty
    simp only [hblk, checkGatesExist_ok_iff.mpr h1, checkGatesExist_ok_iff.mpr h2, hnd, hlen, hty', bne_self_eq_false,
      Bool.false_eq_true, if_false, hts]
    rw [show List.foldl _ _ order = Except.ok st from hfold]
    exact hfin

theorem connLoop_left_frame {c other : Circuit} {m : Dict Label} {pre : String} {b v : Label → Bool}
    (har : ∀ g ∈ other.gates, if g.ty = INPUT then True else arityOk g.ty g.ops.length = true)
    (order : List Label) (st0 st : ConnSt) (b0 v0 : Label → Bool) (he : Extends c st0.c b v b0 v0)
    (h : order.foldl (connStep other m pre false) (.ok st0) = .ok st) : ∃ b' v', Extends c st.c b v b' v' := by
  refine foldlR_ok (I := fun _ st => ∃ b' v', Extends c st.c b v b' v') (connStep_error other m pre false)
    (fun _ cur st0 st1 ⟨b0, v0, he⟩ hs => ?_) ⟨b0, v0, he⟩ h
  obtain ⟨g, hf, ⟨_, ops, c1, hm, ha, rfl⟩ | ⟨_, _, rfl⟩ | ⟨_, ⟨⟩, _⟩⟩ := connStep_ok_iff.mp hs
  · have harg : if (⟨pre ++ cur, g.ty, ops⟩ : Gate).ty = INPUT then True
        else arityOk (⟨pre ++ cur, g.ty, ops⟩ : Gate).ty (⟨pre ++ cur, g.ty, ops⟩ : Gate).ops.length = true := by
      simpa [mapLabels_length hm] using har g (find_some_mem hf).1
    obtain ⟨b1, v1, he1, _⟩ := addGate_frame he ha harg false
    exact ⟨b1, v1, he1⟩
  · exact ⟨b0, v0, he⟩

theorem connect_left_frame {c other c' : Circuit} {thisC otherC : List Label} {name : Label} {addP : Bool}
    (h : c.connectCircuit other thisC otherC false name addP = .ok c')
    (hcl : ∀ g ∈ c.gates, ∀ o ∈ g.ops, o ∈ c.labels)
    (har : ∀ g ∈ other.gates, if g.ty = INPUT then True else arityOk g.ty g.ops.length = true)
    {b v : Label → Bool} (hv : IsValB c b v) :
    ∃ b' v', IsValB c' b' v' ∧ (∀ l ∈ c.labels, v' l = v l) ∧ (∀ l ∈ c.labels, b' l = b l) ∧
      (∀ l ∈ c.labels, l ∈ c'.labels) := by
  obtain ⟨_, _, _, _, _, _, _, order, st, _, hfold, hfin⟩ := connectCircuit_ok_iff.mp h
  obtain ⟨b', v', he⟩ := connLoop_left_frame har order ⟨c, _, []⟩ st b v (Extends.refl hv hcl) hfold
  have hg := connFinish_gates hfin
  have hlab : c'.labels = st.c.labels := congrArg (List.map Gate.label) hg
  exact ⟨b', v', fun g hgm => he.val g (hg ▸ hgm), he.agreeV, he.agreeB, fun l hl => hlab ▸ he.sub l hl⟩

end Cirbo
