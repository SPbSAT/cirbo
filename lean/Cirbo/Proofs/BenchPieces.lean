import Cirbo.Proofs.Bench
/-! # The pieces of a bench line in any layout (C11): runs of spaces, padded operand lists, keywords in any letter case -/
namespace Cirbo

/-- a run of spaces -/
def Sp (s : Str) : Prop := ∀ ch ∈ s, ch = ' '

theorem Sp.contains {s : Str} (h : Sp s) : ∀ ch ∈ s, ([' '] : Str).contains ch = true := by
  intro ch hch; rw [h ch hch]; decide

theorem sp_nil : Sp [] := by intro ch h; cases h

theorem sp_single : Sp [' '] := by intro ch h; exact List.mem_singleton.mp h

theorem Sp.not_mem {s : Str} (h : Sp s) {c : Char} (hc : c ≠ ' ') : c ∉ s := fun hm => hc (h c hm)

theorem IsIdent.strip {s pre post : Str} (h : IsIdent s) (hpre : Sp pre) (hpost : Sp post) :
    stripSet [' '] (pre ++ s ++ post) = s :=
  stripSet_word h.1 h.no_space hpre.contains hpost.contains

theorem split_strip_left {L : Str} (hL : Sp L) (m : Str) :
    (splitOn ',' (L ++ m)).map (stripSet [' ']) = (splitOn ',' m).map (stripSet [' ']) := by
  induction L with
  | nil => rfl
  | cons s L' ih =>
    obtain rfl : s = ' ' := hL s (by simp)
    rw [← ih (fun ch hch => hL ch (by simp [hch]))]
    -- a leading space goes to the front of the first piece
    cases hs : splitOn ',' (L' ++ m) with
    | nil => exact absurd hs (splitOn_ne_nil _ _)
    | cons x xs =>
      have : splitOn ',' (' ' :: L' ++ m) = (' ' :: x) :: xs := by
        simp [splitOn, hs, show (' ' : Char) ≠ ',' by decide]
      rw [this, List.map_cons, List.map_cons, stripSet_cons contains_space_true]

theorem splitOn_snoc_space : ∀ (a : Str), ∃ init last, splitOn ',' a = init ++ [last] ∧
    splitOn ',' (a ++ [' ']) = init ++ [last ++ [' ']] := by
  intro a
  induction a with
  | nil => exact ⟨[], [], by simp [splitOn], by simp [splitOn]⟩
  | cons ch r ih =>
    obtain ⟨init, last, h1, h2⟩ := ih
    by_cases hc : ch = ','
    · subst hc
      exact ⟨[] :: init, last, by simp [splitOn, h1], by simp [splitOn, h2]⟩
    · cases init with
      | nil => exact ⟨[], ch :: last, by simp [splitOn, hc, h1], by simp [splitOn, hc, h2]⟩
      | cons x xs => exact ⟨(ch :: x) :: xs, last, by simp [splitOn, hc, h1], by simp [splitOn, hc, h2]⟩

theorem split_strip_right {R : Str} (hR : Sp R) : ∀ (m : Str),
    (splitOn ',' (m ++ R)).map (stripSet [' ']) = (splitOn ',' m).map (stripSet [' ']) := by
  induction R with
  | nil => intro m; rw [List.append_nil]
  | cons s R' ih =>
    intro m
    obtain rfl : s = ' ' := hR s (by simp)
    obtain ⟨init, last, h1, h2⟩ := splitOn_snoc_space m
    have e : m ++ ' ' :: R' = (m ++ [' ']) ++ R' := by simp
    rw [e, ih (fun ch hch => hR ch (by simp [hch])), h1, h2]
    simp only [List.map_append, List.map_cons, List.map_nil, stripSet_concat contains_space_true]

theorem split_strip_irrelevant (a : Str) :
    (splitOn ',' (stripSet [' '] a)).map (stripSet [' ']) = (splitOn ',' a).map (stripSet [' ']) := by
  -- `a` is its stripped form between two runs of spaces
  have sp : ∀ l : Str, Sp (l.takeWhile (fun ch => ([' '] : Str).contains ch)) := by
    intro l ch hch
    simpa using List.all_eq_true.mp List.all_takeWhile ch hch
  generalize hb : a.dropWhile (fun ch => ([' '] : Str).contains ch) = b
  have e1 : a = a.takeWhile (fun ch => ([' '] : Str).contains ch) ++ b := by
    rw [← hb, List.takeWhile_append_dropWhile]
  have e2 : b = stripSet [' '] a ++ (b.reverse.takeWhile (fun ch => ([' '] : Str).contains ch)).reverse := by
    unfold stripSet
    rw [hb, ← List.reverse_append, List.takeWhile_append_dropWhile, List.reverse_reverse]
  conv => rhs; rw [e1, e2]
  rw [split_strip_left (sp a), split_strip_right (fun ch hch => sp _ ch (List.mem_reverse.mp hch))]

def padOp (o : Label) (p : Str × Str) : Str := p.1 ++ o.toList ++ p.2

/-- the text between the parentheses: comma-separated operands, any spaces around each (only spaces if there is none) -/
def ArgsLayout (ops : List Label) (A : Str) : Prop :=
  (ops = [] ∧ Sp A) ∨
  (ops ≠ [] ∧ ∃ pads : List (Str × Str), pads.length = ops.length ∧ (∀ p ∈ pads, Sp p.1 ∧ Sp p.2) ∧
    A = joinWith [','] (List.zipWith padOp ops pads))

theorem mem_zipWith_padOp {ops : List Label} {pads : List (Str × Str)} {x : Str}
    (h : x ∈ List.zipWith padOp ops pads) : ∃ o ∈ ops, ∃ p ∈ pads, x = padOp o p := by
  induction ops generalizing pads with
  | nil => simp at h
  | cons o r ih =>
    cases pads with
    | nil => simp at h
    | cons p ps =>
      simp only [List.zipWith_cons_cons, List.mem_cons] at h
      rcases h with rfl | h
      · exact ⟨o, by simp, p, by simp, rfl⟩
      · obtain ⟨o', ho', p', hp', e⟩ := ih h
        exact ⟨o', by simp [ho'], p', by simp [hp'], e⟩

theorem argsLayout_not_mem {ops : List Label} {A : Str} (h : ArgsLayout ops A)
    (hops : ∀ o ∈ ops, IsIdent o.toList) {c : Char} (hc : identChar c = false) (hs : c ≠ ' ') (hk : c ≠ ',') :
    c ∉ A := by
  intro hch
  rcases h with ⟨_, hsp⟩ | ⟨_, pads, _, hp, rfl⟩
  · exact hsp.not_mem hs hch
  · rcases joinWith_chars _ _ c hch with ⟨x, hx, hcx⟩ | hcx
    · obtain ⟨o, ho, p, hpm, rfl⟩ := mem_zipWith_padOp hx
      simp only [padOp, List.mem_append] at hcx
      rcases hcx with (hcx | hcx) | hcx
      · exact (hp p hpm).1.not_mem hs hcx
      · exact (hops o ho).not_mem hc hcx
      · exact (hp p hpm).2.not_mem hs hcx
    · exact hk (List.mem_singleton.mp hcx)

theorem zipWith_padOp_strip : ∀ (ops : List Label) (pads : List (Str × Str)), pads.length = ops.length →
    (∀ o ∈ ops, IsIdent o.toList) → (∀ p ∈ pads, Sp p.1 ∧ Sp p.2) →
    (List.zipWith padOp ops pads).map (fun a => String.ofList (stripSet [' '] a)) = ops := by
  intro ops
  induction ops with
  | nil => intro pads _ _ _; simp
  | cons o r ih =>
    intro pads hl hops hp
    cases pads with
    | nil => simp at hl
    | cons p ps =>
      rw [List.zipWith_cons_cons, List.map_cons, padOp, (hops o (by simp)).strip (hp p (by simp)).1 (hp p (by simp)).2,
        String.ofList_toList,
        ih ps (by simpa using hl) (fun x hx => hops x (by simp [hx])) (fun q hq => hp q (by simp [hq]))]

theorem argsLayout_parse {ops : List Label} {A : Str} (h : ArgsLayout ops A)
    (hops : ∀ o ∈ ops, IsIdent o.toList) :
    (splitOn ',' (stripSet [' '] A)).map (fun a => String.ofList (stripSet [' '] a)) =
      if ops = [] then [""] else ops := by
  rcases h with ⟨h0, hsp⟩ | ⟨hne, pads, hl, hp, rfl⟩
  · rw [if_pos h0, stripSet_all hsp.contains]
    rfl
  · rw [if_neg hne, show (fun a => String.ofList (stripSet [' '] a)) = String.ofList ∘ stripSet [' '] from rfl,
      ← List.map_map, split_strip_irrelevant]
    have hzne : List.zipWith padOp ops pads ≠ [] := by
      cases ops with
      | nil => exact absurd rfl hne
      | cons o r =>
        cases pads with
        | nil => simp at hl
        | cons p ps => simp
    rw [splitOn_join _ hzne (by
      intro x hx
      obtain ⟨o, ho, p, hpm, rfl⟩ := mem_zipWith_padOp hx
      simp only [padOp, List.mem_append, not_or]
      exact ⟨⟨(hp p hpm).1.not_mem (by decide), (hops o ho).not_mem (by decide)⟩, (hp p hpm).2.not_mem (by decide)⟩),
      List.map_map]
    exact zipWith_padOp_strip ops pads hl hops hp

theorem argsLayout_printed (ops : List Label) : ArgsLayout ops (joinWith sepCS (ops.map String.toList)) := by
  cases ops with
  | nil => exact Or.inl ⟨rfl, sp_nil⟩
  | cons o r =>
    refine Or.inr ⟨by simp, ([], []) :: r.map (fun _ => ([' '], [])), by simp, ?_, ?_⟩
    · intro p hp
      simp only [List.mem_cons, List.mem_map] at hp
      rcases hp with rfl | ⟨_, _, rfl⟩
      · exact ⟨sp_nil, sp_nil⟩
      · exact ⟨sp_single, sp_nil⟩
    · rw [List.map_cons, joinWith_sepCS]
      simp [padOp, List.zipWith_map_right, List.zipWith_self, Function.comp_def]

theorem gateType_name_chars (ty : GateType) : ty.name.toList ≠ [] ∧
    ∀ ch ∈ ty.name.toList, ch ≠ '(' ∧ ch ≠ ')' ∧ ch ≠ ' ' ∧ ch ≠ 'V' ∧ ch ≠ '\n' := by
  cases ty <;> decide

theorem toUpper_fix {ch : Char} (h : ch = '(' ∨ ch = ')' ∨ ch = ' ' ∨ ch = '\n') : ch.toUpper = ch := by
  rcases h with rfl | rfl | rfl | rfl <;> decide

/-- the last clause: a keyword is never taken for `vdd`, which the parser tests first -/
theorem keyword_accept {kw : Str} {ty : GateType} (h : gateTypeOfKeyword (upperS kw) = some ty) :
    kw ≠ [] ∧ (∀ ch ∈ kw, ch ≠ '(' ∧ ch ≠ ')' ∧ ch ≠ ' ' ∧ ch ≠ '\n') ∧
    (∀ c0 r, upperS kw = c0 :: r → c0 ≠ 'V') := by
  -- the upper-cased keyword is `BUFF` or a gate type's name
  obtain ⟨N, hN1, hN2, hN3⟩ : ∃ N : Str, upperS kw = N ∧ N ≠ [] ∧
      ∀ ch ∈ N, ch ≠ '(' ∧ ch ≠ ')' ∧ ch ≠ ' ' ∧ ch ≠ 'V' ∧ ch ≠ '\n' := by
    unfold gateTypeOfKeyword at h
    simp only at h
    split at h
    · rename_i hb
      exact ⟨"BUFF".toList, by simpa using congrArg String.toList (beq_iff_eq.mp hb), by decide, by decide⟩
    · split at h
      · cases h
      · unfold GateType.ofName? at h
        have hf := List.find?_some h
        have hn : ty.name = String.ofList (upperS kw) := beq_iff_eq.mp hf
        exact ⟨ty.name.toList, by rw [hn]; simp, gateType_name_chars ty⟩
  refine ⟨?_, ?_, ?_⟩
  · rintro rfl; exact hN2 hN1.symm
  · intro ch hch
    -- none of these four characters is changed by upper-casing, and none occurs in `N`
    have fix : ∀ c, (c = '(' ∨ c = ')' ∨ c = ' ' ∨ c = '\n') → c ∉ N → ch ≠ c :=
      fun c hc hn e => not_mem_of_upperS (toUpper_fix hc) hN1 hn (e ▸ hch)
    exact ⟨fix _ (Or.inl rfl) (fun hm => (hN3 _ hm).1 rfl), fix _ (Or.inr (Or.inl rfl)) (fun hm => (hN3 _ hm).2.1 rfl),
      fix _ (Or.inr (Or.inr (Or.inl rfl))) (fun hm => (hN3 _ hm).2.2.1 rfl),
      fix _ (Or.inr (Or.inr (Or.inr rfl))) (fun hm => (hN3 _ hm).2.2.2.2 rfl)⟩
  · intro c0 r e
    rw [hN1] at e
    exact (hN3 c0 (by rw [e]; simp)).2.2.2.1

end Cirbo
