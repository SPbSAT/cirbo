import Cirbo.Proofs.GenContract
import Cirbo.Proofs.GenArith
/-!
# Totality of the generators of `subtraction.py`, `equality.py`, `generation.py` (first part of `Model/Gen2.lean`)

The generators of `generation.py` add gates under labels that were given by the caller or drawn ahead (also with
`result_labels = None`: carry and auxiliary labels), and they mark outputs: their preconditions speak of the state, and
they stay in the language of `Ok`.  The labels still to be added must be free (`LabelsFree`), and where labels are drawn
with only part of them as restriction (`add_pairwise_if_then_else`) they must not be labels drawn later (`ca_NF`).
Nothing calls these generators while it holds drawn labels of its own, so their contracts say nothing of pending labels.
-/
namespace Cirbo
open GateType

theorem yields_addSub2 (x1 x2 : Label) (be : Bool) : Yields [x1, x2] (addSub2 [x1, x2] be) id (fun a => a.length = 2) := by
  cases be
  · exact .slBlock [(0, 1, t0110), (0, 1, t0100)] [2, 3] [x1, x2] rfl
  · exact (Yields.slBlock [(0, 1, t0110), (0, 1, t0100)] [2, 3] [x2, x1] rfl).sub (by lmem)

theorem yields_addSub3 (x0 x1 x2 : Label) (be : Bool) :
    Yields [x0, x1, x2] (addSub3 [x0, x1, x2] be) id (fun a => a.length = 2) := by
  cases be
  · exact .slBlock [(0, 1, t0110), (1, 2, t0110), (3, 4, t0111), (2, 3, t0110), (0, 5, t0110)] [6, 7] [x0, x1, x2] rfl
  · exact (Yields.slBlock [(0, 1, t0110), (1, 2, t0110), (3, 4, t0111), (2, 3, t0110), (0, 5, t0110)] [6, 7] [x2, x1, x0]
      rfl).sub (by lmem)

theorem yields_subChain : ∀ (xs ys res : List Label) (bal : Label),
    YieldsL (xs ++ ys ++ res ++ [bal]) (subChain xs ys res bal) (fun r => r.1 ++ [r.2])
  | [], _, _, _ => .ret (by lmem) trivial
  | x :: xs, ys, res, bal => by
    unfold subChain
    have hblk : Yields (x :: xs ++ ys ++ res ++ [bal]) (match ys with
        | y :: _ => addSub3 [x, y, bal] false
        | [] => addSub2 [x, bal] false) id (fun a => a.length = 2) ∧ ∀ l ∈ ys.tail, l ∈ ys := by
      cases ys with
      | nil => exact ⟨(yields_addSub2 x bal false).sub (by lmem), by lmem [List.tail_nil]⟩
      | cons y _ => exact ⟨(yields_addSub3 x y bal false).sub (by lmem), by lmem [List.tail_cons]⟩
    refine hblk.1.bind (fun _ => id) fun r hr => .pair2_bind hr ?_
    rintro d b' rfl
    exact (yields_subChain xs ys.tail (res ++ [d]) b').sub (by lmem [hblk.2])

/-- both operands non-empty: the code reads `input_labels_a[0]`, `input_labels_b[0]` -/
theorem yields_subCore : ∀ {a b : List Label}, 1 ≤ a.length → 1 ≤ b.length → YieldsL (a ++ b) (subCore a b) (fun r => r.1 ++ [r.2])
  | x :: xs, y :: ys, _, _ => by
    unfold subCore
    refine (yields_addSub2 x y false).bind (by lmem) fun r hr => .pair2_bind hr ?_
    rintro d bal rfl
    exact (yields_subChain xs ys [d] bal).sub (by lmem)

theorem yields_addSubTwoNumbers {a b : List Label} (be : Bool) (hane : 1 ≤ a.length) (hbne : 1 ≤ b.length) :
    Yields (a ++ b) (addSubTwoNumbers a b be) id (fun r => r.length = a.length) := by
  have h : YieldsL (a ++ b) (addSubTwoNumbers a b be) id := by
    unfold addSubTwoNumbers
    refine (yields_subCore ((revIf_length a be).symm ▸ hane) ((revIf_length b be).symm ▸ hbne)).bind (by lmem [mem_revIf]) ?_
    rintro ⟨res, bal⟩ _
    exact .ret (by lmem [mem_revIf]) trivial
  exact h.shapeR fun r _ hr => let ⟨_, s⟩ := hr.sem; (sem_addSubTwoNumbers s).1

theorem yields_addSubtractWithCompare : ∀ {a b : List Label} (be : Bool), 1 ≤ a.length → 1 ≤ b.length →
    Yields (a ++ b) (addSubtractWithCompare a b be) (fun r => r.1 ++ [r.2]) (fun r => r.1.length = max a.length b.length)
  | x :: xs, y :: ys, be, hane, hbne => by
    have h : YieldsL (x :: xs ++ y :: ys) (addSubtractWithCompare (x :: xs) (y :: ys) be) (fun r => r.1 ++ [r.2]) := by
      unfold addSubtractWithCompare
      refine Yields.emitTT_bind (by decide) (by lmem) (by lmem) fun af => ?_
      refine (yields_subCore (by rw [List.length_append, revIf_length]; omega)
        (by rw [List.length_append, revIf_length]; omega)).bind
        (by lmem [mem_revIf, List.mem_replicate, and_imp]) ?_
      rintro ⟨res, bal⟩ _
      exact .ret (by lmem [mem_revIf]) trivial
    exact h.shapeR fun r _ hr => let ⟨_, s⟩ := hr.sem; (sem_addSubtractWithCompare s).1

/-- the labels of `L` can be added one after the other -/
def LabelsFree (st : GSt) (L : List Label) : Prop := L.Nodup ∧ ∀ l ∈ L, l ∉ st.c.labels

theorem LabelsFree.perm {st : GSt} {L L' : List Label} (h : LabelsFree st L) (p : L.Perm L') : LabelsFree st L' :=
  ⟨p.nodup_iff.mp h.1, fun l hl => h.2 l (p.mem_iff.mpr hl)⟩

theorem LabelsFree.sublist {st : GSt} {L L' : List Label} (h : LabelsFree st L) (p : L'.Sublist L) : LabelsFree st L' :=
  ⟨h.1.sublist p, fun l hl => h.2 l (p.subset hl)⟩

theorem Inv.free {st : GSt} {new P : List Label} (h : Inv st (new.reverse ++ P)) : LabelsFree st new :=
  ⟨List.nodup_reverse_iff.mp (List.nodup_append.mp h.nd).1,
    fun l hl => (h.pend l (List.mem_append_left _ (List.mem_reverse.mpr hl))).1⟩

theorem Ok.addFree {α} {lb : Label} {L : List Label} {ty : GateType} {ops : List Label} {ok : tyOk ty ops.length = true}
    {k : Prog α} {st : GSt} {K : List Label} {Q : α → GSt → Prop} (hk : Kn st K)
    (hF : LabelsFree st (lb :: L)) (ho : ∀ o ∈ ops, o ∈ K)
    (h : ∀ st', (∀ x, x ∉ st.c.labels → x ≠ lb → x ∉ st'.c.labels) → st'.ctr = st.ctr →
      Kn st' (K ++ [lb]) → LabelsFree st' L → Ok k st' Q) : Ok (Prog.add ⟨lb, ty, ops⟩ ok k) st Q :=
  Ok.addK hk (hF.2 lb List.mem_cons_self) ho fun st' f c k => h st' f c k
    ⟨(List.nodup_cons.mp hF.1).2, fun l hl => f l (hF.2 l (List.mem_cons_of_mem _ hl)) fun e =>
      (List.nodup_cons.mp hF.1).1 (e ▸ hl)⟩

theorem eqBits_pos (num width : Nat) : 1 ≤ (eqBits num width).length := by
  have : 1 ≤ (binDigitsLE (num + 1) num).length := by
    unfold binDigitsLE; split <;> simp
  unfold eqBits
  simp only [List.length_append]
  omega

theorem yields_eqLiterals : ∀ (bits : List Bool) (ins acc : List Label), YieldsL (ins ++ acc) (eqLiterals bits ins acc) id
  | true :: bits, inp :: ins, acc => by
    unfold eqLiterals
    rw [if_pos rfl]
    exact (yields_eqLiterals bits ins (acc ++ [inp])).sub (by lmem)
  | false :: bits, inp :: ins, acc => by
    unfold eqLiterals
    rw [if_neg Bool.false_ne_true]
    exact Yields.emit_bind (by lmem) fun l => (yields_eqLiterals bits ins (acc ++ [l])).sub (by lmem)
  | [], _, _ | _ :: _, [], _ => .ret (by lmem) trivial

theorem yields_andChain : ∀ (rest : List Label) (last : Label), YieldsL (rest ++ [last]) (andChain rest last) (fun l => [l])
  | [], _ => .ret (by lmem) trivial
  | o :: r, last => by
    unfold andChain
    exact Yields.emit_bind (by lmem) fun l => (yields_andChain r l).sub (by lmem)

/-- any width, also none: the bit string of the constant is never empty -/
theorem yields_addEqual (ins : List Label) (num : Nat) : YieldsL ins (addEqual ins num) (fun l => [l]) := by
  unfold addEqual
  simp only []
  split
  · exact .emit (by lmem)
  · rename_i hgt
    have hpos := eqBits_pos num ins.length
    have hlen : (eqBits num ins.length).length = ins.length := by
      simp only [eqBits, List.length_append, List.length_replicate] at hgt ⊢; omega
    refine (yields_eqLiterals _ ins []).bindR (by lmem) fun lits _ hr => ?_
    have hl1 : 1 ≤ lits.length := by
      obtain ⟨_, s⟩ := hr.sem
      obtain ⟨ls, e, hl, -⟩ := sem_eqLiterals _ _ _ _ s hlen
      rw [e, List.nil_append]; omega
    match lits, hl1 with
    | [g], _ => exact .fresh_unused fun _ => .ret (by lmem) trivial
    | g0 :: g1 :: rest, _ =>
      -- the label drawn before the length test names the first AND gate
      show Yields _ (emit AND [g0, g1] rfl >>= andChain rest) _ _
      exact Yields.emit_bind (by lmem) fun last => (yields_andChain rest last).sub (by lmem)

theorem yields_addEqualZ (ins : List Label) : ∀ num : Int, YieldsL ins (addEqualZ ins num) (fun l => [l])
  | .ofNat n => yields_addEqual ins n
  | .negSucc _ => .emit (by lmem)

/-- the labels `_get_new_labels` draws: each with the restrictions and the labels drawn before it as restrictions, so they are
pairwise different -/
theorem ok_freshLabels : ∀ (n : Nat) (restr acc : List Label) (st : GSt) (P K : List Label), Inv st P → Kn st K →
    Ok (freshLabels n restr acc) st (fun r st' => st'.c = st.c ∧ st.ctr ≤ st'.ctr ∧ Kn st' K ∧
      ∃ new, r = acc ++ new ∧ new.length = n ∧ Inv st' (new.reverse ++ P) ∧ (∀ l ∈ new, l ∉ restr) ∧
        ∀ x, ca_NF st x → x ∉ new) := by
  intro n
  induction n with
  | zero =>
    intro restr acc st P K hinv hk
    exact Ok.ret ⟨rfl, Nat.le_refl _, hk, [], by simp, rfl, by simpa using hinv, by simp, by simp⟩
  | succ n ih =>
    intro restr acc st P K hinv hk
    apply Ok.freshK hinv hk
    intro l s1 hc hctr i1 k1 hr hnf
    refine (ih restr (acc ++ [l]) s1 (l :: P) K i1 k1).mono ?_
    intro r s2 ⟨hc2, hctr2, k2, new, e, hlen, i2, hnr, hnf2⟩
    refine ⟨hc2.trans hc, by omega, k2, l :: new, by simp [e], by simp [hlen], by simpa using i2, ?_, ?_⟩
    · intro x hx
      rcases List.mem_cons.mp hx with rfl | hx
      · exact fun h => hr (List.mem_append_left _ h)
      · exact hnr x hx
    · intro x hx hm
      rcases List.mem_cons.mp hm with rfl | hm
      · exact hnf x hx rfl
      · exact hnf2 x (ca_NF_mono hctr hx) hm

/-- `for i in range(n): result_labels.append(_get_new_label(circuit))` -/
theorem ok_freshPlain : ∀ (n : Nat) (acc : List Label) (st : GSt) (P K : List Label), Inv st P → Kn st K →
    Ok (freshPlain n acc) st (fun r st' => Kn st' K ∧
      ∃ new, r = acc ++ new ∧ new.length = n ∧ Inv st' (new.reverse ++ P)) := by
  intro n
  induction n with
  | zero =>
    intro acc st P K hinv hk
    exact Ok.ret ⟨hk, [], by simp, rfl, by simpa using hinv⟩
  | succ n ih =>
    intro acc st P K hinv hk
    apply Ok.freshK hinv hk
    intro l s1 _ _ i1 k1 _ _
    refine (ih (acc ++ [l]) s1 (l :: P) K i1 k1).mono ?_
    intro r s2 ⟨k2, new, e, hlen, i2⟩
    exact ⟨k2, l :: new, by simp [e], by simp [hlen], by simpa using i2⟩

theorem ok_markAll : ∀ (ls : List Label) (st : GSt) (K : List Label), Kn st K → (∀ l ∈ ls, l ∈ K) →
    Ok (markAll ls) st (fun _ st' => Kn st' K)
  | [], _, _, hk, _ => Ok.ret hk
  | l :: r, _, K, hk, hl => Ok.markK hk (hl l List.mem_cons_self) fun s1 _ _ k1 =>
    ok_markAll r s1 K k1 fun x hx => hl x (List.mem_cons_of_mem _ hx)

theorem nodup_revIf {l : List Label} {b : Bool} (h : l.Nodup) : (revIf l b).Nodup := by
  unfold revIf; split
  · exact List.nodup_reverse_iff.mpr h
  · exact h

/-- result labels given by the caller or drawn here: drawn labels are free and never drawn again, so the rest of the program
may be given them like labels of the caller -/
theorem ok_optLabels_bind {rest : List Label → Prog (List Label)} {rl : Option (List Label)} {n : Nat} {st : GSt}
    {K : List Label} (hk : Kn st K)
    (hrest : ∀ (given : List Label) (s1 : GSt), Kn s1 K → (rl = some given ∧ s1 = st ∨
        rl = none ∧ given.length = n ∧ given.Nodup ∧ ∀ l ∈ given, l ∉ s1.c.labels ∧ ca_NF s1 l) →
      Ok (rest given) s1 (fun r st' => Kn st' (K ++ r) ∧ r = given)) :
    Ok ((match rl with
      | some l => pure l
      | none => freshPlain n []) >>= rest) st
      (fun r st' => Kn st' (K ++ r) ∧ (∀ g, rl = some g → r = g) ∧ (rl = none → r.length = n)) := by
  cases rl with
  | some g => exact (hrest g st hk (Or.inl ⟨rfl, rfl⟩)).mono fun r _ ⟨k, e⟩ =>
      ⟨k, fun _ h => Option.some.inj h ▸ e, fun h => nomatch h⟩
  | none =>
    apply Ok.bind (ok_freshPlain n [] st [] K (Inv.nil st) hk)
    intro given s1 ⟨k1, new, e, hlen, i1⟩
    rw [List.nil_append] at e
    subst e
    refine (hrest given s1 k1 (Or.inr ⟨rfl, hlen, i1.free.1, fun l hl =>
      ⟨i1.free.2 l hl, ca_NF_pend i1 (by simpa using hl)⟩⟩)).mono fun r s2 ⟨k2, e⟩ =>
        ⟨k2, fun _ h => (nomatch h), fun _ => e ▸ hlen⟩

theorem plusOneLoop_nil (xs cs : List Label) (cprev : Label) (ended : Bool) :
    plusOneLoop xs [] cs cprev ended = pure () := by
  unfold plusOneLoop; rfl

/-- there is a carry label for every position that needs one, and the carry of the previous position is a gate as long
as operand bits are left -/
theorem ok_plusOneLoop : ∀ (zs xs cs : List Label) (cprev : Label) (ended : Bool) (st : GSt) (K : List Label),
    Kn st K → (∀ l ∈ xs, l ∈ K) → (ended = false → cprev ∈ K) → (ended = true → xs = []) →
    LabelsFree st (zs ++ cs) → min xs.length zs.length ≤ cs.length →
    Ok (plusOneLoop xs zs cs cprev ended) st (fun _ st' => Kn st' (K ++ zs)) := by
  intro zs
  induction zs with
  | nil =>
    intro xs cs cprev ended st K hk _ _ _ _ _
    rw [plusOneLoop_nil]
    exact Ok.ret (hk.mono (by lmem))
  | cons z zs ih =>
    intro xs cs cprev ended st K hk hx hc he hF hlen
    cases xs with
    | cons x xs =>
      have hef : ended = false := by
        cases ended with
        | false => rfl
        | true => exact nomatch he rfl
      have hcp : cprev ∈ K := hc hef
      cases cs with
      | nil => simp at hlen
      | cons ci cr =>
        unfold plusOneLoop
        simp only []
        cases zs with
        | nil =>
          simp only [List.isEmpty_nil, if_true]
          apply Ok.addFree hk hF (by lmem); intro s1 _ _ k1 _
          rw [plusOneLoop_nil]
          exact Ok.ret k1
        | cons z' zs' =>
          simp only [List.isEmpty_cons, Bool.false_eq_true, if_false]
          -- the carry label of this position is added before its result label
          apply Ok.addFree hk (hF.perm (List.perm_middle (l₁ := z :: z' :: zs'))) (by lmem); intro s1 _ _ k1 F1
          apply Ok.addFree k1 F1 (by lmem); intro s2 _ _ k2 F2
          exact (ih xs cr ci ended s2 _ k2 (by lmem) (by intro _; lmem) (fun h => nomatch he h) F2
            (by simp only [List.length_cons] at hlen ⊢; omega)).mono fun _ _ k3 => k3.mono (by lmem)
    | nil =>
      -- the operand is used up: the rest of the loop runs with `ended = true` and does not read the carries
      have hrec : ∀ (c' : Label) (s1 : GSt), Kn s1 (K ++ [z]) → LabelsFree s1 (zs ++ cs) →
          Ok (plusOneLoop [] zs cs.tail c' true) s1 (fun _ st' => Kn st' (K ++ z :: zs)) := fun c' s1 k1 F1 =>
        (ih [] cs.tail c' true s1 _ k1 (by lmem) (fun h => nomatch h) (fun _ => rfl)
          (F1.sublist ((List.Sublist.refl _).append (List.tail_sublist cs))) (by simp)).mono fun _ _ k3 => k3.mono (by lmem)
      cases ended with
      | false =>
        unfold plusOneLoop
        exact Ok.addFree hk hF (by have := hc rfl; lmem) fun s1 _ _ => hrec _ s1
      | true =>
        unfold plusOneLoop
        exact Ok.addFree hk hF (by lmem) fun s1 _ _ => hrec _ s1

/-- `add_plus_one` once the result labels are there -/
def plusOneRest (ins : List Label) (addOutputs bigEndian : Bool) (given : List Label) : Prog (List Label) := do
  let ins0 := revIf ins bigEndian
  let res0 := revIf given bigEndian
  let outLen := res0.length
  let carries ← freshLabels outLen res0 []
  match carries, ins0, res0 with
  | c0 :: cr, x0 :: xs, z0 :: zs =>
    .add ⟨c0, IFF, [x0]⟩ rfl (.add ⟨z0, NOT, [x0]⟩ rfl (do
      plusOneLoop xs zs cr c0 false
      if addOutputs then markAll given
      pure given))
  | _, _, _ => .fail "Py:IndexError"

theorem addPlusOne_eq (ins : List Label) (rl : Option (List Label)) (ao be : Bool) :
    addPlusOne ins rl ao be = (match rl with
      | some l => pure l
      | none => freshPlain (ins.length + 1) []) >>= plusOneRest ins ao be := rfl

/-- one result label or more, of any number (the result is truncated or zero-extended), and any strings: the carry labels
are drawn with them as restrictions -/
theorem ok_plusOneRest {ins given : List Label} {ao be : Bool} {st : GSt} {K : List Label}
    (hk : Kn st K) (hi : ∀ l ∈ ins, l ∈ K) (hine : ins ≠ []) (hgne : given ≠ []) (hg : LabelsFree st given) :
    Ok (plusOneRest ins ao be given) st (fun r st' => Kn st' (K ++ r) ∧ r = given) := by
  unfold plusOneRest
  simp only []
  have hi0 : ∀ l ∈ revIf ins be, l ∈ K := by lmem [mem_revIf]
  have hmemz : ∀ l, l ∈ revIf given be ↔ l ∈ given := fun l => mem_revIf
  have hndz := nodup_revIf (b := be) hg.1
  obtain ⟨x0, xs, hins0⟩ := List.exists_cons_of_ne_nil (revIf_ne_nil (b := be) hine)
  obtain ⟨z0, zs, hres0⟩ := List.exists_cons_of_ne_nil (revIf_ne_nil (b := be) hgne)
  rw [hins0] at hi0 ⊢
  rw [hres0] at hmemz hndz ⊢
  apply Ok.bind (ok_freshLabels (z0 :: zs).length (z0 :: zs) [] st [] K (Inv.nil st) hk)
  intro carries s1 ⟨hc1, _, k1, new, e, hlen, i1, hnr, _⟩
  rw [List.nil_append] at e
  subst e
  match carries, hlen with
  | c0 :: cr, hlen =>
    simp only []
    -- result labels and carry labels together; the first carry label is added first
    have hF : LabelsFree s1 (c0 :: (z0 :: zs ++ cr)) := LabelsFree.perm
      ⟨List.nodup_append.mpr ⟨hndz, i1.free.1, fun a ha b hb e => hnr b hb (e ▸ ha)⟩,
        fun l hl => (List.mem_append.mp hl).elim (fun h => hc1 ▸ hg.2 l ((hmemz l).mp h)) (i1.free.2 l)⟩ List.perm_middle
    apply Ok.addFree k1 hF (by lmem); intro s2 _ _ k2 F2
    apply Ok.addFree k2 F2 (by lmem); intro s3 _ _ k3 F3
    apply Ok.bind (ok_plusOneLoop zs xs cr c0 false s3 _ k3 (by lmem) (by intro _; lmem) (fun h => nomatch h) F3
      (by simp only [List.length_cons] at hlen; omega))
    intro _ s4 k4
    have hgK : ∀ l ∈ given, l ∈ K ++ [c0] ++ [z0] ++ zs := fun l hl => by
      rcases List.mem_cons.mp ((hmemz l).mpr hl) with rfl | h <;> lmem
    have hfin : ∀ s5 : GSt, Kn s5 (K ++ [c0] ++ [z0] ++ zs) →
        Ok (pure given : Prog (List Label)) s5 (fun r st' => Kn st' (K ++ r) ∧ r = given) :=
      fun s5 k5 => Ok.ret ⟨(k5.mono (by lmem)).append (k5.mono hgK), rfl⟩
    cases ao
    · exact hfin s4 k4
    · exact Ok.bind (ok_markAll given s4 _ k4 hgK) fun _ s5 h => hfin s5 h

theorem ok_addPlusOne {ins : List Label} {rl : Option (List Label)} {ao be : Bool} {st : GSt} {K : List Label}
    (hk : Kn st K) (hi : ∀ l ∈ ins, l ∈ K) (hine : ins ≠ [])
    (hrl : ∀ g, rl = some g → g ≠ [] ∧ g.Nodup ∧ ∀ l ∈ g, l ∉ st.c.labels) :
    Ok (addPlusOne ins rl ao be) st (fun r st' => Kn st' (K ++ r) ∧
      (∀ g, rl = some g → r = g) ∧ (rl = none → r.length = ins.length + 1)) := by
  rw [addPlusOne_eq]
  refine ok_optLabels_bind hk fun given s1 k1 h => ?_
  rcases h with ⟨e, rfl⟩ | ⟨_, hlen, hnd, hng⟩
  · exact ok_plusOneRest k1 hi hine (hrl _ e).1 (hrl _ e).2
  · exact ok_plusOneRest k1 hi hine (fun e => by rw [e] at hlen; cases hlen) ⟨hnd, fun l hl => (hng l hl).1⟩

/-- `add_if_then_else` once the result label is there -/
def iteRest (i t e : Label) (addOutputs : Bool) (res : Label) : Prog Label := do
  let tmp ← freshLabels 3 [res] []
  match tmp with
  | [t0, t1, t2] =>
    .add ⟨t0, AND, [i, t]⟩ rfl (.add ⟨t1, NOT, [i]⟩ rfl (.add ⟨t2, AND, [t1, e]⟩ rfl
      (.add ⟨res, OR, [t0, t2]⟩ rfl (if addOutputs then .mark res (pure res) else pure res))))
  | _ => .fail "Py:IndexError"

theorem addIfThenElse_eq (i t e : Label) (rl : Option Label) (ao : Bool) :
    addIfThenElse i t e rl ao = (match rl with
      | some l => pure l
      | none => .fresh [] (fun l => pure l)) >>= iteRest i t e ao := rfl

/-- the result label may be any string that is no gate: the three auxiliary labels are drawn with it as a restriction -/
theorem ok_iteRest {i t e res : Label} {ao : Bool} {st : GSt} {K : List Label} (hk : Kn st K)
    (hi : i ∈ K) (ht : t ∈ K) (he : e ∈ K) (hres : res ∉ st.c.labels) :
    Ok (iteRest i t e ao res) st (fun a st' => a = res ∧ Kn st' (K ++ [res]) ∧
      st.ctr ≤ st'.ctr ∧ ∀ r, r ∉ st.c.labels → ca_NF st r → r ≠ res → r ∉ st'.c.labels) := by
  unfold iteRest
  apply Ok.bind (ok_freshLabels 3 [res] [] st [] K (Inv.nil st) hk)
  intro tmp s1 ⟨hc1, hctr1, k1, new, e1, hlen, i1, hnr, hnf⟩
  rw [List.nil_append] at e1
  subst e1
  match tmp, hlen with
  | [t0, t1, t2], _ =>
    simp only []
    have hF : LabelsFree s1 [t0, t1, t2, res] := LabelsFree.perm (L := res :: [t0, t1, t2])
      ⟨List.nodup_cons.mpr ⟨fun h => hnr res h (List.mem_singleton.mpr rfl), i1.free.1⟩,
        fun l hl => (List.mem_cons.mp hl).elim (fun e => e ▸ hc1 ▸ hres) (i1.free.2 l)⟩
      (List.perm_append_singleton res [t0, t1, t2]).symm
    apply Ok.addFree k1 hF (by lmem); intro s2 f2 c2 k2 F2
    apply Ok.addFree k2 F2 (by lmem); intro s3 f3 c3 k3 F3
    apply Ok.addFree k3 F3 (by lmem); intro s4 f4 c4 k4 F4
    apply Ok.addFree k4 F4 (by lmem); intro s5 f5 c5 k5 _
    apply Ok.markIf k5 (by lmem); intro s6 hl6 hc6 k6
    refine Ok.ret ⟨rfl, k6.mono (by lmem), by omega, fun r hr hnfr hrr => ?_⟩
    have hrn := hnf r hnfr
    simp only [List.mem_cons, List.not_mem_nil, or_false, not_or] at hrn
    exact hl6 ▸ f5 r (f4 r (f3 r (f2 r (hc1 ▸ hr) hrn.1) hrn.2.1) hrn.2.2) hrr

theorem ok_addIfThenElse {i t e : Label} {rl : Option Label} {ao : Bool} {st : GSt} {K : List Label}
    (hk : Kn st K) (hi : i ∈ K) (ht : t ∈ K) (he : e ∈ K) (hres : ∀ res, rl = some res → res ∉ st.c.labels) :
    Ok (addIfThenElse i t e rl ao) st (fun a st' => Kn st' (K ++ [a]) ∧ ∀ res, rl = some res → a = res) := by
  rw [addIfThenElse_eq]
  cases rl with
  | some res =>
    exact (ok_iteRest hk hi ht he (hres res rfl)).mono fun a s ⟨e, k1, _, _⟩ => ⟨e ▸ k1, fun _ h => Option.some.inj h ▸ e⟩
  | none =>
    apply Ok.bind (Q := fun l s => l ∉ s.c.labels ∧ Kn s K)
      (Ok.freshK (Inv.nil st) hk fun l s _ _ i1 k1 _ _ => Ok.ret ⟨(i1.pend l List.mem_cons_self).1, k1⟩)
    intro res s1 ⟨hr, k1⟩
    exact (ok_iteRest (ao := ao) k1 hi ht he hr).mono fun a s2 ⟨e, k2, _, _⟩ => ⟨e ▸ k2, fun _ h => nomatch h⟩

theorem iteLoop_stop (ao : Bool) (is ts es rs : List Label) (h : is = [] ∨ ts = [] ∨ es = [] ∨ rs = []) :
    iteLoop ao is ts es rs = pure () := by
  unfold iteLoop
  split
  · simp at h
  · rfl

/-- the auxiliary labels of one position are drawn with only *that* position's result label as a restriction, so they could
collide with the result label of a later position: hence `ca_NF` -/
theorem ok_iteLoop (ao : Bool) : ∀ (rs is ts es : List Label) (st : GSt) (K : List Label), Kn st K →
    (∀ l ∈ is, l ∈ K) → (∀ l ∈ ts, l ∈ K) → (∀ l ∈ es, l ∈ K) → rs.Nodup → (∀ r ∈ rs, r ∉ st.c.labels ∧ ca_NF st r) →
    rs.length ≤ is.length → rs.length ≤ ts.length → rs.length ≤ es.length →
    Ok (iteLoop ao is ts es rs) st (fun _ st' => Kn st' (K ++ rs))
  | [], is, ts, es, _, _, hk, _, _, _, _, _, _, _, _ => by
    rw [iteLoop_stop ao is ts es [] (by simp)]
    exact Ok.ret (hk.mono (by lmem))
  | r :: rs, i :: is, t :: ts, e :: es, st, K, hk, hi, ht, he, hnd, hres, h1, h2, h3 => by
    unfold iteLoop
    obtain ⟨hrn, hnd'⟩ := List.nodup_cons.mp hnd
    apply Ok.bind (ok_iteRest (ao := ao) hk (hi i (by simp)) (ht t (by simp)) (he e (by simp))
      (hres r List.mem_cons_self).1)
    intro a s1 ⟨_, k1, hc1, hfr1⟩
    refine (ok_iteLoop ao rs is ts es s1 _ k1 (by lmem) (by lmem) (by lmem) hnd' (fun r' hr' => ?_)
      (Nat.le_of_succ_le_succ h1) (Nat.le_of_succ_le_succ h2) (Nat.le_of_succ_le_succ h3)).mono
      fun _ _ k2 => k2.mono (by lmem)
    have h := hres r' (List.mem_cons_of_mem _ hr')
    exact ⟨hfr1 r' h.1 h.2 fun e => hrn (e ▸ hr'), ca_NF_mono hc1 h.2⟩
  | _ :: _, [], _, _, _, _, _, _, _, _, _, _, h1, _, _ => absurd h1 (Nat.not_succ_le_zero _)
  | _ :: _, _ :: _, [], _, _, _, _, _, _, _, _, _, _, h2, _ => absurd h2 (Nat.not_succ_le_zero _)
  | _ :: _, _ :: _, _ :: _, [], _, _, _, _, _, _, _, _, _, _, h3 => absurd h3 (Nat.not_succ_le_zero _)

/-- `add_pairwise_if_then_else` once the result labels are there -/
def pairIteRest (is ts es : List Label) (addOutputs : Bool) (res : List Label) : Prog (List Label) :=
  if res.length != is.length then .fail "PairwiseIfThenElseDifferentShapesError" else do
    iteLoop addOutputs is ts es res
    pure res

theorem addPairwiseIfThenElse_eq (is ts es : List Label) (rl : Option (List Label)) (ao : Bool) :
    addPairwiseIfThenElse is ts es rl ao =
      if is.length != ts.length || ts.length != es.length then .fail "PairwiseIfThenElseDifferentShapesError" else
        (match rl with
          | some l => pure l
          | none => freshPlain is.length []) >>= pairIteRest is ts es ao := rfl

/-- `ca_NF` is necessary: `ca_pairIte_collision` -/
theorem ok_pairIteRest {is ts es res : List Label} {ao : Bool} {st : GSt} {K : List Label}
    (hk : Kn st K) (hi : ∀ l ∈ is, l ∈ K) (ht : ∀ l ∈ ts, l ∈ K) (he : ∀ l ∈ es, l ∈ K)
    (h1 : is.length = ts.length) (h2 : ts.length = es.length) (h3 : res.length = is.length)
    (hnd : res.Nodup) (hres : ∀ r ∈ res, r ∉ st.c.labels ∧ ca_NF st r) :
    Ok (pairIteRest is ts es ao res) st (fun r st' => Kn st' (K ++ r) ∧ r = res) := by
  unfold pairIteRest
  rw [if_neg (by simp [h3])]
  exact Ok.bind (ok_iteLoop ao res is ts es st K hk hi ht he hnd hres (by omega) (by omega) (by omega))
    fun _ _ k1 => Ok.ret ⟨k1, rfl⟩

theorem optLabels_length {rl : Option (List Label)} {n : Nat} (hrl : ∀ g, rl = some g → g.length = n) {r : List Label}
    (h : (∀ g, rl = some g → r = g) ∧ (rl = none → r.length = n)) : (∀ g, rl = some g → r = g) ∧ r.length = n := by
  refine ⟨h.1, ?_⟩
  cases rl with
  | none => exact h.2 rfl
  | some g => rw [h.1 g rfl]; exact hrl g rfl

theorem ok_addPairwiseIfThenElse {is ts es : List Label} {rl : Option (List Label)} {ao : Bool} {st : GSt}
    {K : List Label} (hk : Kn st K) (hi : ∀ l ∈ is, l ∈ K) (ht : ∀ l ∈ ts, l ∈ K) (he : ∀ l ∈ es, l ∈ K)
    (h1 : is.length = ts.length) (h2 : ts.length = es.length)
    (hrl : ∀ g, rl = some g → g.length = is.length ∧ g.Nodup ∧ ∀ l ∈ g, l ∉ st.c.labels ∧ ca_NF st l) :
    Ok (addPairwiseIfThenElse is ts es rl ao) st (fun r st' => Kn st' (K ++ r) ∧
      (∀ g, rl = some g → r = g) ∧ r.length = is.length) := by
  rw [addPairwiseIfThenElse_eq, if_neg (by simp [h1, h2])]
  refine (ok_optLabels_bind hk fun given s1 k1 h => ?_).mono fun _ _ h =>
    ⟨h.1, optLabels_length (fun g e => (hrl g e).1) h.2⟩
  rcases h with ⟨e, rfl⟩ | ⟨_, hlen, hnd, hng⟩
  · exact ok_pairIteRest k1 hi ht he h1 h2 (hrl _ e).1 (hrl _ e).2.1 (hrl _ e).2.2
  · exact ok_pairIteRest k1 hi ht he h1 h2 hlen hnd hng

theorem xorLoop_stop (ao : Bool) (xs ys rs : List Label) (h : xs = [] ∨ ys = [] ∨ rs = []) :
    xorLoop ao xs ys rs = pure () := by
  unfold xorLoop
  split
  · simp at h
  · rfl

theorem ok_xorLoop (ao : Bool) : ∀ (rs xs ys : List Label) (st : GSt) (K : List Label), Kn st K →
    (∀ l ∈ xs, l ∈ K) → (∀ l ∈ ys, l ∈ K) → LabelsFree st rs → rs.length ≤ xs.length → rs.length ≤ ys.length →
    Ok (xorLoop ao xs ys rs) st (fun _ st' => Kn st' (K ++ rs))
  | [], xs, ys, _, _, hk, _, _, _, _, _ => by
    rw [xorLoop_stop ao xs ys [] (by simp)]
    exact Ok.ret (hk.mono (by lmem))
  | r :: rs, x :: xs, y :: ys, st, K, hk, hx, hy, hF, h1, h2 => by
    unfold xorLoop
    apply Ok.addFree hk hF (by lmem); intro s1 _ _ k1 F1
    apply Ok.markIf k1 (by lmem); intro s2 hl2 _ k2
    exact (ok_xorLoop ao rs xs ys s2 _ k2 (by lmem) (by lmem) ⟨F1.1, fun l hl => hl2 ▸ F1.2 l hl⟩
      (Nat.le_of_succ_le_succ h1) (Nat.le_of_succ_le_succ h2)).mono fun _ _ k3 => k3.mono (by lmem)
  | _ :: _, [], _, _, _, _, _, _, _, h1, _ => absurd h1 (Nat.not_succ_le_zero _)
  | _ :: _, _ :: _, [], _, _, _, _, _, _, _, h2 => absurd h2 (Nat.not_succ_le_zero _)

/-- `add_pairwise_xor` once the result labels are there -/
def pairXorRest (xs ys : List Label) (addOutputs : Bool) (res : List Label) : Prog (List Label) :=
  if res.length != xs.length then .fail "PairwiseXorDifferentShapesError" else do
    xorLoop addOutputs xs ys res
    pure res

theorem addPairwiseXor_eq (xs ys : List Label) (rl : Option (List Label)) (ao : Bool) :
    addPairwiseXor xs ys rl ao =
      if xs.length != ys.length then .fail "PairwiseXorDifferentShapesError" else
        (match rl with
          | some l => pure l
          | none => freshPlain xs.length []) >>= pairXorRest xs ys ao := rfl

theorem ok_pairXorRest {xs ys res : List Label} {ao : Bool} {st : GSt} {K : List Label}
    (hk : Kn st K) (hx : ∀ l ∈ xs, l ∈ K) (hy : ∀ l ∈ ys, l ∈ K) (h1 : xs.length = ys.length) (h3 : res.length = xs.length)
    (hF : LabelsFree st res) :
    Ok (pairXorRest xs ys ao res) st (fun r st' => Kn st' (K ++ r) ∧ r = res) := by
  unfold pairXorRest
  rw [if_neg (by simp [h3])]
  exact Ok.bind (ok_xorLoop ao res xs ys st K hk hx hy hF (by omega) (by omega)) fun _ _ k1 => Ok.ret ⟨k1, rfl⟩

theorem ok_addPairwiseXor {xs ys : List Label} {rl : Option (List Label)} {ao : Bool} {st : GSt}
    {K : List Label} (hk : Kn st K) (hx : ∀ l ∈ xs, l ∈ K) (hy : ∀ l ∈ ys, l ∈ K)
    (h1 : xs.length = ys.length)
    (hrl : ∀ g, rl = some g → g.length = xs.length ∧ g.Nodup ∧ ∀ l ∈ g, l ∉ st.c.labels) :
    Ok (addPairwiseXor xs ys rl ao) st (fun r st' => Kn st' (K ++ r) ∧
      (∀ g, rl = some g → r = g) ∧ r.length = xs.length) := by
  rw [addPairwiseXor_eq, if_neg (by simp [h1])]
  refine (ok_optLabels_bind hk fun given s1 k1 h => ?_).mono fun _ _ h =>
    ⟨h.1, optLabels_length (fun g e => (hrl g e).1) h.2⟩
  rcases h with ⟨e, rfl⟩ | ⟨_, hlen, hnd, hng⟩
  · exact ok_pairXorRest k1 hx hy h1 (hrl _ e).1 (hrl _ e).2
  · exact ok_pairXorRest k1 hx hy h1 hlen ⟨hnd, fun l hl => (hng l hl).1⟩

/-- `r = .error e` as a Boolean, so that `decide +kernel` can evaluate a run that fails -/
def failsWith {α} (r : R α) (e : String) : Bool :=
  match r with
  | .error e' => e' == e
  | .ok _ => false

theorem eq_error_of_failsWith {α} {r : R α} {e : String} (h : failsWith r e = true) : r = .error e := by
  cases r with
  | error e' => exact congrArg _ (eq_of_beq h)
  | ok _ => cases h

/-- a given result label that is drawn as an auxiliary label of an earlier position (model run; the Python code raises the
same `CircuitValidationError` under the pinned `uuid4`) -/
theorem ca_pairIte_collision :
    ∃ c : Circuit, (∀ l ∈ ["i0", "i1", "t0", "t1", "e0", "e1"], l ∈ c.labels) ∧ (∀ l ∈ ["z", newLabel 0], l ∉ c.labels) ∧
      (addPairwiseIfThenElse ["i0", "i1"] ["t0", "t1"] ["e0", "e1"] (some ["z", newLabel 0]) false).run ⟨c, 0⟩
        = .error "CircuitValidationError" := by
  -- through `failsWith`, so that only the kernel evaluates the run (`rfl` would make the elaborator evaluate it first)
  refine ⟨⟨[⟨"i0", INPUT, []⟩, ⟨"i1", INPUT, []⟩, ⟨"t0", INPUT, []⟩, ⟨"t1", INPUT, []⟩, ⟨"e0", INPUT, []⟩, ⟨"e1", INPUT, []⟩],
    ["i0", "i1", "t0", "t1", "e0", "e1"], [], [], []⟩, by decide, by decide, eq_error_of_failsWith (by decide +kernel)⟩

end Cirbo
