import Cirbo.Proofs.Mutate
/-!
# rename_gate (C02, C19): its complete outcome; the invariant and the function are kept
-/
namespace Cirbo
open GateType Circuit

def rho (old new : Label) (l : Label) : Label := if l = old then new else l
/-- `new ↦ old`: the inverse of `rho` on labels other than `new` (`rhoInv_rho`) -/
def rhoInv (old new : Label) (l : Label) : Label := if l = new then old else l
def renG (old new : Label) (g : Gate) : Gate := ⟨rho old new g.label, g.ty, g.ops.map (rho old new)⟩
def renB (old new : Label) (b : Block) : Block :=
  { b with inputs := b.inputs.map (rho old new), gates := b.gates.map (rho old new), outputs := b.outputs.map (rho old new) }

theorem renameIn_eq (old new : Label) (ls : List Label) : renameIn old new ls = ls.map (rho old new) := by
  unfold renameIn rho
  apply List.map_congr_left
  intro x _
  by_cases h : x = old <;> simp [h]

theorem rhoInv_rho {old new l : Label} (h : l ≠ new) : rhoInv old new (rho old new l) = l := by
  unfold rho rhoInv
  by_cases e : l = old
  · simp [e]
  · simp [e, h]

theorem rho_ne_old {old new l : Label} (h : new ≠ old) : rho old new l ≠ old := by
  unfold rho
  by_cases e : l = old
  · simp [e, h]
  · simp [e]

theorem old_not_mem_map_rho {old new : Label} (h : new ≠ old) (xs : List Label) : old ∉ xs.map (rho old new) := by
  intro hm
  obtain ⟨o, _, ho⟩ := List.mem_map.mp hm
  exact rho_ne_old h ho

theorem rho_inj {old new a b : Label} (ha : a ≠ new) (hb : b ≠ new) (h : rho old new a = rho old new b) : a = b := by
  have := congrArg (rhoInv old new) h
  rwa [rhoInv_rho ha, rhoInv_rho hb] at this

theorem rho_cases {old new : Label} (hne : new ≠ old) (l' : Label) :
    l' = old ∨ ∃ l, l ≠ new ∧ l' = rho old new l := by
  by_cases e : l' = old
  · exact .inl e
  · by_cases e2 : l' = new
    · exact .inr ⟨old, hne.symm, by simp [rho, e2]⟩
    · exact .inr ⟨l', e2, by simp [rho, e]⟩

theorem map_rho_not_mem {old new : Label} (xs : List Label) (h : old ∉ xs) : xs.map (rho old new) = xs := by
  conv => rhs; rw [← List.map_id xs]
  apply List.map_congr_left
  intro x hx
  have : x ≠ old := fun e => h (e ▸ hx)
  simp [rho, this]

theorem count_map_rho {old new : Label} (l : Label) (hl : l ≠ new) (xs : List Label) (h : ∀ x ∈ xs, x ≠ new) :
    (xs.map (rho old new)).count (rho old new l) = xs.count l := by
  rw [List.count_eq_countP, List.countP_map, List.count_eq_countP]
  apply List.countP_congr
  intro x hx
  simp only [Function.comp, beq_iff_eq]
  exact ⟨rho_inj (h x hx) hl, congrArg _⟩

theorem nodup_map_rho {old new : Label} (xs : List Label) (hnd : xs.Nodup) (h : ∀ x ∈ xs, x ≠ new) :
    (xs.map (rho old new)).Nodup :=
  List.pairwise_map.mpr (hnd.imp_of_mem fun ha hb hab e => hab (rho_inj (h _ ha) (h _ hb) e))

/-- `c'` is `c` with `rho old new` applied to every label in every field; `old` has no users entry left -/
structure Renamed (c c' : Circuit) (old new : Label) : Prop where
  gates : ∀ x, x ∈ c'.gates ↔ ∃ y ∈ c.gates, x = renG old new y
  labels : c'.labels.Nodup
  inputs : c'.inputs = c.inputs.map (rho old new)
  outputs : c'.outputs = c.outputs.map (rho old new)
  blocks : c'.blocks = c.blocks.map (renB old new)
  users : ∀ l, l ≠ new → c'.usersOf (rho old new l) = (c.usersOf l).map (rho old new)
  usersOld : c'.usersOf old = []

theorem renamed_labels {c c' : Circuit} {old new : Label} (hr : Renamed c c' old new) :
    (∀ l ∈ c.labels, rho old new l ∈ c'.labels) ∧ (∀ l' ∈ c'.labels, ∃ l ∈ c.labels, l' = rho old new l) := by
  constructor
  · intro l hl
    obtain ⟨g, hg, rfl⟩ := List.mem_map.mp hl
    exact mem_labels_of_mem ((hr.gates (renG old new g)).mpr ⟨g, hg, rfl⟩)
  · intro l' hl'
    obtain ⟨g', hg', rfl⟩ := List.mem_map.mp hl'
    obtain ⟨y, hy, rfl⟩ := (hr.gates g').mp hg'
    exact ⟨y.label, mem_labels_of_mem hy, rfl⟩

theorem renamed_wfs {c c' : Circuit} {old new : Label} (hw : WFS c) (hnew : new ∉ c.labels) (hne : new ≠ old)
    (hr : Renamed c c' old new) : WFS c' := by
  have hlne : ∀ l ∈ c.labels, l ≠ new := fun l hl e => hnew (e ▸ hl)
  have hgate : ∀ g' ∈ c'.gates, ∃ y ∈ c.gates, g' = renG old new y := fun g' => (hr.gates g').mp
  have hmapL : ∀ xs : List Label, (∀ x ∈ xs, x ∈ c.labels) → ∀ x' ∈ xs.map (rho old new), x' ∈ c'.labels := by
    intro xs h x' hx'
    obtain ⟨x, hx, rfl⟩ := List.mem_map.mp hx'
    exact (renamed_labels hr).1 x (h x hx)
  obtain ⟨r, hrk⟩ := hw.rank
  refine ⟨hr.labels, ?_, ⟨r ∘ rhoInv old new, ?_⟩, ?_, ?_, ?_, ?_, ?_, ?_, ?_⟩
  · intro g' hg'
    obtain ⟨y, hy, rfl⟩ := hgate g' hg'
    exact hmapL y.ops (hw.closed y hy)
  · intro g' hg' o' ho'
    obtain ⟨y, hy, rfl⟩ := hgate g' hg'
    obtain ⟨o, ho, rfl⟩ := List.mem_map.mp ho'
    simp only [Function.comp, renG]
    rw [rhoInv_rho (hlne o (hw.closed y hy o ho)), rhoInv_rho (hlne _ (mem_labels_of_mem hy))]
    exact hrk y hy o ho
  · rw [hr.inputs]
    refine nodup_map_rho _ hw.inputsNodup fun x hx => ?_
    obtain ⟨g, hg, hgl, _⟩ := (hw.inputsOK x).mp hx
    exact hlne x (hgl ▸ mem_labels_of_mem hg)
  · intro l'
    rw [hr.inputs]
    constructor
    · intro hm
      obtain ⟨l, hl, rfl⟩ := List.mem_map.mp hm
      obtain ⟨g, hg, rfl, hty⟩ := (hw.inputsOK l).mp hl
      exact ⟨renG old new g, (hr.gates _).mpr ⟨g, hg, rfl⟩, rfl, hty⟩
    · rintro ⟨g', hg', rfl, hty'⟩
      obtain ⟨y, hy, rfl⟩ := hgate g' hg'
      exact List.mem_map.mpr ⟨y.label, (hw.inputsOK y.label).mpr ⟨y, hy, rfl, hty'⟩, rfl⟩
  · rw [hr.outputs]
    exact hmapL _ hw.outputsOK
  · intro l'
    rcases rho_cases hne l' with rfl | ⟨l, hl, rfl⟩
    · rw [hr.usersOld]; nofun
    · rw [hr.users l hl]
      exact hmapL _ (hw.usersL l)
  · intro l' g' hg'
    obtain ⟨y, hy, rfl⟩ := hgate g' hg'
    rcases rho_cases hne l' with rfl | ⟨l, hl, rfl⟩
    · rw [hr.usersOld]
      exact (List.count_eq_zero.mpr (old_not_mem_map_rho hne y.ops)).symm
    · rw [hr.users l hl]
      simp only [renG]
      rw [count_map_rho y.label (hlne _ (mem_labels_of_mem hy)) _ (fun x hx => hlne x (hw.usersL l x hx)),
        count_map_rho l hl _ (fun x hx => hlne x (hw.closed y hy x hx))]
      exact hw.usersC l y hy
  · rw [hr.blocks]
    intro b' hb'
    obtain ⟨b, hb, rfl⟩ := List.mem_map.mp hb'
    exact ⟨hmapL _ (hw.blocksOK b hb).1, hmapL _ (hw.blocksOK b hb).2⟩
  · intro g' hg' hty'
    obtain ⟨y, hy, rfl⟩ := hgate g' hg'
    simp only [renG, hw.inputOps y hy hty', List.map_nil]

theorem renamed_val {c c' : Circuit} {old new : Label} (hw : WFS c) (hnew : new ∉ c.labels)
    (hr : Renamed c c' old new) {b v : Label → Bool} (hv : IsValB c b v) :
    IsValB c' (b ∘ rhoInv old new) (v ∘ rhoInv old new) ∧ c'.outputs.map (v ∘ rhoInv old new) = c.outputs.map v := by
  have hlne : ∀ l ∈ c.labels, l ≠ new := fun l hl e => hnew (e ▸ hl)
  have hback : ∀ xs : List Label, (∀ x ∈ xs, x ∈ c.labels) →
      (xs.map (rho old new)).map (v ∘ rhoInv old new) = xs.map v := by
    intro xs h
    rw [List.map_map]
    apply List.map_congr_left
    intro o ho
    simp only [Function.comp, rhoInv_rho (hlne o (h o ho))]
  constructor
  · intro g' hg'
    obtain ⟨y, hy, rfl⟩ := (hr.gates g').mp hg'
    have := hv y hy
    simp only [renG, Function.comp, rhoInv_rho (hlne _ (mem_labels_of_mem hy))]
    by_cases ht : y.ty = INPUT
    · simpa [ht] using this
    · simp only [ht, if_false] at this ⊢
      rw [hback y.ops (hw.closed y hy)]
      exact this
  · rw [hr.outputs]
    exact hback _ hw.outputsOK

theorem renamed_val_back {c c' : Circuit} {old new : Label} (hr : Renamed c c' old new)
    {b' v' : Label → Bool} (hv : IsValB c' b' v') : IsValB c (b' ∘ rho old new) (v' ∘ rho old new) := by
  intro y hy
  have hm : renG old new y ∈ c'.gates := (hr.gates _).mpr ⟨y, hy, rfl⟩
  have := hv _ hm
  simp only [renG] at this
  by_cases ht : y.ty = INPUT
  · simpa [ht] using this
  · simp only [ht, if_false, List.map_map] at this ⊢
    exact this

/-! The two loops of `renameGate`, the model's own lambdas under names (`renameGate_eq`, by `rfl`): what is done to the
gate list per user of `old`, and to the users index per operand of `old`. -/

/-- `rho` on the operands alone: what the first loop does to a user of `old` -/
def renOps (old new : Label) (x : Gate) : Gate := { x with ops := renameIn old new x.ops }

def gatesStep (old new : Label) (gs : List Gate) (u : Label) : List Gate :=
  gs.map (fun x => if x.label == u then renOps old new x else x)

def usersStep (old new : Label) : R (Dict (List Label)) → Label → R (Dict (List Label)) := fun acc o => match acc with
  | .error e => .error e
  | .ok users => match Dict.get? users o with
    | none => .error "Py:KeyError"
    | some us => if us.contains old then .ok (Dict.set users o (replaceFirst old new us))
                 else .error "Py:AssertionError"

theorem replaceFirst_not_mem {old new : Label} : ∀ (xs : List Label), old ∉ xs → replaceFirst old new xs = xs := by
  intro xs
  induction xs with
  | nil => intro _; rfl
  | cons x t ih =>
    intro h
    simp only [List.mem_cons, not_or] at h
    have : (x == old) = false := by simpa using fun e : x = old => h.1 e.symm
    simp [replaceFirst, this, ih h.2]

theorem map_rho_replaceFirst {old new : Label} (hne : new ≠ old) : ∀ xs : List Label,
    (replaceFirst old new xs).map (rho old new) = xs.map (rho old new)
  | [] => rfl
  | x :: t => by
    unfold replaceFirst
    split
    · rename_i e
      simp [rho, hne, show x = old by simpa using e]
    · rw [List.map_cons, List.map_cons, map_rho_replaceFirst hne t]

theorem replaceFirst_count_old {old new : Label} (hne : new ≠ old) : ∀ (xs : List Label), old ∈ xs →
    (replaceFirst old new xs).count old + 1 = xs.count old
  | x :: t, h => by
    unfold replaceFirst
    by_cases e : x = old
    · subst e
      simp [List.count_cons_of_ne hne]
    · have hm : old ∈ t := (List.mem_cons.mp h).resolve_left (Ne.symm e)
      simp only [beq_iff_eq, e, if_false, List.count_cons_of_ne e]
      exact replaceFirst_count_old hne t hm

theorem inputs_renamed {old new : Label} (hne : new ≠ old) {xs : List Label} (hnd : xs.Nodup) :
    (if xs.contains old then replaceFirst old new xs else xs) = xs.map (rho old new) := by
  split
  · rename_i hc
    have hm : old ∈ xs := by simpa using hc
    have h0 : old ∉ replaceFirst old new xs := by
      have := replaceFirst_count_old (new := new) hne xs hm
      rw [hnd.count, if_pos hm] at this
      exact List.count_eq_zero.mp (by omega)
    rw [← map_rho_replaceFirst hne xs, map_rho_not_mem _ h0]
  · rename_i hc
    exact (map_rho_not_mem xs (by simpa using hc)).symm

theorem renOps_eq_self {old new : Label} {x : Gate} (h : old ∉ x.ops) : renOps old new x = x := by
  simp only [renOps, renameIn_eq, map_rho_not_mem _ h]

theorem renOps_idem {old new : Label} (hne : new ≠ old) (x : Gate) : renOps old new (renOps old new x) = renOps old new x := by
  apply renOps_eq_self
  rw [show (renOps old new x).ops = x.ops.map (rho old new) from renameIn_eq old new x.ops]
  exact old_not_mem_map_rho hne x.ops

theorem renG_of_ne {old new : Label} {y : Gate} (h : y.label ≠ old) : renG old new y = renOps old new y := by
  simp [renG, renOps, renameIn_eq, rho, h]

theorem gatesFold_eq {old new : Label} (hne : new ≠ old) : ∀ (us : List Label) (gs : List Gate),
    us.foldl (gatesStep old new) gs = gs.map (fun x => if us.contains x.label then renOps old new x else x)
  | [], gs => by simp
  | u :: t, gs => by
    rw [List.foldl_cons, gatesFold_eq hne t, gatesStep, List.map_map]
    apply List.map_congr_left
    intro x _
    have hl : (renOps old new x).label = x.label := rfl
    -- a gate listed twice among the users has its operands renamed twice
    by_cases e : x.label = u <;> by_cases m : x.label ∈ t <;> simp [e, m, hl, renOps_idem hne]

/-- the second loop of `rename_gate` returns, and has replaced every `old`, when each operand's entry lists `old`
as often as the operand occurs -/
theorem usersFold_ok {old new : Label} (hne : new ≠ old) : ∀ (ops : List Label) (users : Dict (List Label)),
    (∀ l, ops.count l = ((Dict.get? users l).getD []).count old) →
    ∃ users2, ops.foldl (usersStep old new) (.ok users) = .ok users2 ∧
      ∀ l, (Dict.get? users2 l).getD [] = ((Dict.get? users l).getD []).map (rho old new)
  | [], users, hc => ⟨users, rfl, fun l => (map_rho_not_mem _ (List.count_eq_zero.mp (hc l).symm)).symm⟩
  | o :: t, users, hc => by
    have ho := hc o
    rw [List.count_cons_self] at ho
    cases hus : Dict.get? users o with
    | none => rw [hus] at ho; simp at ho
    | some us =>
      rw [hus, Option.getD_some] at ho
      have hmem : old ∈ us := List.count_pos_iff.mp (by omega)
      have hstep : usersStep old new (.ok users) o = .ok (Dict.set users o (replaceFirst old new us)) := by
        simp [usersStep, hus, hmem]
      obtain ⟨users2, h2, hs⟩ := usersFold_ok hne t (Dict.set users o (replaceFirst old new us)) fun l => by
        rw [Dict.get?_set]
        have := hc l
        by_cases e : l = o
        · have h1 := replaceFirst_count_old (new := new) hne us hmem
          rw [if_pos e, Option.getD_some, e]
          rw [e, List.count_cons_self, hus, Option.getD_some] at this
          omega
        · rw [List.count_cons_of_ne (Ne.symm e)] at this
          rwa [if_neg e]
      refine ⟨users2, by rw [List.foldl_cons, hstep, h2], fun l => ?_⟩
      rw [hs l, Dict.get?_set]
      by_cases e : l = o
      · subst e; simp [hus, map_rho_replaceFirst hne]
      · simp [e]

/-- the gate list and the users index of `rename_gate` after its first loop: the users of `old` have their operands
renamed, the entry of `old` has moved to the key `new` -/
def renPair (c : Circuit) (old new : Label) : List Gate × Dict (List Label) :=
  match Dict.get? c.users old with
  | none => (c.gates, c.users)
  | some us => (us.foldl (gatesStep old new) c.gates, Dict.set (Dict.erase c.users old) new us)

theorem renameGate_eq (c : Circuit) (old new : Label) : c.renameGate old new =
    match c.find? old with
    | none => .error "CircuitGateIsAbsentError"
    | some g =>
      if c.hasGate new then .error "CircuitGateAlreadyExistsError" else
      match (((renPair c old new).1.find? (fun x => x.label == old)).getD g).ops.foldl (usersStep old new)
          (.ok (renPair c old new).2) with
      | .error e => .error e
      | .ok users2 => .ok ⟨(renPair c old new).1.filter (fun x => !(x.label == old)) ++
          [⟨new, (((renPair c old new).1.find? (fun x => x.label == old)).getD g).ty,
            (((renPair c old new).1.find? (fun x => x.label == old)).getD g).ops⟩],
          if c.inputs.contains old then replaceFirst old new c.inputs else c.inputs, renameIn old new c.outputs,
          users2, c.blocks.map (fun b => { b with
            inputs := renameIn old new b.inputs, gates := renameIn old new b.gates, outputs := renameIn old new b.outputs })⟩ :=
  rfl

/-- the users of `old` are the gates that read it, so every operand tuple has been renamed -/
theorem renPair_gates {c : Circuit} {old new : Label} (hw : WFS c) (hne : new ≠ old) :
    (renPair c old new).1 = c.gates.map (renOps old new) := by
  have : (renPair c old new).1 = (c.usersOf old).foldl (gatesStep old new) c.gates := by
    rw [usersOf_eq]
    unfold renPair
    cases Dict.get? c.users old <;> rfl
  rw [this, gatesFold_eq hne]
  apply List.map_congr_left
  intro x hx
  split
  · rfl
  · rename_i hnc
    exact (renOps_eq_self fun hm => hnc (by simpa using (mem_users_iff hw.usersC hx old).mpr hm)).symm

theorem find_map_renOps {c : Circuit} {old new : Label} {g : Gate} (hf : c.find? old = some g) (hgo : old ∉ g.ops) :
    ((c.gates.map (renOps old new)).find? (fun x => x.label == old)).getD g = g := by
  rw [List.find?_map]
  show ((c.gates.find? (fun x => x.label == old)).map _).getD g = g
  rw [show c.gates.find? (fun x => x.label == old) = some g from hf]
  exact renOps_eq_self hgo

/-- the key `old` may be missing from the index; on a well-formed circuit that is an empty entry -/
theorem renPair_users {c : Circuit} {old new : Label} (hw : WFS c) (hnewL : new ∉ c.labels) (l : Label) :
    (Dict.get? (renPair c old new).2 l).getD [] =
      if l = new then c.usersOf old else if l = old then [] else c.usersOf l := by
  unfold renPair
  cases hu : Dict.get? c.users old with
  | none =>
    have ho : c.usersOf old = [] := by rw [usersOf_eq, hu]; rfl
    rw [← usersOf_eq]
    by_cases e1 : l = new
    · rw [if_pos e1, ho, e1, usersOf_nonlabel hw hnewL]
    · by_cases e2 : l = old
      · rw [if_neg e1, if_pos e2, e2, ho]
      · rw [if_neg e1, if_neg e2]
  | some us =>
    simp only [Dict.get?_set, get?_erase, usersOf_eq, hu]
    by_cases e1 : l = new
    · simp [e1]
    · by_cases e2 : l = old
      · subst e2
        simp [e1]
      · simp [e1, e2]

theorem renPair_count {c : Circuit} {old new : Label} {g : Gate} (hw : WFS c) (hf : c.find? old = some g)
    (hnewL : new ∉ c.labels) (l : Label) :
    g.ops.count l = ((Dict.get? (renPair c old new).2 l).getD []).count old := by
  obtain ⟨hgm, hgl⟩ := find_some_mem hf
  have hgo : old ∉ g.ops := hgl ▸ not_mem_own_ops hw hgm
  rw [renPair_users hw hnewL l]
  split
  · rename_i e
    have holdU : old ∉ c.usersOf old := fun hm => hgo ((mem_users_iff hw.usersC hgm old).mp (hgl ▸ hm))
    rw [e, List.count_eq_zero.mpr holdU]
    exact List.count_eq_zero.mpr fun hm => hnewL (hw.closed g hgm new hm)
  · split
    · rename_i e
      rw [e]
      exact List.count_eq_zero.mpr hgo
    · exact hgl ▸ (hw.usersC l g hgm).symm

theorem renameGate_outcome {c : Circuit} (hw : WFS c) (old new : Label) :
    (old ∉ c.labels ∧ c.renameGate old new = .error "CircuitGateIsAbsentError") ∨
    (old ∈ c.labels ∧ new ∈ c.labels ∧ c.renameGate old new = .error "CircuitGateAlreadyExistsError") ∨
    (old ∈ c.labels ∧ new ∉ c.labels ∧ ∃ g c', c.find? old = some g ∧ c.renameGate old new = .ok c' ∧
      c'.gates = (c.gates.map (renOps old new)).filter (fun x => !(x.label == old)) ++ [⟨new, g.ty, g.ops⟩] ∧
      c'.inputs = c.inputs.map (rho old new) ∧ c'.outputs = c.outputs.map (rho old new) ∧
      c'.blocks = c.blocks.map (renB old new) ∧
      ∀ l, c'.usersOf l = (if l = new then c.usersOf old else if l = old then [] else c.usersOf l).map (rho old new)) := by
  by_cases hold : old ∈ c.labels
  · obtain ⟨g, hg, hgl⟩ := gate_of_label hold
    have hf : c.find? old = some g := hgl ▸ find_label hw.nodup hg
    by_cases hnew : new ∈ c.labels
    · exact .inr (.inl ⟨hold, hnew, by rw [renameGate_eq, hf]; simp [(hasGate_iff c new).mpr hnew]⟩)
    · have hne : new ≠ old := fun e => hnew (e ▸ hold)
      obtain ⟨users2, h2, hs⟩ := usersFold_ok hne g.ops (renPair c old new).2 (renPair_count hw hf hnew)
      refine .inr (.inr ⟨hold, hnew, g, ?_⟩)
      rw [renameGate_eq, hf]
      simp only [(hasGate_false_iff c new).mpr hnew, Bool.false_eq_true, if_false]
      rw [renPair_gates hw hne, find_map_renOps hf (hgl ▸ not_mem_own_ops hw hg), h2]
      refine ⟨_, trivial, rfl, rfl, inputs_renamed hne hw.inputsNodup, renameIn_eq old new c.outputs, ?_, fun l => ?_⟩
      · exact List.map_congr_left fun b _ => by simp [renB, renameIn_eq]
      · rw [usersOf_eq, ← renPair_users hw hnew l]
        exact hs l
  · exact .inl ⟨hold, by rw [renameGate_eq, find_none hold]⟩

theorem renameGate_renamed {c c' : Circuit} {old new : Label} (hw : WFS c) (h : c.renameGate old new = .ok c') :
    Renamed c c' old new ∧ old ∈ c.labels ∧ new ∉ c.labels := by
  obtain ⟨_, he⟩ | ⟨_, _, he⟩ | ⟨hold, hnewL, g, _, hf, he, hG, hI, hO, hB, hU⟩ := renameGate_outcome hw old new <;>
    rw [he] at h <;> cases h
  obtain ⟨hgm, hgl⟩ := find_some_mem hf
  have hne : new ≠ old := fun e => hnewL (e ▸ hold)
  -- the gate `old` itself only changes its label
  have hren : ∀ y ∈ c.gates, renG old new y = if y.label = old then ⟨new, g.ty, g.ops⟩ else renOps old new y := by
    intro y hy
    split
    · rename_i e
      have h1 := find_label hw.nodup hy
      rw [e, hf] at h1
      cases h1
      simp [renG, rho, e, map_rho_not_mem _ (e ▸ not_mem_own_ops hw hgm)]
    · rename_i e
      exact renG_of_ne e
  refine ⟨⟨?_, ?_, hI, hO, hB, ?_, ?_⟩, hold, hnewL⟩
  · intro x
    simp only [hG, List.mem_append, List.mem_filter, List.mem_singleton]
    constructor
    · rintro (⟨hx, hxl⟩ | rfl)
      · obtain ⟨y, hy, rfl⟩ := List.mem_map.mp hx
        have : y.label ≠ old := by simpa [renOps] using hxl
        exact ⟨y, hy, by rw [hren y hy, if_neg this]⟩
      · exact ⟨g, hgm, by rw [hren g hgm, if_pos hgl]⟩
    · rintro ⟨y, hy, rfl⟩
      rw [hren y hy]
      split
      · exact .inr rfl
      · rename_i e
        exact .inl ⟨List.mem_map.mpr ⟨y, hy, rfl⟩, by simpa [renOps] using e⟩
  · have hsub : (((c.gates.map (renOps old new)).filter (fun x => !(x.label == old))).map (·.label)).Sublist c.labels := by
      have : (c.gates.map (renOps old new)).map (·.label) = c.labels := by rw [List.map_map]; rfl
      rw [← this]
      exact List.filter_sublist.map _
    unfold Circuit.labels
    rw [hG, List.map_append]
    refine List.nodup_append.mpr ⟨hsub.nodup hw.nodup, by simp, fun a ha b hb e => hnewL ?_⟩
    have hbn : b = new := by simpa using hb
    rw [← hbn, ← e]
    exact hsub.subset ha
  · intro l hl
    rw [hU]
    by_cases e : l = old
    · simp [rho, e]
    · simp [rho, e, hl]
  · rw [hU]
    simp [hne.symm]

theorem renameGate_wfs {c c' : Circuit} {old new : Label} (hw : WFS c) (h : c.renameGate old new = .ok c') : WFS c' := by
  obtain ⟨hr, hold, hnew⟩ := renameGate_renamed hw h
  exact renamed_wfs hw hnew (fun e => hnew (e ▸ hold)) hr

end Cirbo
