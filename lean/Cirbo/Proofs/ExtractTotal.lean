import Cirbo.Proofs.BlockExtract
/-!
# `Block.into_circuit` returns on the block recorded by a named connection

`intoCircuit` can raise at `intoStep` (a block gate label that is no gate of the owner), at `set_outputs` (a block
output that is no gate of the new circuit) and at the closing `check_gates_exist` (an operand of a copied gate neither
copied nor a block input); `_emplace_gate` checks nothing, and there is no cycle check.
-/
namespace Cirbo
open GateType Circuit

theorem Records.returns {c' other : Circuit} {φ : Label → Label} {name : Label} (hr : Records c' other name φ)
    (hclosed : ∀ g ∈ other.gates, ∀ o ∈ g.ops, o ∈ other.labels)
    (hinp : ∀ g ∈ other.gates, g.ty = INPUT → g.label ∈ other.inputs)
    (hout : ∀ o ∈ other.outputs, o ∈ other.labels) :
    ∃ b E, c'.getBlock name = .ok b ∧ c'.intoCircuit b = .ok E := by
  obtain ⟨fb, hb, _, hsub, hmem⟩ := hr.block
  have hfind : ∀ l ∈ fb, ∃ g ∈ other.gates, c'.find? l = some (g.ren φ) := fun l hl => by
    obtain ⟨g, hgm, ht, rfl⟩ := hsub l hl
    exact ⟨g, hgm, find_label hr.nodup (hmem g hgm ht).2⟩
  have hall : ∀ l ∈ fb, ∃ g, c'.find? l = some g := fun l hl => by
    obtain ⟨g, _, h⟩ := hfind l hl; exact ⟨_, h⟩
  -- the two stages emplace the renamed inputs as INPUT gates, then the gates found under the block's labels
  have e1 : (other.inputs.map φ).foldl (fun n i => n.rawAddGate ⟨i, INPUT, []⟩) Circuit.empty =
      ((other.inputs.map φ).map fun i => (⟨i, INPUT, []⟩ : Gate)).foldl rawAddGate Circuit.empty :=
    List.foldl_map.symm
  obtain ⟨a1, b1, _⟩ := rawAddGates_spec ((other.inputs.map φ).map fun i => (⟨i, INPUT, []⟩ : Gate)) Circuit.empty
  obtain ⟨a2, b2, _⟩ := rawAddGates_spec (fb.filterMap c'.find?)
    ((other.inputs.map φ).foldl (fun n i => n.rawAddGate ⟨i, INPUT, []⟩) Circuit.empty)
  generalize hc2 : (fb.filterMap c'.find?).foldl rawAddGate
    ((other.inputs.map φ).foldl (fun n i => n.rawAddGate ⟨i, INPUT, []⟩) Circuit.empty) = c2 at a2 b2
  have hops : ∀ x ∈ c2.gates, ∀ o ∈ x.ops, ∃ o' ∈ other.labels, o = φ o' := by
    intro x hx o ho
    rcases a2 x hx with h1 | h1
    · rcases a1 x (e1 ▸ h1) with h0 | h0
      · cases h0
      · obtain ⟨i, _, rfl⟩ := List.mem_map.mp h0
        cases ho
    · obtain ⟨l, hl, hf⟩ := List.mem_filterMap.mp h1
      obtain ⟨g, hgm, hf'⟩ := hfind l hl
      cases hf'.symm.trans hf
      obtain ⟨o', ho', rfl⟩ := List.mem_map.mp ho
      exact ⟨o', hclosed g hgm o' ho', rfl⟩
  have hlab : ∀ o ∈ other.labels, φ o ∈ c2.labels := by
    intro o ho
    obtain ⟨g, hgm, rfl⟩ := List.mem_map.mp ho
    by_cases ht : g.ty = INPUT
    · refine b2 _ (Or.inl (e1 ▸ b1 _ (Or.inr ?_)))
      simpa [List.map_map] using ⟨g.label, hinp g hgm ht, rfl⟩
    · exact b2 _ (Or.inr (by rw [filterMap_find_labels hall]; exact (hmem g hgm ht).1))
  have hso : c2.checkGatesExist (other.outputs.map φ) = .ok () :=
    checkGatesExist_ok_iff.mpr fun l hl => by
      obtain ⟨o, ho, rfl⟩ := List.mem_map.mp hl
      exact hlab o (hout o ho)
  refine ⟨_, { c2 with outputs := other.outputs.map φ }, hb, ?_⟩
  unfold intoCircuit
  simp only [(intoFold_ok_iff c' _ _ _).mpr ⟨hall, rfl⟩, hc2, setOutputs, hso]
  rw [if_pos]
  simp only [List.all_eq_true]
  intro x hx o ho
  obtain ⟨o', ho', rfl⟩ := hops x hx o ho
  exact (hasGate_iff _ _).mpr (hlab o' ho')

theorem Records.returns_of_wfs {c' other : Circuit} {φ : Label → Label} {name : Label} (hr : Records c' other name φ)
    (hwo : WFS other) : ∃ b E, c'.getBlock name = .ok b ∧ c'.intoCircuit b = .ok E :=
  hr.returns hwo.closed (fun g hg ht => (hwo.inputsOK g.label).mpr ⟨g, hg, rfl, ht⟩) hwo.outputsOK

theorem et_intoCircuit_total_left {c other c' : Circuit} {thisC otherC : List Label} {name : Label} {addP : Bool}
    (hw : WFS c) (hwo : WFS other)
    (h : c.connectCircuit other thisC otherC false name addP = .ok c') (hname : name ≠ "") :
    ∃ b ex, c'.getBlock name = .ok b ∧ c'.intoCircuit b = .ok ex :=
  (connect_records hwo.toWFG hw.nodup h hname).returns_of_wfs hwo

theorem et_intoCircuit_total_right {c other c' : Circuit} {thisC otherC : List Label} {name : Label} {addP : Bool}
    (hw : WFS c) (hwo : WFS other)
    (h : c.connectCircuit other thisC otherC true name addP = .ok c') (hname : name ≠ "") :
    ∃ b ex, c'.getBlock name = .ok b ∧ c'.intoCircuit b = .ok ex :=
  (connect_records hwo.toWFG hw.nodup h hname).returns_of_wfs hwo

theorem connect_extraction {c other c' : Circuit} {thisC otherC : List Label} {right : Bool} {name : Label} {addP : Bool}
    (hw : WFS c) (hwo : WFS other)
    (h : c.connectCircuit other thisC otherC right name addP = .ok c') (hname : name ≠ "") :
    ∃ E, c'.blockIntoCircuit name = .ok E ∧
      (∀ b v, IsValB E b v → IsValB other (v ∘ connRen (connMapping thisC otherC) (connPre name addP))
        (v ∘ connRen (connMapping thisC otherC) (connPre name addP))) ∧
      E.inputs = other.inputs.map (connRen (connMapping thisC otherC) (connPre name addP)) ∧
      E.outputs = other.outputs.map (connRen (connMapping thisC otherC) (connPre name addP)) := by
  have hr := connect_records hwo.toWFG hw.nodup h hname
  obtain ⟨b, E, hb, hE⟩ := hr.returns_of_wfs hwo
  have hE' : c'.blockIntoCircuit name = .ok E := by unfold blockIntoCircuit; rw [hb]; exact hE
  exact ⟨E, hE', hr.sem hE'⟩

theorem et_block_extraction_left_total {c other c' : Circuit} {thisC otherC : List Label} {name : Label} {addP : Bool}
    (hw : WFS c) (hwo : WFS other)
    (h : c.connectCircuit other thisC otherC false name addP = .ok c') (hname : name ≠ "") :
    ∃ E, c'.blockIntoCircuit name = .ok E ∧ ∃ φ : Label → Label,
      (∀ l x, Dict.get? (connMapping thisC otherC) l = some x → φ l = x) ∧
      (∀ g ∈ other.gates, g.label ∉ otherC → φ g.label = connPre name addP ++ g.label) ∧
      (∀ b v, IsValB E b v → IsValB other (v ∘ φ) (v ∘ φ)) ∧
      E.inputs = other.inputs.map φ ∧ E.outputs = other.outputs.map φ := by
  obtain ⟨E, hE, hs⟩ := connect_extraction hw hwo h hname
  exact ⟨E, hE, _, fun _ _ => connRen_mapped, fun _ _ hn => connRen_copy (connMapping_not_mem hn), hs⟩

theorem et_block_extraction_right_total {c other c' : Circuit} {thisC otherC : List Label} {name : Label} {addP : Bool}
    (hw : WFS c) (hwo : WFS other)
    (h : c.connectCircuit other thisC otherC true name addP = .ok c') (hname : name ≠ "") :
    ∃ E, c'.blockIntoCircuit name = .ok E ∧ ∃ φ : Label → Label,
      (∀ l x, Dict.get? (connMapping thisC otherC) l = some x → φ l = x) ∧
      (∀ g ∈ other.gates, Dict.contains (connMapping thisC otherC) g.label = false → φ g.label = connPre name addP ++ g.label) ∧
      (∀ b v, IsValB E b v → IsValB other (v ∘ φ) (v ∘ φ)) ∧
      E.inputs = other.inputs.map φ ∧ E.outputs = other.outputs.map φ := by
  obtain ⟨E, hE, hs⟩ := connect_extraction hw hwo h hname
  exact ⟨E, hE, _, fun _ _ => connRen_mapped, fun _ _ => connRen_copy, hs⟩

#print axioms et_intoCircuit_total_left
#print axioms et_intoCircuit_total_right
#print axioms et_block_extraction_left_total
#print axioms et_block_extraction_right_total

end Cirbo
