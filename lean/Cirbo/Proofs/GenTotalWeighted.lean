import Cirbo.Proofs.GenTotalSum
import Cirbo.Proofs.GenWeighted
/-!
# Totality of the weighted sums: the level schemes and the level loops

That a level leaves a bit to return, and that its carries go in sorted one level up, is read off the cost and value
layers; what is proved here is that the fuel suffices: every turn raises the lowest level present, which stays below `inf`.
-/
namespace Cirbo

theorem labels_insertS (k : Nat) (ys : List Label) (s : List (Nat × Label)) (l : Label) :
    l ∈ (insertS k ys s).map (·.2) ↔ l ∈ s.map (·.2) ∨ l ∈ ys := by
  simp only [List.mem_map, mem_insertS, or_and_right, exists_or]
  exact or_congr_right ⟨fun ⟨_, ⟨y, hy, e⟩, h⟩ => by rw [e] at h; exact h ▸ hy, fun h => ⟨_, ⟨l, h, rfl⟩, rfl⟩⟩

theorem labels_insertP (k : Nat) (ps : List (Label × Label)) (s : List (Nat × Label × Label)) (l : Label) :
    l ∈ sa_pl ((insertP k ps s).map (·.2)) ↔ l ∈ sa_pl (s.map (·.2)) ∨ l ∈ sa_pl ps := by
  constructor
  · intro h
    obtain ⟨q, hq, hl⟩ := sa_mem_pl.mp h
    obtain ⟨x, hx, rfl⟩ := List.mem_map.mp hq
    rcases mem_insertP.mp hx with hx | ⟨p, hp, rfl⟩
    · exact Or.inl (sa_mem_pl.mpr ⟨_, List.mem_map_of_mem hx, hl⟩)
    · exact Or.inr (sa_mem_pl.mpr ⟨p, hp, hl⟩)
  · rintro (h | h)
    · obtain ⟨q, hq, hl⟩ := sa_mem_pl.mp h
      obtain ⟨x, hx, rfl⟩ := List.mem_map.mp hq
      exact sa_mem_pl.mpr ⟨_, List.mem_map_of_mem (mem_insertP.mpr (Or.inl hx)), hl⟩
    · obtain ⟨p, hp, hl⟩ := sa_mem_pl.mp h
      exact sa_mem_pl.mpr ⟨p, List.mem_map.mpr ⟨_, mem_insertP.mpr (Or.inr ⟨p, hp, rfl⟩), rfl⟩, hl⟩

theorem yields_wReduce3 {blk3 : List Label → Prog (List Label)} (hb : YBlock 3 blk3) (lvl : Nat) :
    ∀ (fuel : Nat) (nowR : List Label) (single : List (Nat × Label)),
    YieldsL (nowR ++ single.map (·.2)) (wReduce3 blk3 lvl fuel nowR single) (fun r => r.1 ++ r.2.map (·.2))
  | fuel + 1, a :: b :: c :: rest, single => by
    unfold wReduce3
    refine (hb [a, b, c] rfl).bind (by lmem) fun r hr => .pair2_bind hr ?_
    rintro x y rfl
    exact (yields_wReduce3 hb lvl fuel (x :: rest) (insertS (lvl + 1) [y] single)).sub (by lmem [labels_insertS])
  | 0, _, _ | _ + 1, [], _ | _ + 1, [_], _ | _ + 1, [_, _], _ => by unfold wReduce3; exact .ret (by lmem) trivial

theorem yields_wReduce2 {blk2 : List Label → Prog (List Label)} (hb : YBlock 2 blk2) (lvl : Nat) :
    ∀ (nowR : List Label) (single : List (Nat × Label)),
    YieldsL (nowR ++ single.map (·.2)) (wReduce2 blk2 lvl nowR single) (fun r => r.1 ++ r.2.map (·.2))
  | [a, b], single => by
    unfold wReduce2
    refine (hb [a, b] rfl).bind (by lmem) fun r hr => .pair2_bind hr ?_
    rintro x y rfl
    exact .ret (fun l => (by lmem [labels_insertS] : l ∈ [x] ++ (insertS (lvl + 1) [y] single).map (·.2) → _)) trivial
  | [], _ | [_], _ | _ :: _ :: _ :: _, _ => by unfold wReduce2; exact .ret (by lmem) trivial

theorem yields_wSimpleLevelWith {blk3 blk2 : List Label → Prog (List Label)} (h3 : YBlock 3 blk3) (h2 : YBlock 2 blk2)
    (lvl : Nat) {nowS : List Label} (single : List (Nat × Label)) (hne : nowS ≠ []) :
    YieldsL (nowS ++ single.map (·.2)) (wSimpleLevelWith blk3 blk2 lvl nowS single) (fun r => r.1 :: r.2.map (·.2)) := by
  unfold wSimpleLevelWith
  refine (yields_wReduce3 h3 lvl nowS.length nowS.reverse single).bindR (by lmem) ?_
  rintro ⟨n1, s1⟩ _ r1
  obtain ⟨_, c1⟩ := r1.cost
  rw [wReduce3_eq] at c1
  obtain ⟨_, _, _, a1, _⟩ := shape_reduce3With _ _ _ _ _ _ c1
  refine (yields_wReduce2 h2 lvl n1 s1).bindR (by lmem) ?_
  rintro ⟨n2, s2⟩ _ r2
  obtain ⟨_, c2⟩ := r2.cost
  have hn2 : n2 ≠ [] := by
    rcases shape_wReduce2 lvl c2 with ⟨_, b, _⟩ | ⟨_, rfl, _⟩
    · exact List.length_pos_iff.mp (by omega)
    · exact a1 (by simpa using hne)
  exact (Yields.firstOfRev hn2).bind (by lmem) fun r _ => .ret (by lmem) trivial

theorem yields_wSimpleLevel (b : Basis) (lvl : Nat) {nowS : List Label} (single : List (Nat × Label)) (hne : nowS ≠ []) :
    YieldsL (nowS ++ single.map (·.2)) (wSimpleLevel b lvl nowS single) (fun r => r.1 :: r.2.map (·.2)) := by
  cases b with
  | aig => exact yields_wSimpleLevelWith block_addSum3Aig block_addSum2Aig lvl single hne
  | xaig => exact yields_wSimpleLevelWith block_addSum3 block_addSum2 lvl single hne

/-- what a level loop keeps between two turns: `L` is a lower bound on the queued levels, every turn raises it, and the
fuel covers the levels `L … inf` -/
structure Turns (inf fuel L : Nat) {α} (lev : α → Nat) (q : List α) : Prop where
  sorted : LSorted lev q
  ge : ∀ x ∈ q, L ≤ lev x
  le : L ≤ inf
  covers : inf + 1 ≤ fuel + L

theorem Turns.next {inf n L lvl : Nat} {α} {lev : α → Nat} {q : List α} (h : Turns inf (n + 1) L lev q)
    (hmin : ∀ x ∈ q, lvl ≤ lev x) (hL : L ≤ lvl) (hlt : lvl < inf) {q' : List α}
    (hi : Inserted lev (lvl + 1) (takeLevel lev lvl q).2 q') : Turns inf n (lvl + 1) lev q' := by
  obtain ⟨t1, t2, _⟩ := takeLevel_rest lev lvl q h.sorted hmin
  have := h.covers
  exact ⟨hi.sorted t2, fun x hx => (hi.new x hx).elim (t1 x) fun e => Nat.le_of_eq e.symm, hlt, by omega⟩

theorem Turns.minLevel {inf n L : Nat} {single : List (Nat × Label)} {pairs : List (Nat × Label × Label)}
    (hS : Turns inf n L (·.1) single) (hP : Turns inf n L (·.1) pairs) (hlt : minLevel single pairs inf < inf) :
    (∀ x ∈ single, minLevel single pairs inf ≤ x.1) ∧ (∀ p ∈ pairs, minLevel single pairs inf ≤ p.1) ∧
    L ≤ minLevel single pairs inf ∧
    ((takeLevel (fun (x : Nat × Label) => x.1) (minLevel single pairs inf) single).1 ≠ [] ∨
      (takeLevel (fun (x : Nat × Label × Label) => x.1) (minLevel single pairs inf) pairs).1 ≠ []) := by
  obtain ⟨m1, m2, ⟨y, r, rfl, e⟩ | ⟨y, r, rfl, e⟩⟩ := minLevel_facts hS.sorted hP.sorted hlt
  · exact ⟨m1, m2, e ▸ hS.ge y List.mem_cons_self, Or.inl (takeLevel_fst_ne _ _ _ _ e)⟩
  · exact ⟨m1, m2, e ▸ hP.ge y List.mem_cons_self, Or.inr (takeLevel_fst_ne _ _ _ _ e)⟩

theorem yields_weightedNaiveLoop (b : Basis) (inf : Nat) :
    ∀ (fuel : Nat) (single res : List (Nat × Label)) (L : Nat), Turns inf fuel L (·.1) single →
    YieldsL (single.map (·.2) ++ res.map (·.2)) (weightedNaiveLoop b inf fuel single res) (fun r => r.map (·.2))
  | 0, _, _, _, h => by have := h.le; have := h.covers; omega
  | n + 1, single, res, L, h => by
    unfold weightedNaiveLoop
    by_cases he : single.isEmpty = true
    · simp only [he, if_true]
      exact .ret (by lmem) trivial
    · simp only [he, Bool.false_eq_true, if_false]
      by_cases hl : minLevel single [] inf ≥ inf
      · simp only [hl, if_true]
        exact .ret (by lmem) trivial
      · simp only [hl, if_false]
        have hlt := Nat.lt_of_not_le hl
        obtain ⟨m1, _, hLm, htk⟩ := h.minLevel ⟨List.Pairwise.nil, nofun, h.le, h.covers⟩ hlt
        have hne := htk.resolve_right fun e => e rfl
        have t4 := (takeLevel_spec (fun (x : Nat × Label) => x.1) (minLevel single [] inf) single).1
        have hnext := fun q' => h.next m1 hLm hlt (q' := q')
        generalize takeLevel (fun (x : Nat × Label) => x.1) (minLevel single [] inf) single = t at t4 hne hnext ⊢
        obtain ⟨nowS, rest⟩ := t
        dsimp only at t4 hne hnext ⊢
        subst t4
        refine (yields_wSimpleLevel b _ rest (by simpa using hne)).bindR (by lmem [List.map_append]) ?_
        rintro ⟨x, s'⟩ _ r1
        obtain ⟨_, e1⟩ := r1.sem
        obtain ⟨ys, rfl, _⟩ := sem_wSimpleLevel e1
        exact (yields_weightedNaiveLoop b inf n _ _ _ (hnext _ (ins_insertS _ ys rest))).sub
          (by lmem [List.map_append, List.map_cons, List.map_nil, labels_insertS])

/-- XAIG only: in the AIG basis the loop is the naive one (`weightedLoop_aig_eq`) -/
theorem yields_weightedLoop (inf : Nat) :
    ∀ (fuel : Nat) (single : List (Nat × Label)) (pairs : List (Nat × Label × Label)) (res : List (Nat × Label)) (L : Nat),
    Turns inf fuel L (·.1) single → Turns inf fuel L (·.1) pairs →
    YieldsL (single.map (·.2) ++ sa_pl (pairs.map (·.2)) ++ res.map (·.2)) (weightedLoop .xaig inf fuel single pairs res)
      (fun r => r.map (·.2))
  | 0, _, _, _, _, h, _ => by have := h.le; have := h.covers; omega
  | n + 1, single, pairs, res, L, hS, hP => by
    unfold weightedLoop
    by_cases he : (single.isEmpty && pairs.isEmpty) = true
    · simp only [he, if_true]
      exact .ret (by lmem) trivial
    · simp only [he, Bool.false_eq_true, if_false]
      by_cases hl : minLevel single pairs inf ≥ inf
      · simp only [hl, if_true]
        exact .ret (by lmem) trivial
      · simp only [hl, if_false]
        have hlt := Nat.lt_of_not_le hl
        obtain ⟨m1, m2, hLm, htk⟩ := hS.minLevel hP hlt
        have t4 := (takeLevel_spec (fun (x : Nat × Label) => x.1) (minLevel single pairs inf) single).1
        have u4 := (takeLevel_spec (fun (x : Nat × Label × Label) => x.1) (minLevel single pairs inf) pairs).1
        have nS := fun q' => hS.next m1 hLm hlt (q' := q')
        have nP := fun q' => hP.next m2 hLm hlt (q' := q')
        generalize takeLevel (fun (x : Nat × Label) => x.1) (minLevel single pairs inf) single = tS at htk t4 nS ⊢
        generalize takeLevel (fun (x : Nat × Label × Label) => x.1) (minLevel single pairs inf) pairs = tP at htk u4 nP ⊢
        obtain ⟨nowS, restS⟩ := tS
        obtain ⟨nowP, restP⟩ := tP
        dsimp only at t4 u4 nS nP htk ⊢
        subst t4 u4
        refine (yields_pairUp nowS.length (nowS.map (·.2)).reverse (nowP.map (·.2)).reverse).bindR ?_ ?_
        · lmem [List.map_append, sa_pl_append, sa_mem_pl_reverse]
        rintro ⟨soloR, pairsR⟩ _ r1
        obtain ⟨_, c1⟩ := r1.cost
        obtain ⟨a1, a3, _⟩ := shape_pairUp _ _ _ _ _ _ c1
        have hpos : 1 ≤ soloR.length + pairsR.length := by
          simp only [List.length_reverse, List.length_map] at a1 a3
          rcases htk with h | h <;> have := List.length_pos_iff.mpr h <;> omega
        refine (yields_xaigLevel hpos).bind (by lmem) ?_
        rintro ⟨r, nextS, nextP⟩ _
        exact (yields_weightedLoop inf n _ _ _ _ (nS _ (ins_insertS _ nextS restS)) (nP _ (ins_insertP _ nextP restP))).sub
          (by lmem [List.map_append, List.map_cons, List.map_nil, sa_pl_append, labels_insertS, labels_insertP])

end Cirbo
