import Cirbo.Proofs.PassMuo
import Cirbo.Proofs.PassRrg
/-!
The postconditions of MergeUnaryOperators need the maps to be defined wherever they are consulted, which no relation on
their entries says: `UInv` adds that along the topological order.
-/
namespace Cirbo

/-- the gate labelled `l` is a negation (`NOT`, `LNOT`, `RNOT`) -/
def isNotAt (c : Circuit) (l : Label) : Bool :=
  match c.find? l with | some g => isNotLike g.ty | none => false
/-- the gate labelled `l` is a buffer (`IFF`, `LIFF`, `RIFF`) -/
def isIffAt (c : Circuit) (l : Label) : Bool :=
  match c.find? l with | some g => isIffLike g.ty | none => false
/-- the significant operand of the gate labelled `l` (`_unary_to_operand_getter`) -/
def unaryOperandAt (c : Circuit) (l : Label) : Option Label := (c.find? l).bind unaryOperand

/-- a negation directly on something that is not a negation -/
def FirstNeg (c : Circuit) (l : Label) : Prop :=
  isNotAt c l = true ∧ ∃ o, unaryOperandAt c l = some o ∧ isNotAt c o = false
/-- what a negation chain is redirected to -/
def NegNormal (c : Circuit) (l : Label) : Prop := isNotAt c l = false ∨ FirstNeg c l

/-- the maps after the labels `pre` of the topological order: defined where the postconditions consult them, with entries
in normal form -/
structure UInv (c : Circuit) (pre : List Label) (m : MuoMaps) : Prop where
  iffDef : ∀ x ∈ pre, isIffAt c x = true → ∃ p, Dict.get? m.iff x = some p
  oddDef : ∀ x ∈ pre, isNotAt c x = true → ∃ p, Dict.get? m.odd x = some p
  evenDef : ∀ x ∈ pre, isNotAt c x = true → Dict.get? m.even x = none → FirstNeg c x
  sat : m.Sat (fun _ p => NegNormal c p) (fun _ p => NegNormal c p) (fun _ p => isIffAt c p = false)

theorem muoUpd_uinv {c : Circuit} {pre : List Label} {m m' : MuoMaps} {l : Label}
    (inv : UInv c pre m) (hops : ∀ g, c.find? l = some g → ∀ o ∈ g.ops, o ∈ pre)
    (h : MuoUpd c m l m') : UInv c (pre ++ [l]) m' := by
  have hsat : m'.Sat (fun _ p => NegNormal c p) (fun _ p => NegNormal c p) (fun _ p => isIffAt c p = false) := by
    refine muoUpd_sat (fun g o hf _ ho => ⟨fun hev => ?_, fun _ hq => hq, fun _ hp => hp⟩)
      (fun g o hf _ ho => ⟨fun hev => ?_, fun _ hq => hq⟩) inv.sat h
    · exact (Bool.eq_false_or_eq_true _).symm.imp_right fun hh =>
        inv.evenDef o (hops g hf o (unaryOperand_mem ho)) hh hev
    · cases hh : isIffAt c o with
      | false => rfl
      | true => obtain ⟨p, hp⟩ := inv.iffDef o (hops g hf o (unaryOperand_mem ho)) hh; rw [hp] at hev; cases hev
  obtain ⟨g, hf, h⟩ := h
  have hnl : isNotAt c l = isNotLike g.ty := by simp [isNotAt, hf]
  have hil : isIffAt c l = isIffLike g.ty := by simp [isIffAt, hf]
  -- a clause about the labels met so far extends to `l` if it holds of `l`
  have ext : ∀ {P : Label → Prop}, (∀ x ∈ pre, P x) → P l → ∀ x ∈ pre ++ [l], P x := by
    intro P h1 h2 x hx
    rcases List.mem_append.mp hx with hx | hx
    · exact h1 x hx
    · exact List.mem_singleton.mp hx ▸ h2
  split at h
  · rename_i hn
    obtain ⟨o, ho, rfl⟩ := h
    have hi : isIffAt c l = false := by
      rw [hil]; cases hg : g.ty <;> simp [isNotLike, isIffLike, hg] at hn ⊢
    refine ⟨ext inv.iffDef (fun hxi => by rw [hi] at hxi; cases hxi),
      ext (fun x hx hxn => Dict.get?_set_defined (inv.oddDef x hx hxn)) (fun _ => ?_),
      ext (fun x hx hxn hev => ?_) (fun hxn hev => ?_), hsat⟩
    · exact ⟨(Dict.get? m.even o).getD o, by simp [MuoMaps.neg, Dict.get?_set]⟩
    · refine inv.evenDef x hx hxn ?_
      simp only [MuoMaps.neg] at hev
      split at hev
      · rw [Dict.get?_set] at hev
        split at hev
        · cases hev
        · exact hev
      · exact hev
    · -- no entry for `l` was written: the operand is not a (processed) negation
      simp only [MuoMaps.neg] at hev
      split at hev
      · simp [Dict.get?_set] at hev
      · rename_i hod
        refine ⟨hxn, o, by simp [unaryOperandAt, hf, ho], ?_⟩
        cases hh : isNotAt c o with
        | false => rfl
        | true =>
          obtain ⟨p, hp⟩ := inv.oddDef o (hops g hf o (unaryOperand_mem ho)) hh
          rw [hp] at hod; cases hod
  · rename_i hn
    have hnl' : isNotAt c l = false := by rw [hnl]; simpa using hn
    have hodd := ext inv.oddDef (fun hxn => by rw [hnl'] at hxn; cases hxn)
    have heven := ext inv.evenDef (fun hxn => by rw [hnl'] at hxn; cases hxn)
    split at h
    · obtain ⟨o, ho, rfl⟩ := h
      exact ⟨ext (fun x hx hxi => Dict.get?_set_defined (inv.iffDef x hx hxi))
        (fun _ => ⟨(Dict.get? m.iff o).getD o, by simp [MuoMaps.buf, Dict.get?_set]⟩), hodd, heven, hsat⟩
    · rename_i hi
      subst h
      exact ⟨ext inv.iffDef (fun hxi => by rw [hil] at hxi; exact absurd hxi hi), hodd, heven, hsat⟩

theorem isNotAt_of_gate {c : Circuit} (hnd : c.labels.Nodup) {g : Gate} (hg : g ∈ c.gates) :
    isNotAt c g.label = isNotLike g.ty := by simp [isNotAt, find_label hnd hg]
theorem isIffAt_of_gate {c : Circuit} (hnd : c.labels.Nodup) {g : Gate} (hg : g ∈ c.gates) :
    isIffAt c g.label = isIffLike g.ty := by simp [isIffAt, find_label hnd hg]

theorem muo_remapped {c c' : Circuit} (hw : WFS c) (h : muo c = .ok c') :
    ∃ m, UInv c c.labels m ∧ c'.labels.Nodup ∧
      (∀ g' ∈ c'.gates, ∃ g ∈ c.gates, g' = ⟨g.label, g.ty, g.ops.map (muoRemap c m)⟩) ∧
      c'.outputs = c.outputs.map (muoRemap c m) := by
  obtain ⟨order, m, hts, hmm⟩ := muo_maps_of_ok h
  obtain ⟨order0, ho0, hperm, hbefore⟩ := topSort_inv_spec hw.toWFG
  obtain rfl : order0 = order := by rw [ho0] at hts; cases hts; rfl
  obtain ⟨c1, ⟨h1, hp, _⟩, hgs, hout⟩ := muo_run hw hts hmm
  cases h.symm.trans h1
  have inv : UInv c order0 m :=
    muoMaps_induct (P := fun pre m => UInv c pre m)
      ⟨fun _ h => (nomatch h), fun _ h => (nomatch h), fun _ h => (nomatch h), MuoMaps.sat_empty _ _ _⟩
      (fun p l q _ _ hL inv hs => muoUpd_uinv inv (fun g hg o ho => by
        obtain ⟨hgm, hgl⟩ := find_some_mem hg
        exact hbefore p l q hL g hgm hgl o ho) hs) hmm
  -- the invariant speaks about membership only: move from the order to the labels
  exact ⟨m, ⟨fun x hx => inv.iffDef x (hperm.mem_iff.mpr hx), fun x hx => inv.oddDef x (hperm.mem_iff.mpr hx),
     fun x hx => inv.evenDef x (hperm.mem_iff.mpr hx), inv.sat⟩, hp.wfs.nodup, hgs, hout⟩

theorem muoRemap_eq (c : Circuit) (m : MuoMaps) (l : Label) :
    muoRemap c m l = if isNotAt c l then (Dict.get? m.even l).getD l
      else if isIffAt c l then (Dict.get? m.iff l).getD l else l := by
  unfold muoRemap isNotAt isIffAt
  cases c.find? l <;> rfl

theorem isAt_mem {c : Circuit} {l : Label} (h : isNotAt c l = true ∨ isIffAt c l = true) : l ∈ c.labels := by
  unfold isNotAt isIffAt at h
  cases hf : c.find? l with
  | none => simp [hf] at h
  | some g => exact (find_some_mem hf).2 ▸ mem_labels_of_mem (find_some_mem hf).1

theorem muoRemap_not_iff {c : Circuit} {m : MuoMaps} (inv : UInv c c.labels m)
    (hnn : ∀ l, isNotAt c l = false) (x : Label) : isIffAt c (muoRemap c m x) = false := by
  rw [muoRemap_eq, hnn x]
  cases hi : isIffAt c x with
  | false => simpa using hi
  | true =>
    obtain ⟨p, hp⟩ := inv.iffDef x (isAt_mem (.inr hi)) hi
    simpa [hp] using inv.sat.iff x p hp

theorem muoRemap_negNormal {c : Circuit} {m : MuoMaps} (inv : UInv c c.labels m)
    (hni : ∀ l, isIffAt c l = false) (x : Label) : NegNormal c (muoRemap c m x) := by
  rw [muoRemap_eq, hni x]
  cases hn : isNotAt c x with
  | false => simpa using show NegNormal c x from .inl hn
  | true =>
    cases hev : Dict.get? m.even x with
    | some p => simpa using inv.sat.even x p hev
    | none => simpa using show NegNormal c x from .inr (inv.evenDef x (isAt_mem (.inl hn)) hn hev)

theorem muoRemap_plain {c : Circuit} {m : MuoMaps} {x : Label} (h1 : isNotAt c x = false) (h2 : isIffAt c x = false) :
    muoRemap c m x = x := by
  simp [muoRemap_eq, h1, h2]

theorem isAt_of_shape {c c' : Circuit} (hnd : c.labels.Nodup) (sh : SameShape c c') (l : Label) :
    (isNotAt c l = false → isNotAt c' l = false) ∧ (isIffAt c l = false → isIffAt c' l = false) := by
  cases hf : c'.find? l with
  | none => simp [isNotAt, isIffAt, hf]
  | some g' =>
    obtain ⟨hgm, rfl⟩ := find_some_mem hf
    obtain ⟨g, hg, e1, e2, -⟩ := sh g' hgm
    rw [e1] at hf
    simp [isNotAt, isIffAt, hf, e1, e2, find_label hnd hg]

theorem muo_no_buffer {c c' : Circuit} (hw : WFS c) (hnn : ∀ g ∈ c.gates, isNotLike g.ty = false)
    (h : muo c = .ok c') :
    (∀ g' ∈ c'.gates, ∀ o ∈ g'.ops, isIffAt c' o = false) ∧ (∀ o ∈ c'.outputs, isIffAt c' o = false) := by
  obtain ⟨m, inv, hnd', hgs, hout⟩ := muo_remapped hw h
  have hnn' : ∀ l, isNotAt c l = false := by
    intro l
    unfold isNotAt
    cases hf : c.find? l with
    | none => rfl
    | some g => exact hnn g (find_some_mem hf).1
  have key : ∀ x, isIffAt c' (muoRemap c m x) = false := fun x =>
    (isAt_of_shape hw.nodup (muo_spec hw h).shape _).2 (muoRemap_not_iff inv hnn' x)
  constructor
  · intro g' hg' o ho
    obtain ⟨g, _, rfl⟩ := hgs g' hg'
    simp only [List.mem_map] at ho
    obtain ⟨x, _, rfl⟩ := ho
    exact key x
  · intro o ho
    rw [hout] at ho
    obtain ⟨x, _, rfl⟩ := List.mem_map.mp ho
    exact key x

theorem unaryOperand_map (l : Label) (ty : GateType) (ops : List Label) (f : Label → Label) :
    unaryOperand ⟨l, ty, ops.map f⟩ = (unaryOperand ⟨l, ty, ops⟩).map f := by
  unfold unaryOperand
  simp only
  split <;> simp [List.getElem?_map]

theorem muo_reach_remap {c c' : Circuit} {f : Label → Label} (hnd' : c'.labels.Nodup)
    (hg : ∀ g' ∈ c'.gates, ∃ g ∈ c.gates, g' = ⟨g.label, g.ty, g.ops.map f⟩)
    (hout : c'.outputs = c.outputs.map f) {l : Label} (h : Reach c'.opsOf c'.outputs l) : ∃ x, l = f x := by
  refine reach_outputs_induct (P := fun l => ∃ x, l = f x) hnd' (fun o ho => ?_) (fun g' hg' o ho => ?_) h
  · obtain ⟨x, _, rfl⟩ := List.mem_map.mp (hout ▸ ho)
    exact ⟨x, rfl⟩
  · obtain ⟨g, _, rfl⟩ := hg g' hg'
    obtain ⟨x, _, rfl⟩ := List.mem_map.mp ho
    exact ⟨x, rfl⟩

theorem muo_no_double_neg {c c' : Circuit} (hw : WFS c) (hni : ∀ g ∈ c.gates, isIffLike g.ty = false)
    (h : muo c = .ok c') :
    ∀ l, Reach c'.opsOf c'.outputs l → isNotAt c' l = true → ∀ o, unaryOperandAt c' l = some o → isNotAt c' o = false := by
  obtain ⟨m, inv, hnd', hgs, hout⟩ := muo_remapped hw h
  have hni' : ∀ l, isIffAt c l = false := by
    intro l
    unfold isIffAt
    cases hf : c.find? l with
    | none => rfl
    | some g => exact hni g (find_some_mem hf).1
  intro l hl hln o ho
  obtain ⟨x, rfl⟩ := muo_reach_remap hnd' hgs hout hl
  have sh := isAt_of_shape hw.nodup (muo_spec hw h).shape
  rcases muoRemap_negNormal inv hni' x with hk | ⟨_, o0, hs0, hn0⟩
  · rw [(sh _).1 hk] at hln; cases hln
  · cases hf' : c'.find? (muoRemap c m x) with
    | none => simp [unaryOperandAt, hf'] at ho
    | some g' =>
      obtain ⟨hgm, hgl⟩ := find_some_mem hf'
      obtain ⟨g, hgc, rfl⟩ := hgs g' hgm
      simp only at hgl
      have hfc := find_label hw.nodup hgc
      rw [hgl] at hfc
      simp only [unaryOperandAt, hfc, Option.bind_some] at hs0
      simp only [unaryOperandAt, hf', Option.bind_some, unaryOperand_map] at ho
      have hgeq : (⟨g.label, g.ty, g.ops⟩ : Gate) = g := rfl
      rw [hgeq, hs0] at ho
      simp only [Option.map_some, Option.some.injEq] at ho
      rw [muoRemap_plain hn0 (hni' o0)] at ho
      exact ho ▸ (sh o0).1 hn0

theorem muo_rrg_no_double_neg {c c' c'' : Circuit} {allow : Bool} (hw : WFS c)
    (hni : ∀ g ∈ c.gates, isIffLike g.ty = false) (h : muo c = .ok c') (h2 : rrg allow c' = .ok c'') :
    ∀ g ∈ c''.gates, isNotLike g.ty = true → ∀ o, unaryOperand g = some o → isNotAt c'' o = false := by
  have w' := (muo_spec hw h).preserves.wfs
  have hsub := (rrg_spec w' h2).sub
  have hmain := muo_no_double_neg hw hni h
  intro g hg hgn o ho
  obtain ⟨hg', hreach⟩ := rrg_gate_reach w' h2 hg (unary_ne_input (.inl hgn))
  have hn' : isNotAt c' g.label = true := by rw [isNotAt_of_gate w'.nodup hg']; exact hgn
  have hs' : unaryOperandAt c' g.label = some o := by simp [unaryOperandAt, find_label w'.nodup hg', ho]
  exact (isAt_of_shape w'.nodup (fun g hg => ⟨g, hsub g hg, rfl, rfl, rfl⟩) o).1 (hmain g.label hreach hn' o hs')

theorem muo_rrg_no_buffer {c c' c'' : Circuit} {allow : Bool} (hw : WFS c)
    (hnn : ∀ g ∈ c.gates, isNotLike g.ty = false) (h : muo c = .ok c') (h2 : rrg allow c' = .ok c'') :
    (∀ g ∈ c''.gates, ∀ o ∈ g.ops, isIffAt c'' o = false) ∧ (∀ o ∈ c''.outputs, isIffAt c'' o = false) := by
  have w' := (muo_spec hw h).preserves.wfs
  have s := rrg_spec w' h2
  have hsub := s.sub
  obtain ⟨h1, h3⟩ := muo_no_buffer hw hnn h
  have tr : ∀ o, isIffAt c' o = false → isIffAt c'' o = false := fun o =>
    (isAt_of_shape w'.nodup (fun g hg => ⟨g, hsub g hg, rfl, rfl, rfl⟩) o).2
  exact ⟨fun g hg o ho => tr o (h1 g (hsub g hg) o ho), fun o ho => tr o (h3 o (s.outputs ▸ ho))⟩

end Cirbo
