import Cirbo.Proofs.Connect
import Cirbo.Proofs.DictLemmas
/-!
# `connect_circuit`: the connector mapping, `recordGate`, `rewire`, and that the block stage returns
-/
namespace Cirbo
open GateType

theorem topo_prefix {other : Circuit} {order done rest : List Label} {cur : Label} (hnd : order.Nodup)
    (hord : ∀ p l q, order = p ++ l :: q → ∀ g ∈ other.gates, g.label = l → ∀ o ∈ g.ops, o ∈ p)
    (e : order = done ++ cur :: rest) :
    cur ∉ done ∧ ∀ g, other.find? cur = some g → ∀ o ∈ g.ops, o ∈ done :=
  ⟨fun hm => (List.nodup_append.mp (e ▸ hnd)).2.2 cur hm cur (by simp) rfl,
    fun g hf => hord done cur rest e g (find_some_mem hf).1 (find_some_mem hf).2⟩

/-- the pairs `(other connector, this connector)`, the last one of a key first -/
theorem connMapping_get? (thisC otherC : List Label) (k : Label) :
    Dict.get? (connMapping thisC otherC) k = Dict.get? (otherC.zip thisC).reverse k :=
  Dict.get?_foldl_set_nil _ k

theorem connMapping_mem_zip {thisC otherC : List Label} {k x : Label}
    (h : Dict.get? (connMapping thisC otherC) k = some x) : (k, x) ∈ otherC.zip thisC :=
  List.mem_reverse.mp (Dict.mem_of_get? ((connMapping_get? ..).symm.trans h))

theorem connMapping_not_mem {thisC otherC : List Label} {l : Label} (hl : l ∉ otherC) :
    Dict.contains (connMapping thisC otherC) l = false := by
  cases hc : Dict.get? (connMapping thisC otherC) l with
  | none => simp [Dict.contains, hc]
  | some x => exact absurd (List.of_mem_zip (connMapping_mem_zip hc)).1 hl

theorem connMapping_mem {thisC otherC : List Label} (hlen : thisC.length = otherC.length) {l : Label}
    (hl : l ∈ otherC) : Dict.contains (connMapping thisC otherC) l = true := by
  unfold Dict.contains
  rw [connMapping_get?]
  exact contains_iff_mem_keys.mpr (by rwa [List.map_reverse, List.mem_reverse, List.map_fst_zip (by omega)])

theorem connMapping_inj {thisC otherC : List Label} (hnd : thisC.Nodup) {k1 k2 x : Label}
    (h1 : Dict.get? (connMapping thisC otherC) k1 = some x) (h2 : Dict.get? (connMapping thisC otherC) k2 = some x) :
    k1 = k2 :=
  zip_snd_inj otherC thisC k1 k2 x hnd (connMapping_mem_zip h1) (connMapping_mem_zip h2)

theorem mem_recordGate {ty : GateType} {l x : Label} {fb : List Label} :
    x ∈ recordGate ty l fb ↔ x ∈ fb ∨ (ty ≠ INPUT ∧ x = l) := by
  unfold recordGate
  by_cases ht : ty = INPUT
  · simp [ht]
  · by_cases hc : l ∈ fb
    · simp only [ht, hc, ne_eq, not_false_eq_true, decide_true, List.contains_eq_mem, Bool.not_true, Bool.and_false,
        Bool.false_eq_true, if_false, true_and]
      exact ⟨Or.inl, fun h => h.elim id (fun e => e ▸ hc)⟩
    · simp [ht, hc]

theorem nodup_recordGate {ty : GateType} {l : Label} {fb : List Label} (h : fb.Nodup) : (recordGate ty l fb).Nodup := by
  unfold recordGate
  split
  · rename_i hc
    simp only [Bool.and_eq_true, Bool.not_eq_true', List.contains_eq_mem, decide_eq_false_iff_not] at hc
    exact List.nodup_append.mpr ⟨h, by simp, fun a ha b hb => by
      simp only [List.mem_singleton] at hb; exact fun e => hc.2 (hb ▸ e ▸ ha)⟩
  · exact h

theorem rewire_eq {c : Circuit} {g : Gate} (h : g.label ∈ c.labels) :
    rewire c g = (g.ops.foldl (fun c o => c.addUser o g.label) c).setGate g := by
  unfold rewire
  have : (g.ops.foldl (fun c o => c.addUser o g.label) c).hasGate g.label = true := by
    rw [hasGate_iff]; unfold Circuit.labels; rw [(foldl_addUser_sameNet _ _ _).gates]; exact h
  simp only [this, if_true]

theorem rewire_fields {c : Circuit} {g : Gate} (h : g.label ∈ c.labels) :
    (rewire c g).gates = c.gates.map (replG g) ∧ (rewire c g).labels = c.labels ∧
    (rewire c g).outputs = c.outputs ∧ (rewire c g).blocks = c.blocks := by
  obtain ⟨h1, _, h3, h4⟩ := foldl_addUser_sameNet g.ops c g.label
  have hg : (rewire c g).gates = c.gates.map (replG g) := by rw [rewire_eq h, (setGate_fields _ _).1, h1]
  refine ⟨hg, ?_, ?_, ?_⟩
  · unfold Circuit.labels; rw [hg, labels_map_replG]
  · rw [rewire_eq h, (setGate_fields _ _).2.2, h3]
  · rw [rewire_eq h]; exact h4

theorem UsersOK.rewire {c : Circuit} {g : Gate} (h : UsersOK c) (hnd : c.labels.Nodup)
    (hold : (⟨g.label, INPUT, []⟩ : Gate) ∈ c.gates) : UsersOK (rewire c g) := fun l u => by
  have hlbl : g.label ∈ c.labels := mem_labels_of_mem (g := ⟨g.label, INPUT, []⟩) hold
  rw [(rewire_fields hlbl).1, rewire_eq hlbl, setGate_usersOf, usersOf_foldl_addUser, List.count_append,
    count_replicate_label, contrib_replG (g := ⟨g.label, INPUT, []⟩) (g' := g) hnd hold rfl, h l u]
  have hc0 := contrib_of_mem (G := c.gates) hnd hold l
  simp only [List.count_nil] at hc0
  by_cases hu : u = g.label
  · subst hu
    simp only [if_true]
    omega
  · simp only [hu, Ne.symm hu, if_false, Nat.add_zero]

theorem bfold_ok {o2n : Dict Label} {pre : String} : ∀ (bs : List Block) (cc : Circuit),
    (∀ b ∈ bs, cc.blocks.any (fun x => x.name == pre ++ b.name) = false) → (bs.map (·.name)).Nodup →
    (∀ b ∈ bs, ∀ l, l ∈ b.inputs ∨ l ∈ b.gates ∨ l ∈ b.outputs → ∃ x, Dict.get? o2n l = some x) →
    ∃ c3, bs.foldl (bstepFn o2n pre) (.ok cc) = .ok c3 := by
  intro bs
  induction bs with
  | nil => intro cc _ _ _; exact ⟨cc, rfl⟩
  | cons b r ih =>
    intro cc hn hnd hl
    obtain ⟨i, hi⟩ := mapLabels_ok_of_all o2n b.inputs (fun l h => hl b (by simp) l (Or.inl h))
    obtain ⟨g, hg⟩ := mapLabels_ok_of_all o2n b.gates (fun l h => hl b (by simp) l (Or.inr (Or.inl h)))
    obtain ⟨o, ho⟩ := mapLabels_ok_of_all o2n b.outputs (fun l h => hl b (by simp) l (Or.inr (Or.inr h)))
    rw [List.foldl_cons, bstepFn_ok_iff.mpr ⟨hn b (by simp), i, g, o, hi, hg, ho, rfl⟩]
    have hnd' := List.nodup_cons.mp (by simpa using hnd : (b.name :: r.map (·.name)).Nodup)
    refine ih _ (fun b' hb' => ?_) hnd'.2 (fun b' hb' => hl b' (by simp [hb']))
    -- the name just used differs from the later ones, the prefix being the same
    simp only [List.any_append, List.any_cons, List.any_nil, Bool.or_false, Bool.or_eq_false_iff,
      beq_eq_false_iff_ne, ne_eq]
    exact ⟨hn b' (by simp [hb']), fun e => hnd'.1 ((String.append_right_inj pre).mp e ▸ List.mem_map_of_mem hb')⟩

end Cirbo
