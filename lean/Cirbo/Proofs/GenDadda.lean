import Cirbo.Proofs.GenMul
/-!
# The Dadda multiplier computes the product (C08)

The partial products are kept as columns; every stage keeps `colsVal` modulo `2^width` and brings the columns below
its bound, until `heads` can read the product off.
-/
namespace Cirbo

/-- value of a column matrix: column `i` has weight `2^i` -/
def colsVal (v : Label → Bool) : List (List Label) → Nat
  | [] => 0
  | col :: rest => cnt v col + 2 * colsVal v rest

theorem colsVal_replicate_nil (v : Label → Bool) (n : Nat) : colsVal v (List.replicate n []) = 0 := by
  induction n with
  | zero => rfl
  | succ n ih => simp [List.replicate_succ, colsVal, ih, cnt]

theorem colAppend_eq_set (c : List (List Label)) (i : Nat) (x : Label) : colAppend c i x = c.set i (c.getD i [] ++ [x]) :=
  List.zipIdx_map_eq_set (fun (col : List Label) => col ++ [x]) [] i c

theorem colsVal_set (v : Label → Bool) : ∀ (c : List (List Label)) (i : Nat) (col' : List Label), i < c.length →
    colsVal v (c.set i col') + 2 ^ i * cnt v (c.getD i []) = colsVal v c + 2 ^ i * cnt v col' := by
  intro c
  induction c with
  | nil => intro i col' h; simp at h
  | cons col rest ih =>
    intro i col' h
    cases i with
    | zero => simp only [List.set_cons_zero, colsVal, List.getD_cons_zero]; omega
    | succ i =>
      simp only [List.set_cons_succ, colsVal, List.getD_cons_succ]
      have := ih i col' (by simpa using h)
      rw [Nat.pow_succ', Nat.mul_assoc, Nat.mul_assoc]
      omega

theorem colAppend_length (c : List (List Label)) (i : Nat) (x : Label) : (colAppend c i x).length = c.length := by
  rw [colAppend_eq_set, List.length_set]

theorem colsVal_colAppend (v : Label → Bool) (c : List (List Label)) (i : Nat) (x : Label) (h : i < c.length) :
    colsVal v (colAppend c i x) = colsVal v c + 2 ^ i * bv v x := by
  have := colsVal_set v c i (c.getD i [] ++ [x]) h
  rw [cnt_append, cnt_cons, cnt_nil, Nat.add_zero, Nat.mul_add] at this
  rw [colAppend_eq_set]
  omega

theorem colAppend_getD (c : List (List Label)) (i k : Nat) (x : Label) :
    (colAppend c i x).getD k [] = if k = i ∧ i < c.length then c.getD k [] ++ [x] else c.getD k [] := by
  rw [colAppend_eq_set, List.getD_set]
  split
  · rename_i h; rw [h.1]
  · rfl

/-- the body of the inner fold of `ppColumns`, under a name -/
def rowStep (bi : Label) (i : Nat) (acc : Prog (List (List Label))) (aj : Label × Nat) : Prog (List (List Label)) := do
  let cc ← acc
  let g ← emitTT aj.1 bi t0001
  pure (colAppend cc (i + aj.2) g)

theorem rowsCover_bits (s m k : Nat) : rowsCover s m 1 k = if s ≤ k ∧ k < s + m then 1 else 0 := by
  rw [rowsCover_eq, Nat.add_sub_cancel]
  split
  · rename_i h
    rw [Nat.min_eq_right (by omega), Nat.max_eq_right h.1, Nat.add_sub_cancel_left]
  · exact Nat.sub_eq_zero_of_le (by omega)

theorem sem_rowFold {v : Label → Bool} {bi : Label} {i : Nat} : ∀ (a : List Label) (s : Nat) (acc : Prog (List (List Label)))
    (out : List (List Label)), Sem ((a.zipIdx s).foldl (rowStep bi i) acc) v out →
    ∃ c0, Sem acc v c0 ∧ (i + s + a.length ≤ c0.length →
      out.length = c0.length ∧ colsVal v out = colsVal v c0 + 2 ^ (i + s) * (bv v bi * valLE v a) ∧
      ∀ k, (out.getD k []).length = (c0.getD k []).length + rowsCover (i + s) a.length 1 k) := by
  intro a
  induction a with
  | nil =>
    intro s acc out h
    exact ⟨out, h, fun _ => ⟨rfl, by simp [valLE], fun k => by simp [rowsCover]⟩⟩
  | cons x t ih =>
    intro s acc out h
    simp only [List.zipIdx_cons, List.foldl_cons] at h
    obtain ⟨c1, h1, hrel⟩ := ih (s + 1) _ out h
    simp only [rowStep, sem_bind, sem_pure] at h1
    obtain ⟨cc, hcc, g, hg, rfl⟩ := h1
    refine ⟨cc, hcc, ?_⟩
    intro hlen
    rw [List.length_cons] at hlen
    rw [colAppend_length] at hrel
    have hlt : i + s < cc.length := by omega
    obtain ⟨r1, r2, r3⟩ := hrel (by omega)
    have hgv : bv v g = bv v bi * bv v x := (bv_emitAnd hg).trans (Nat.mul_comm _ _)
    refine ⟨r1, ?_, ?_⟩
    · rw [r2, colsVal_colAppend v cc (i + s) g hlt, hgv, valLE, mul_horner, ← Nat.add_assoc i, Nat.pow_succ', Nat.add_assoc]
    · intro k
      rw [r3 k, colAppend_getD, List.length_cons, rowsCover_succ, Nat.add_assoc i]
      split <;> split <;> simp <;> omega

theorem sem_ppColumns {v : Label → Bool} {a : List Label} : ∀ (b : List Label) (s : Nat) (c out : List (List Label)),
    Sem (ppColumns a (b.zipIdx s) c) v out → (b ≠ [] → s + b.length + a.length ≤ c.length + 1) →
    out.length = c.length ∧ colsVal v out = colsVal v c + 2 ^ s * (valLE v a * valLE v b) ∧
    ∀ k, (out.getD k []).length = (c.getD k []).length + rowsCover s b.length a.length k := by
  intro b
  induction b with
  | nil =>
    intro s c out h _
    simp only [List.zipIdx_nil, ppColumns, sem_pure] at h
    subst h
    exact ⟨rfl, by simp [valLE], fun k => by simp [rowsCover]⟩
  | cons bi t ih =>
    intro s c out h hlen
    simp only [List.zipIdx_cons, ppColumns, sem_bind] at h
    obtain ⟨c1, h1, hrec⟩ := h
    obtain ⟨c0, hc0, hrow⟩ := sem_rowFold a 0 (pure c) c1 h1
    rw [sem_pure] at hc0
    subst hc0
    have hl := hlen (by simp)
    rw [List.length_cons] at hl
    obtain ⟨r1, r2, r3⟩ := hrow (by omega)
    obtain ⟨q1, q2, q3⟩ := ih (s + 1) c1 out hrec (by intro _; rw [r1]; omega)
    refine ⟨q1.trans r1, ?_, ?_⟩
    · rw [q2, r2, valLE, mul_horner, Nat.add_zero, Nat.pow_succ', Nat.mul_comm (bv v bi), Nat.add_assoc]
    · intro k
      rw [q3 k, r3 k, List.length_cons, rowsCover_succ, rowsCover_bits, Nat.add_zero]
      omega

/-- what one reduction step of a column does to the matrix: the bits `taken` from column `i` are
replaced by their sum bit, the carry goes to column `i + 1` or, past the width, is dropped -/
theorem reduce_step (v : Label → Bool) (c : List (List Label)) (i width : Nat) (hi : i < c.length) (hw : c.length = width)
    (taken rest : List Label) (g1 g2 : Label) (hcol : c.getD i [] = taken ++ rest)
    (hsum : bv v g1 + 2 * bv v g2 = cnt v taken) :
    let c1 := c.set i (rest ++ [g1])
    let c2 := if i + 1 < width then colAppend c1 (i + 1) g2 else c1
    c2.length = c.length ∧ colsVal v c2 % 2 ^ width = colsVal v c % 2 ^ width ∧
    c2.getD i [] = rest ++ [g1] ∧ (∀ k, k < i → c2.getD k [] = c.getD k []) := by
  intro c1 c2
  have hc1 : colsVal v c = colsVal v c1 + 2 ^ (i + 1) * bv v g2 := by
    have hset : colsVal v c1 + _ = _ := colsVal_set v c i (rest ++ [g1]) hi
    rw [hcol, cnt_append, cnt_append, ← hsum, cnt_cons, cnt_nil] at hset
    simp only [Nat.mul_add, Nat.mul_left_comm _ 2, Nat.mul_zero] at hset
    rw [Nat.pow_succ', Nat.mul_assoc]
    omega
  have hc1len : c1.length = c.length := List.length_set
  have hget : ∀ k, k ≤ i → c2.getD k [] = c1.getD k [] := by
    intro k hk
    show (if i + 1 < width then colAppend c1 (i + 1) g2 else c1).getD k [] = _
    split
    · rw [colAppend_getD, if_neg (by omega)]
    · rfl
  refine ⟨?_, ?_, by rw [hget i (Nat.le_refl i), List.getD_set, if_pos ⟨rfl, hi⟩],
    fun k hk => by rw [hget k (by omega), List.getD_set, if_neg (by omega)]⟩
  · show (if i + 1 < width then colAppend c1 (i + 1) g2 else c1).length = _
    split
    · rw [colAppend_length, hc1len]
    · exact hc1len
  · show colsVal v (if i + 1 < width then colAppend c1 (i + 1) g2 else c1) % _ = _
    split
    · rw [colsVal_colAppend v c1 _ g2 (by omega), hc1]
    · rw [hc1, show i + 1 = width by omega, Nat.add_mul_mod_self_left]

theorem sem_daddaColumn {v : Label → Bool} {di i width : Nat} : ∀ (fuel : Nat) (c out : List (List Label)),
    Sem (daddaColumn di i width fuel c) v out → i < c.length → c.length = width →
    out.length = c.length ∧ colsVal v out % 2 ^ width = colsVal v c % 2 ^ width ∧
    (∀ k, k < i → out.getD k [] = c.getD k []) ∧ ((c.getD i []).length < fuel → (out.getD i []).length < di) := by
  intro fuel
  induction fuel with
  | zero =>
    intro c out h _ _
    simp only [daddaColumn, sem_pure] at h
    subst h
    exact ⟨rfl, rfl, fun _ _ => rfl, fun h => by omega⟩
  | succ fuel ih =>
    intro c out h hi hw
    -- an adder on the bits `taken` from column `i`, then the rest of the loop
    have step : ∀ (taken rest : List Label) (g1 g2 : Label), c.getD i [] = taken ++ rest → 2 ≤ taken.length →
        bv v g1 + 2 * bv v g2 = cnt v taken →
        Sem (daddaColumn di i width fuel (if i + 1 < width then colAppend (c.set i (rest ++ [g1])) (i + 1) g2
          else c.set i (rest ++ [g1]))) v out →
        out.length = c.length ∧ colsVal v out % 2 ^ width = colsVal v c % 2 ^ width ∧
        (∀ k, k < i → out.getD k [] = c.getD k []) ∧ ((c.getD i []).length < fuel + 1 → (out.getD i []).length < di) := by
      intro taken rest g1 g2 hcol ht hsum hrec
      obtain ⟨l2, k2, u1, u2⟩ := reduce_step v c i width hi hw taken rest g1 g2 hcol hsum
      obtain ⟨a1, a2, a3, a5⟩ := ih _ out hrec (by rw [l2]; exact hi) (by rw [l2]; exact hw)
      refine ⟨a1.trans l2, a2.trans k2, fun k hk => (a3 k hk).trans (u2 k hk), fun hf => a5 ?_⟩
      rw [u1, List.length_append, List.length_singleton]
      rw [hcol, List.length_append] at hf
      omega
    unfold daddaColumn at h
    simp only at h
    split at h
    · split at h
      · split at h
        · rename_i x y rest hcol
          simp only [sem_bind] at h
          obtain ⟨r, hr, ⟨g1, g2⟩, hp, hrec⟩ := h
          obtain ⟨x', y', s', c', e1, e2, hsum⟩ := sem_addSum2 hr
          cases e1
          cases (sem_pair2 hp).symm.trans e2
          exact step [x, y] rest _ _ hcol (Nat.le_refl 2) (by simp only [cnt_cons, cnt_nil]; omega) hrec
        · exact absurd h sem_fail
      · split at h
        · rename_i x y z rest hcol
          simp only [sem_bind] at h
          obtain ⟨r, hr, ⟨g1, g2⟩, hp, hrec⟩ := h
          obtain ⟨x', y', z', s', c', e1, e2, hsum⟩ := sem_addSum3 hr
          cases e1
          cases (sem_pair2 hp).symm.trans e2
          exact step [x, y, z] rest _ _ hcol (by simp) (by simp only [cnt_cons, cnt_nil]; omega) hrec
        · exact absurd h sem_fail
    · rename_i hge
      rw [sem_pure] at h
      subst h
      exact ⟨rfl, rfl, fun _ _ => rfl, fun _ => by omega⟩

theorem sem_daddaStage {v : Label → Bool} {di width : Nat} {c out : List (List Label)}
    (h : Sem (daddaStage di width c) v out) (hw : c.length = width) :
    out.length = width ∧ colsVal v out % 2 ^ width = colsVal v c % 2 ^ width ∧
    out.getD 0 [] = c.getD 0 [] ∧ (∀ k, 1 ≤ k → k < width → (out.getD k []).length < di) := by
  unfold daddaStage at h
  rw [List.range_drop] at h
  have := sem_progFold_range' (v := v) (fun i cc => cc.length = width ∧ colsVal v cc % 2 ^ width = colsVal v c % 2 ^ width ∧
      cc.getD 0 [] = c.getD 0 [] ∧ ∀ k, 1 ≤ k → k < i → (cc.getD k []).length < di) (width - 1) 1 c out
    ⟨hw, rfl, rfl, fun k h1 h2 => by omega⟩ ?_ h
  · exact ⟨this.1, this.2.1, this.2.2.1, fun k h1 h2 => this.2.2.2 k h1 (by omega)⟩
  · intro i cc cc' hi1 hi2 ⟨p1, p2, p3, p4⟩ hs
    obtain ⟨l1, m1, u1, u3⟩ := sem_daddaColumn _ cc cc' hs (by omega) p1
    refine ⟨l1.trans p1, m1.trans p2, (u1 0 (by omega)).trans p3, fun k h1 h2 => ?_⟩
    by_cases e : k = i
    · subst e; exact u3 (by omega)
    · rw [u1 k (by omega)]; exact p4 k h1 (by omega)

theorem sem_daddaStages {v : Label → Bool} {width : Nat} : ∀ (fuel di : Nat) (c out : List (List Label)),
    Sem (daddaStages width fuel di c) v out → c.length = width → 1 ≤ di →
    (di = 1 → ∀ k, 1 ≤ k → k < width → (c.getD k []).length < 2) →
    out.length = width ∧ colsVal v out % 2 ^ width = colsVal v c % 2 ^ width ∧
    out.getD 0 [] = c.getD 0 [] ∧ (∀ k, 1 ≤ k → k < width → (out.getD k []).length < 2) := by
  intro fuel
  induction fuel with
  | zero => intro di c out h; exact absurd h sem_fail
  | succ fuel ih =>
    intro di c out h hw hdi hone
    unfold daddaStages at h
    split at h
    · rename_i h1
      rw [sem_pure] at h
      subst h
      exact ⟨hw, rfl, rfl, hone (by simpa using h1)⟩
    · rename_i h1
      have hd1 : di ≠ 1 := by simpa using h1
      simp only [sem_bind] at h
      obtain ⟨c1, hs, hrec⟩ := h
      obtain ⟨l1, k1, z1, p1⟩ := sem_daddaStage hs hw
      -- the next threshold is 1 only after the stage with threshold 2
      have hnext : 1 ≤ (if (di == 2) = true then 1 else (2 * di + 2) / 3) ∧
          ((if (di == 2) = true then 1 else (2 * di + 2) / 3) = 1 → di = 2) := by
        simp only [beq_iff_eq]
        split <;> omega
      obtain ⟨l2, k2, z2, p2⟩ := ih _ c1 out hrec l1 hnext.1 (fun hd k hk1 hk2 => by
        have := p1 k hk1 hk2
        have := hnext.2 hd
        omega)
      exact ⟨l2, k2.trans k1, z2.trans z1, p2⟩

/-- the body of the fold in `heads`, under a name -/
def headStep (acc : Prog (List Label)) (col : List Label) : Prog (List Label) := do
  let l ← acc
  match col with
  | x :: _ => pure (l ++ [x])
  | [] => .fail "Py:IndexError"

theorem sem_headsFold {v : Label → Bool} : ∀ (c : List (List Label)) (acc : Prog (List Label)) (out : List Label),
    Sem (c.foldl headStep acc) v out →
    ∃ l0 hs, Sem acc v l0 ∧ out = l0 ++ hs ∧ All2 (fun col x => ∃ rest, col = x :: rest) c hs := by
  intro c
  induction c with
  | nil => intro acc out h; exact ⟨out, [], h, by simp, .nil⟩
  | cons col t ih =>
    intro acc out h
    simp only [List.foldl_cons] at h
    obtain ⟨l1, hs, h1, e, hall⟩ := ih _ out h
    simp only [headStep, sem_bind] at h1
    obtain ⟨l0, hl0, hm⟩ := h1
    cases col with
    | nil => exact absurd hm sem_fail
    | cons x rest =>
      simp only [sem_pure] at hm
      subst hm
      exact ⟨l0, x :: hs, hl0, by rw [e]; simp, .cons ⟨rest, rfl⟩ hall⟩

theorem sem_heads {v : Label → Bool} {c : List (List Label)} {out : List Label} (h : Sem (heads c) v out) :
    All2 (fun col x => ∃ rest, col = x :: rest) c out := by
  have h' : Sem (c.foldl headStep (pure [])) v out := h  -- by definition of `heads`
  obtain ⟨l0, hs, h0, e, hall⟩ := sem_headsFold c _ out h'
  rw [sem_pure] at h0
  subst h0
  simpa [e] using hall

theorem colsVal_heads (v : Label → Bool) : ∀ {c : List (List Label)} {hs : List Label},
    All2 (fun col x => ∃ rest, col = x :: rest) c hs → (∀ k, (c.getD k []).length ≤ 1) → colsVal v c = valLE v hs := by
  intro c hs h
  induction h with
  | nil => intro _; rfl
  | @cons col x t ts hx _ ih =>
    intro hlen
    obtain ⟨rest, rfl⟩ := hx
    have h0 := hlen 0
    simp only [List.getD_cons_zero, List.length_cons] at h0
    have : rest = [] := List.eq_nil_of_length_eq_zero (by omega)
    subst this
    simp only [colsVal, valLE, cnt_cons, cnt_nil, Nat.add_zero]
    rw [ih (fun k => by simpa using hlen (k + 1))]

theorem colsVal_append (v : Label → Bool) (a b : List (List Label)) :
    colsVal v (a ++ b) = colsVal v a + 2 ^ a.length * colsVal v b :=
  horner_append (cnt v) (colsVal v) rfl (fun _ _ => rfl) a b

theorem colsVal_empty_cols (v : Label → Bool) : ∀ (c : List (List Label)), (∀ col ∈ c, col = []) → colsVal v c = 0 := by
  intro c
  induction c with
  | nil => intro _; rfl
  | cons col t ih =>
    intro h
    have := h col (by simp)
    subst this
    simp [colsVal, cnt_nil, ih (fun x hx => h x (by simp [hx]))]

theorem daddaStart_ge (d k : Nat) : ∀ (fuel di : Nat), d ≤ di → d ≤ daddaStart fuel di k := by
  intro fuel
  induction fuel with
  | zero => intro di h; exact h
  | succ fuel ih =>
    intro di h
    unfold daddaStart
    split
    · exact ih _ (by omega)
    · exact h

theorem ppProf_single {n m : Nat} (h : n = 1 ∨ m = 1) (k : Nat) :
    ppProf m n k ≤ 1 ∧ (m + n - 1 ≤ k → ppProf m n k = 0) := by
  unfold ppProf; omega

theorem drop_eq_nils {c : List (List Label)} {d : Nat} (h : ∀ k, d ≤ k → (c.getD k []).length = 0) :
    ∀ col ∈ c.drop d, col = [] := by
  intro col hcol
  obtain ⟨j, hj, rfl⟩ := List.getElem_of_mem hcol
  rw [List.length_drop] at hj
  have := h (d + j) (Nat.le_add_right d j)
  rw [List.getD_eq_getElem?_getD, List.getElem?_eq_getElem (by omega), Option.getD_some] at this
  rw [List.getElem_drop]
  exact List.eq_nil_of_length_eq_zero this

theorem sem_daddaInit {v : Label → Bool} {A B : List Label} {c : List (List Label)}
    (hc : Sem (ppColumns A B.zipIdx (List.replicate (A.length + B.length) [])) v c) :
    c.length = A.length + B.length ∧ colsVal v c = valLE v A * valLE v B ∧
    ∀ k, (c.getD k []).length = ppProf B.length A.length k := by
  obtain ⟨cl, cv, ch⟩ := sem_ppColumns B 0 _ c hc (by intro _; simp; omega)
  simp only [List.length_replicate, colsVal_replicate_nil, Nat.zero_add, Nat.pow_zero, Nat.one_mul] at cl cv
  refine ⟨cl, cv, fun k => ?_⟩
  rw [ch k, rowsCover_eq, List.getD_eq_getElem?_getD, List.getElem?_replicate, ppProf]
  split <;> simp

theorem sem_daddaReduced {v : Label → Bool} {A B : List Label} {fuel di : Nat} (hdi : 1 < di) {c c' : List (List Label)}
    (hc : Sem (ppColumns A B.zipIdx (List.replicate (A.length + B.length) [])) v c)
    (hst : Sem (daddaStages (A.length + B.length) fuel di c) v c') :
    c'.length = A.length + B.length ∧ (∀ k, (c'.getD k []).length ≤ 1) ∧
    colsVal v c' % 2 ^ (A.length + B.length) = valLE v A * valLE v B := by
  obtain ⟨cl, cv, chk⟩ := sem_daddaInit hc
  obtain ⟨l2, k2, z0, p2⟩ := sem_daddaStages _ _ c c' hst cl (by omega) (fun e => by omega)
  refine ⟨l2, fun k => ?_, by rw [k2, cv, Nat.mod_eq_of_lt (valLE_mul_lt v A B)]⟩
  cases k with
  | zero => rw [z0, chk 0]; exact Nat.le_trans (Nat.sub_le _ _) (Nat.min_le_right _ _)
  | succ k =>
    rcases Nat.lt_or_ge (k + 1) (A.length + B.length) with hk | hk
    · exact Nat.le_of_lt_succ (p2 (k + 1) (by omega) hk)
    · rw [List.getD_of_length_le _ (by rw [l2]; exact hk)]; simp

theorem sem_addMulDadda {v : Label → Bool} {a b : List Label} {be : Bool} {out : List Label}
    (h : Sem (addMulDadda a b be) v out) :
    valLE v (revIf out be) = valLE v (revIf a be) * valLE v (revIf b be) ∧
    out.length = if (a.length == 1 || b.length == 1) then a.length + b.length - 1 else a.length + b.length := by
  unfold addMulDadda at h
  simp only [sem_bind] at h
  obtain ⟨c, hc, hbody⟩ := h
  rw [← revIf_length a be, ← revIf_length b be]
  generalize revIf a be = A at hc hbody ⊢
  generalize revIf b be = B at hc hbody ⊢
  split at hbody
  · -- one of the operands is a single bit: the columns are already the answer
    rename_i hsp
    obtain ⟨cl, cv, chk⟩ := sem_daddaInit hc
    simp only [sem_bind, sem_pure] at hbody
    obtain ⟨hd, hh, rfl⟩ := hbody
    have hall := sem_heads hh
    have hsp' : A.length = 1 ∨ B.length = 1 := by simpa using hsp
    have hsingle : ∀ k, ((c.take (B.length + A.length - 1)).getD k []).length ≤ 1 := by
      intro k
      rcases Nat.lt_or_ge k (B.length + A.length - 1) with hk | hk
      · rw [List.getD_take_lt c _ k hk, chk k]; exact (ppProf_single hsp' k).1
      · rw [List.getD_of_length_le _ (by rw [List.length_take]; exact Nat.le_trans (Nat.min_le_left _ _) hk)]
        exact Nat.zero_le 1
    -- the dropped last column is empty
    have hdrop := drop_eq_nils (c := c) fun k hk => by rw [chk k]; exact (ppProf_single hsp' k).2 hk
    have := colsVal_append v (c.take (B.length + A.length - 1)) (c.drop (B.length + A.length - 1))
    rw [List.take_append_drop, colsVal_empty_cols v _ hdrop, cv, colsVal_heads v hall hsingle] at this
    rw [revIf_revIf, revIf_length, ← all2_length hall, List.length_take, cl, if_pos hsp, Nat.add_comm B.length]
    exact ⟨by rw [this, Nat.mul_zero, Nat.add_zero], Nat.min_eq_left (Nat.sub_le _ _)⟩
  · rename_i hsp
    simp only [sem_bind, sem_pure] at hbody
    obtain ⟨c', hst, hd, hh, rfl⟩ := hbody
    have hstart := daddaStart_ge 2 (min A.length B.length) (A.length + B.length) 2 (Nat.le_refl 2)
    obtain ⟨l2, hsingle, k2⟩ := sem_daddaReduced hstart hc hst
    have hall := sem_heads hh
    have hlen : hd.length = A.length + B.length := by rw [← all2_length hall, l2]
    rw [colsVal_heads v hall hsingle, Nat.mod_eq_of_lt (by rw [← hlen]; exact valLE_lt v hd)] at k2
    rw [revIf_revIf, revIf_length, hlen, if_neg hsp]
    exact ⟨k2, rfl⟩

theorem m2_colsVal_bound (v : Label → Bool) : ∀ (c : List (List Label)), (∀ col ∈ c, col.length ≤ 1) →
    colsVal v c < 2 ^ c.length := by
  intro c
  induction c with
  | nil => intro _; simp [colsVal]
  | cons col t ih =>
    intro h
    have h1 := cnt_le_one v col (h col (by simp))
    have h2 := ih (fun x hx => h x (by simp [hx]))
    simp only [colsVal, List.length_cons, Nat.pow_succ]
    omega

theorem colsVal_bound_last (v : Label → Bool) (c : List (List Label)) (h : ∀ col ∈ c, col.length ≤ 1) (hne : c ≠ [])
    (hl : c.getD (c.length - 1) [] = []) : colsVal v c < 2 ^ (c.length - 1) := by
  obtain ⟨init, x, rfl⟩ : ∃ init x, c = init ++ [x] := ⟨c.dropLast, c.getLast hne, (List.dropLast_concat_getLast hne).symm⟩
  have hx : x = [] := by simpa [List.getD_eq_getElem?_getD] using hl
  subst hx
  have := m2_colsVal_bound v init fun col hc => h col (List.mem_append_left _ hc)
  rw [colsVal_append, List.length_append, List.length_singleton, Nat.add_sub_cancel]
  simp only [colsVal, cnt_nil]
  omega

end Cirbo
