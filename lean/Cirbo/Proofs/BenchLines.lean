import Cirbo.Proofs.BenchPieces
import Cirbo.Proofs.BenchStmts
/-!
# Every accepted bench line form, in any layout, as a `LineSem` (C11)

An assignment line is classified and split at its first `=` once (`parseLine_assign`); the rest is a fact about
`parseRhs`.  Whatever may follow a line's last token may also be its terminator: hence `LineSem`s.
-/
namespace Cirbo
open GateType

/-- `_process_line` on a line `out = body`, both sides already stripped -/
def parseRhs (c : Circuit) (out : String) (body : Str) : Except String Circuit :=
  if upperS (body.take 3) == strOf "VDD" then .ok (c.rawAddGate ⟨out, ALWAYS_TRUE, []⟩)
  else
    match findIdx '(' body, findIdx ')' body with
    | some l, some r =>
      let op := upperS (stripSet [' '] (body.take l))
      let argsStr := stripSet [' '] ((body.take r).drop (l + 1))
      let operands := (splitOn ',' argsStr).map (fun a => String.ofList (stripSet [' '] a))
      match gateTypeOfKeyword op with
      | none => .error "Py:ValueError"
      | some ty =>
        let ops := if ty = ALWAYS_TRUE || ty = ALWAYS_FALSE then operands.filter (· != "") else operands
        if parserArityOk ty ops.length then .ok (c.rawAddGate ⟨out, ty, ops⟩)
        else .error "Py:TypeError"
    | _, _ => .error "Py:ValueError"

theorem guard_cons {a : Char} (r : Str) (h1 : a ≠ '\n') (h2 : a ≠ '#') :
    ((a :: r).isEmpty || (a :: r) == ['\n'] || (a :: r).head? == some '#') = false := by
  simp [h1, h2]

theorem parseLine_eq_parseRhs (c : Circuit) {line L R : Str} {a : Char} {r : Str} (hline : line = a :: r)
    (ha1 : a ≠ '\n') (ha2 : a ≠ '#') (hI : (strOf "INPUT(").isPrefixOf (upperS line) = false)
    (hO : (strOf "OUTPUT(").isPrefixOf (upperS line) = false) (hLR : line = L ++ '=' :: R) (hL : '=' ∉ L) :
    parseLine c line = parseRhs c (String.ofList (stripSet [' '] L)) (stripSet [' '] R) := by
  have hg := guard_cons r ha1 ha2
  rw [← hline] at hg
  have heq : findIdx '=' line = some L.length := hLR ▸ findIdx_append_cons hL
  have htake : line.take L.length = L := hLR ▸ List.take_left' rfl
  have hdrop : line.drop (L.length + 1) = R := by
    rw [hLR, show L ++ '=' :: R = (L ++ ['=']) ++ R by simp]
    exact List.drop_left' (by simp)
  simp only [parseLine, hg, hI, hO, heq, htake, hdrop, Bool.false_eq_true, if_false]
  rfl

/-- in particular every gate line, whatever the spelling of its label (`input_x`, `OUTPUTS`, `Input` …) -/
theorem assign_line_classified {sp0 lab tail : Str} {c : Char} (h0 : Sp sp0) (h : IsIdent lab)
    (hc : c = ' ' ∨ c = '=') :
    (∃ a r, sp0 ++ lab ++ c :: tail = a :: r ∧ a ≠ '\n' ∧ a ≠ '#') ∧
    (strOf "INPUT(").isPrefixOf (upperS (sp0 ++ lab ++ c :: tail)) = false ∧
    (strOf "OUTPUT(").isPrefixOf (upperS (sp0 ++ lab ++ c :: tail)) = false := by
  obtain ⟨l0, lr, rfl⟩ := List.exists_cons_of_ne_nil h.1
  have hcu : c.toUpper = c := by rcases hc with rfl | rfl <;> decide
  -- a prefix with `(` in it would have to end inside the label, which has no `(`
  have base : ∀ p : Str, '(' ∈ p → c ∉ p → p.isPrefixOf (upperS ((l0 :: lr) ++ c :: tail)) = false := by
    intro p hp hcp
    rw [upperS_append, upperS_cons c, hcu]
    refine not_prefix_of_sep hp ?_ ?_ hcp
    · intro hm
      obtain ⟨ch, hch, hup⟩ := List.mem_map.mp hm
      exact toUpper_ne_paren ch (h.ne (by decide) hch) hup
    · rcases hc with rfl | rfl <;> decide
  cases sp0 with
  | nil =>
    exact ⟨⟨l0, _, rfl, h.ne (by decide) (by simp), h.ne (by decide) (by simp)⟩,
      base _ (by decide) (by rcases hc with rfl | rfl <;> decide),
      base _ (by decide) (by rcases hc with rfl | rfl <;> decide)⟩
  | cons s sr =>
    obtain rfl : s = ' ' := h0 s (by simp)
    exact ⟨⟨' ', _, rfl, by decide, by decide⟩, rfl, rfl⟩

theorem parseLine_assign (c : Circuit) {sp0 lab sp1 rhs : Str} (h0 : Sp sp0) (hl : IsIdent lab) (h1 : Sp sp1) :
    parseLine c (sp0 ++ lab ++ sp1 ++ '=' :: rhs) = parseRhs c (String.ofList lab) (stripSet [' '] rhs) := by
  obtain ⟨c0, tail, e, hc0⟩ : ∃ c0 tail, sp1 ++ '=' :: rhs = c0 :: tail ∧ (c0 = ' ' ∨ c0 = '=') := by
    cases sp1 with
    | nil => exact ⟨_, _, rfl, Or.inr rfl⟩
    | cons s r => exact ⟨_, _, rfl, Or.inl (h1 s (by simp))⟩
  have e' : sp0 ++ lab ++ sp1 ++ '=' :: rhs = sp0 ++ lab ++ c0 :: tail := by rw [← e, List.append_assoc _ sp1]
  obtain ⟨⟨a, r, ea, ha1, ha2⟩, hI, hO⟩ := assign_line_classified (tail := tail) h0 hl hc0
  rw [← e'] at ea hI hO
  rw [parseLine_eq_parseRhs c ea ha1 ha2 hI hO rfl, hl.strip h0 h1]
  simp only [List.mem_append, not_or]
  exact ⟨⟨h0.not_mem (by decide), hl.not_mem (by decide)⟩, h1.not_mem (by decide)⟩

/-- the operands the parser keeps: the empty piece of `()` is dropped for the constants -/
theorem operands_kept {ty : GateType} {ops : List Label} (hops : ∀ o ∈ ops, IsIdent o.toList)
    (har : parserArityOk ty ops.length = true) :
    (if ty = ALWAYS_TRUE || ty = ALWAYS_FALSE then (if ops = [] then [""] else ops).filter (· != "")
      else if ops = [] then [""] else ops) = ops := by
  by_cases h0 : ops = []
  · subst h0
    cases ty <;> simp [parserArityOk] at har ⊢
  · have hf : ops.filter (· != "") = ops :=
      List.filter_eq_self.mpr (fun o ho => by
        have : o ≠ "" := fun e => (hops o ho).1 (by rw [e]; rfl)
        simpa using this)
    simp only [if_neg h0, hf, ite_self]

theorem parseRhs_gate (c : Circuit) (out : String) {ty : GateType} {ops : List Label}
    (hops : ∀ o ∈ ops, IsIdent o.toList) (har : parserArityOk ty ops.length = true)
    {kw sp3 A T : Str} (h3 : Sp sp3) (hkw : gateTypeOfKeyword (upperS kw) = some ty) (hA : ArgsLayout ops A) :
    parseRhs c out (kw ++ sp3 ++ '(' :: (A ++ ')' :: T)) = .ok (c.rawAddGate ⟨out, ty, ops⟩) := by
  obtain ⟨hkne, hkc, hkV⟩ := keyword_accept hkw
  obtain ⟨p1, p2, p3, p4⟩ := paren_split (K := kw ++ sp3) (A := A) (T := T)
    (by simp only [List.mem_append, not_or]; exact ⟨fun hm => (hkc _ hm).1 rfl, h3.not_mem (by decide)⟩)
    (by simp only [List.mem_append, not_or]; exact ⟨fun hm => (hkc _ hm).2.1 rfl, h3.not_mem (by decide)⟩)
    (argsLayout_not_mem hA hops (by decide) (by decide) (by decide))
  have hvdd : (upperS ((kw ++ sp3 ++ '(' :: (A ++ ')' :: T)).take 3) == strOf "VDD") = false := by
    obtain ⟨k0, kr, rfl⟩ := List.exists_cons_of_ne_nil hkne
    have : k0.toUpper ≠ 'V' := hkV _ _ rfl
    simp [upperS_cons, strOf, this]
  have hkws : stripSet [' '] (kw ++ sp3) = kw := by
    simpa using stripSet_word (pre := []) hkne (fun ch h => contains_space_false (hkc ch h).2.2.1)
      (by simp) h3.contains
  simp only [parseRhs, hvdd, p1, p2, p3, p4, hkws, hkw, argsLayout_parse hA hops, operands_kept hops har, har,
    Bool.false_eq_true, if_false, if_true]

/-- `sp0 lab sp1 = sp2 kw sp3 ( A ) T` -/
def gateLine (sp0 lab sp1 sp2 kw sp3 A T : Str) : Str :=
  sp0 ++ lab ++ sp1 ++ '=' :: (sp2 ++ kw ++ sp3 ++ '(' :: (A ++ ')' :: T))

theorem gate_layout_sem (g : Gate)
    (hl : IsIdent g.label.toList) (hops : ∀ o ∈ g.ops, IsIdent o.toList)
    (har : parserArityOk g.ty g.ops.length = true)
    {sp0 sp1 sp2 sp3 kw A T : Str} (h0 : Sp sp0) (h1 : Sp sp1) (h2 : Sp sp2) (h3 : Sp sp3)
    (hkw : gateTypeOfKeyword (upperS kw) = some g.ty) (hA : ArgsLayout g.ops A) (hT : '\n' ∉ T) :
    LineSem (gateLine sp0 g.label.toList sp1 sp2 kw sp3 A T) (Stmt.gate g).apply := by
  obtain ⟨hkne, hkc, _⟩ := keyword_accept hkw
  refine ⟨?_, fun c nl _ => ?_⟩
  · simp only [gateLine, List.mem_append, List.mem_cons, not_or]
    exact ⟨⟨⟨h0.not_mem (by decide), hl.not_mem (by decide)⟩, h1.not_mem (by decide)⟩, by decide,
      ⟨⟨h2.not_mem (by decide), fun hm => (hkc _ hm).2.2.2 rfl⟩, h3.not_mem (by decide)⟩, by decide,
      argsLayout_not_mem hA hops (by decide) (by decide) (by decide), by decide, hT⟩
  · -- the keyword is a word: stripping removes `sp2` and, on the right, stops at `)` or later
    have hbody : stripSet [' '] (sp2 ++ kw ++ sp3 ++ '(' :: (A ++ ')' :: (T ++ nl)))
        = kw ++ sp3 ++ '(' :: (A ++ ')' :: stripR [' '] (T ++ nl)) := by
      rw [List.append_assoc _ sp3, stripSet_word_append hkne (fun ch h => contains_space_false (hkc ch h).2.2.1) h2.contains,
        show sp3 ++ '(' :: (A ++ ')' :: (T ++ nl)) = (sp3 ++ '(' :: A) ++ ')' :: (T ++ nl) by simp,
        stripR_append_cons (by decide)]
      simp
    rw [show gateLine sp0 g.label.toList sp1 sp2 kw sp3 A T ++ nl
        = sp0 ++ g.label.toList ++ sp1 ++ '=' :: (sp2 ++ kw ++ sp3 ++ '(' :: (A ++ ')' :: (T ++ nl))) by simp [gateLine],
      parseLine_assign c h0 hl h1, hbody, parseRhs_gate c _ hops har h3 hkw hA, String.ofList_toList]
    rfl

theorem vdd_layout_sem (l : Label) (hl : IsIdent l.toList)
    {sp0 sp1 sp2 v T : Str} (h0 : Sp sp0) (h1 : Sp sp1) (h2 : Sp sp2) (hv : upperS v = strOf "VDD") (hT : '\n' ∉ T) :
    LineSem (sp0 ++ l.toList ++ sp1 ++ '=' :: (sp2 ++ v ++ T)) (Stmt.gate ⟨l, ALWAYS_TRUE, []⟩).apply := by
  have hlen : v.length = 3 := (List.length_map Char.toUpper).symm.trans (congrArg List.length hv)
  have hvs : ∀ ch ∈ v, ([' '] : Str).contains ch = false := fun ch hch =>
    contains_space_false (fun e => not_mem_of_upperS (c := ' ') (by decide) hv (by decide) (e ▸ hch))
  refine ⟨?_, fun c nl _ => ?_⟩
  · simp only [List.mem_append, List.mem_cons, not_or]
    exact ⟨⟨⟨h0.not_mem (by decide), hl.not_mem (by decide)⟩, h1.not_mem (by decide)⟩, by decide,
      ⟨h2.not_mem (by decide), not_mem_of_upperS (by decide) hv (by decide)⟩, hT⟩
  · rw [show sp0 ++ l.toList ++ sp1 ++ '=' :: (sp2 ++ v ++ T) ++ nl
        = sp0 ++ l.toList ++ sp1 ++ '=' :: (sp2 ++ v ++ (T ++ nl)) by simp,
      parseLine_assign c h0 hl h1, stripSet_word_append (by rintro rfl; cases hlen) hvs h2.contains,
      String.ofList_toList]
    simp only [parseRhs, List.take_left' hlen, hv, beq_self_eq_true, if_true]
    rfl

theorem decl_keyword {kw K rest : Str} {k0 : Char} {K' : Str} (hk : upperS kw = K) (hK : K = k0 :: K')
    (h1 : k0 ≠ '\n') (h2 : k0 ≠ '#') :
    ((kw ++ rest).isEmpty || (kw ++ rest) == ['\n'] || (kw ++ rest).head? == some '#') = false ∧
    K.isPrefixOf (upperS (kw ++ rest)) = true ∧ (kw ++ rest).drop K.length = rest := by
  refine ⟨?_, ?_, List.drop_left' (by rw [← hk]; exact (List.length_map _).symm)⟩
  · cases kw with
    | nil => rw [hK] at hk; cases hk
    | cons a r =>
      rw [hK, upperS_cons] at hk
      have ha := (List.cons.inj hk).1
      exact guard_cons _ (fun e => h1 (by rw [← ha, e]; decide)) (fun e => h2 (by rw [← ha, e]; decide))
  · rw [upperS_append, hk]
    exact List.isPrefixOf_iff_prefix.mpr (List.prefix_append _ _)

/-- padding of a declared name -/
def DeclPad (s : Str) : Prop := ∀ ch ∈ s, ([')', ' ', '\n'] : Str).contains ch = true

theorem strip_decl_pad {lab p1 p2 : Str} (h : IsIdent lab) (h1 : DeclPad p1) (h2 : DeclPad p2) :
    stripSet (strOf ") \n") (p1 ++ lab ++ p2) = lab :=
  stripSet_word h.1
    (fun ch hch => by simp [strOf, h.ne (c := ')') (by decide) hch, h.ne (c := ' ') (by decide) hch,
      h.ne (c := '\n') (by decide) hch])
    h1 h2

theorem declPad_nl {p nl : Str} (h : DeclPad p) (hnl : nl = [] ∨ nl = ['\n']) : DeclPad (p ++ nl) := by
  intro ch hch
  rcases List.mem_append.mp hch with h1 | h1
  · exact h ch h1
  · rcases hnl with rfl | rfl
    · cases h1
    · rw [List.mem_singleton.mp h1]; rfl

theorem input_layout_sem (l : Label) (hl : IsIdent l.toList) {kw p1 p2 : Str}
    (hk : upperS kw = strOf "INPUT(") (h1 : DeclPad p1) (h2 : DeclPad p2) (n1 : '\n' ∉ p1) (n2 : '\n' ∉ p2) :
    LineSem (kw ++ p1 ++ l.toList ++ p2) (Stmt.gate ⟨l, INPUT, []⟩).apply := by
  refine ⟨?_, fun c nl hnl => ?_⟩
  · simp only [List.mem_append, not_or]
    exact ⟨⟨⟨not_mem_of_upperS (by decide) hk (by decide), n1⟩, hl.not_mem (by decide)⟩, n2⟩
  · obtain ⟨hg, hp, hd⟩ := decl_keyword (rest := p1 ++ l.toList ++ (p2 ++ nl)) hk rfl (by decide) (by decide)
    have hd6 : (kw ++ (p1 ++ l.toList ++ (p2 ++ nl))).drop 6 = p1 ++ l.toList ++ (p2 ++ nl) := hd
    rw [show kw ++ p1 ++ l.toList ++ p2 ++ nl = kw ++ (p1 ++ l.toList ++ (p2 ++ nl)) by simp]
    simp only [parseLine, hg, hp, hd6, strip_decl_pad hl h1 (declPad_nl h2 hnl), String.ofList_toList,
      Bool.false_eq_true, if_false, if_true]
    rfl

theorem output_layout_sem (l : Label) (hl : IsIdent l.toList) {kw p1 p2 : Str}
    (hk : upperS kw = strOf "OUTPUT(") (h1 : DeclPad p1) (h2 : DeclPad p2) (n1 : '\n' ∉ p1) (n2 : '\n' ∉ p2) :
    LineSem (kw ++ p1 ++ l.toList ++ p2) (Stmt.output l).apply := by
  refine ⟨?_, fun c nl hnl => ?_⟩
  · simp only [List.mem_append, not_or]
    exact ⟨⟨⟨not_mem_of_upperS (by decide) hk (by decide), n1⟩, hl.not_mem (by decide)⟩, n2⟩
  · obtain ⟨hg, hp, hd⟩ := decl_keyword (rest := p1 ++ l.toList ++ (p2 ++ nl)) hk rfl (by decide) (by decide)
    have hn : (strOf "INPUT(").isPrefixOf (upperS (kw ++ (p1 ++ l.toList ++ (p2 ++ nl)))) = false := by
      rw [upperS_append, hk]; rfl
    have hd7 : (kw ++ (p1 ++ l.toList ++ (p2 ++ nl))).drop 7 = p1 ++ l.toList ++ (p2 ++ nl) := hd
    rw [show kw ++ p1 ++ l.toList ++ p2 ++ nl = kw ++ (p1 ++ l.toList ++ (p2 ++ nl)) by simp]
    simp only [parseLine, hg, hn, hp, hd7, strip_decl_pad hl h1 (declPad_nl h2 hnl), String.ofList_toList,
      Bool.false_eq_true, if_false, if_true]
    rfl

theorem comment_sem {rest : Str} (h : '\n' ∉ rest) : LineSem ('#' :: rest) Stmt.skip.apply :=
  ⟨by simp only [List.mem_cons, not_or]; exact ⟨by decide, h⟩, fun c nl _ => by simp [parseLine, Stmt.apply]⟩

end Cirbo
