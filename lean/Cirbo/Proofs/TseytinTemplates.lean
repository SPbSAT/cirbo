import Cirbo.Spec.Cnf
import Cirbo.Spec.Bool
import Cirbo.Model.Tseytin
import Cirbo.Proofs.BoolVec
/-!
# Every Tseytin clause template is exact, at every accepted arity (C05, C01)
-/
namespace Cirbo
open GateType

variable (σ : Nat → Bool)

/-- clauses `[f l, c]` for every operand and the clause `d :: map g`, where `g l` is the opposite
literal of `f l` and `d` that of `c`: `d` holds exactly when every `f l` does -/
theorem andLike (p q : Int → Bool) (f g : Int → Int) (c d : Int) (lits : List Int)
    (hf : ∀ l ∈ lits, p (f l) = q l) (hg : ∀ l ∈ lits, p (g l) = !q l) (hd : p d = !p c) :
    ((lits.map fun l => [f l, c]) ++ [d :: lits.map g]).all (·.any p) = true ↔ p d = lits.all q := by
  have h1 : (lits.map fun l => [f l, c]).all (·.any p) = (p c || lits.all q) := by
    induction lits with
    | nil => simp
    | cons a r ih =>
      rw [List.map_cons, List.all_cons, ih (fun l hl => hf l (.tail _ hl)) (fun l hl => hg l (.tail _ hl)),
        List.all_cons, ← hf a (.head _)]
      simp [Bool.or_and_distrib_left, Bool.or_comm]
  have h2 : (lits.map g).any p = !lits.all q := by
    clear h1
    induction lits with
    | nil => rfl
    | cons a r ih =>
      rw [List.map_cons, List.any_cons, ih (fun l hl => hf l (.tail _ hl)) (fun l hl => hg l (.tail _ hl)),
        List.all_cons, hg a (.head _), Bool.not_and]
  rw [List.all_append, h1, List.all_cons, List.any_cons, h2, hd]
  cases p c <;> cases lits.all q <;> simp

theorem mem_tfProduct (vals : List Bool) : ∀ k, vals ∈ tfProduct k ↔ vals.length = k :=
  mem_boolVectors true rfl (fun _ => rfl) vals

theorem zip_part (lits : List Int) (h : ∀ l ∈ lits, l ≠ 0) : ∀ vals : List Bool,
    vals.length = lits.length →
    (((lits.zip vals).map (fun p => if p.2 then -p.1 else p.1)).any (litVal σ) = false
      ↔ vals = lits.map (litVal σ)) := by
  induction lits with
  | nil => intro vals hl; cases vals <;> simp at hl ⊢
  | cons a r ih =>
    intro vals hl
    cases vals with
    | nil => simp at hl
    | cons b bs =>
      have ha := litVal_neg σ (h a (by simp))
      have := ih (fun l hl => h l (by simp [hl])) bs (by simpa using hl)
      simp only [List.zip_cons_cons, List.map_cons, List.any_cons, Bool.or_eq_false_iff, this,
        List.cons.injEq]
      cases b <;> cases hla : litVal σ a <;> simp [ha, hla]

theorem foldl_xor_eq_xorAll (acc : Bool) (vals : List Bool) :
    vals.foldl xor acc = xor acc (xorAll vals) := by
  induction vals generalizing acc with
  | nil => simp [xorAll]
  | cons b r ih => simp only [List.foldl_cons, ih, xorAll]; cases acc <;> cases b <;> simp

theorem parityOf_eq (vals : List Bool) : parityOf vals = xorAll vals := by
  unfold parityOf; rw [foldl_xor_eq_xorAll]; simp

theorem parity_template (top : Int) (lits : List Int) (negate : Bool) (ht : top ≠ 0)
    (h : ∀ l ∈ lits, l ≠ 0) :
    cnfSat σ (parityClauses top lits negate) = true
      ↔ litVal σ top = (xorAll (lits.map (litVal σ)) != negate) := by
  -- every clause but the one for the actual values of `lits` holds by its operand part
  have hlit : ∀ P : Bool, litVal σ (if P then top else -top) = true ↔ litVal σ top = P := by
    intro P; cases P <;> simp [litVal_neg σ ht]
  rw [← hlit, ← parityOf_eq]
  unfold parityClauses cnfSat clauseSat
  simp only [List.all_map, List.all_eq_true, mem_tfProduct, Function.comp, List.any_append, List.any_cons,
    List.any_nil, Bool.or_false, Bool.or_eq_true]
  constructor
  · intro hall
    refine (hall _ (List.length_map _)).resolve_left ?_
    rw [(zip_part σ lits h _ (List.length_map _)).mpr rfl]; exact Bool.false_ne_true
  · intro heq vals hlen
    by_cases hvals : vals = lits.map (litVal σ)
    · exact .inr (hvals ▸ heq)
    · exact .inl ((Bool.not_eq_false _).mp fun e => hvals ((zip_part σ lits h vals hlen).mp e))

theorem tsTemplate_exact (ty : GateType) (top : Int) (lits : List Int) (ht : top ≠ 0)
    (h : ∀ l ∈ lits, l ≠ 0) (hty : ty ≠ INPUT) (har : arityOk ty lits.length = true) :
    ∃ cls, tsTemplate ty top lits = some cls ∧
      ∀ σ, cnfSat σ cls = true ↔ bfun ty (lits.map (litVal σ)) = some (litVal σ top) := by
  have hneg : ∀ σ, ∀ l ∈ lits, litVal σ (-l) = !litVal σ l := fun σ l hl => litVal_neg σ (h l hl)
  have hnn : ∀ σ, litVal σ top = !litVal σ (-top) := fun σ => by rw [litVal_neg σ ht, Bool.not_not]
  cases ty
  case INPUT => exact absurd rfl hty
  case AND =>
    rcases lits with _ | ⟨a, _ | ⟨b, r⟩⟩ <;> cases har
    refine ⟨_, rfl, fun σ => ?_⟩
    refine (andLike (litVal σ) (litVal σ) id (- ·) (-top) top _ (fun _ _ => rfl) (hneg σ) (hnn σ)).trans ?_
    -- `unfold`, not `simp [bfun]`: the equation lemmas of `bfun` are slow to generate
    unfold bfun
    simp [eq_comm]
  case NAND =>
    rcases lits with _ | ⟨a, _ | ⟨b, r⟩⟩ <;> cases har
    refine ⟨_, rfl, fun σ => ?_⟩
    refine (andLike (litVal σ) (litVal σ) id (- ·) top (-top) _ (fun _ _ => rfl) (hneg σ) (litVal_neg σ ht)).trans ?_
    unfold bfun
    simp [litVal_neg σ ht, eq_comm]
  case OR =>
    rcases lits with _ | ⟨a, _ | ⟨b, r⟩⟩ <;> cases har
    refine ⟨_, rfl, fun σ => ?_⟩
    have key := andLike (litVal σ) (fun l => !litVal σ l) (- ·) id top (-top) _ (hneg σ)
      (fun _ _ => (Bool.not_not _).symm) (litVal_neg σ ht)
    rw [List.map_id, ← List.not_any_eq_all_not] at key
    refine key.trans ?_
    unfold bfun
    simp [litVal_neg σ ht, eq_comm]
  case NOR =>
    rcases lits with _ | ⟨a, _ | ⟨b, r⟩⟩ <;> cases har
    refine ⟨_, rfl, fun σ => ?_⟩
    have key := andLike (litVal σ) (fun l => !litVal σ l) (- ·) id (-top) top _ (hneg σ)
      (fun _ _ => (Bool.not_not _).symm) (hnn σ)
    rw [List.map_id, ← List.not_any_eq_all_not] at key
    refine key.trans ?_
    unfold bfun
    simp [eq_comm]
  case XOR | NXOR =>
    rcases lits with _ | ⟨a, _ | ⟨b, r⟩⟩ <;> cases har
    refine ⟨_, rfl, fun σ => ?_⟩
    rw [parity_template σ top _ _ ht h]
    unfold bfun
    simp [eq_comm]
  case ALWAYS_TRUE | ALWAYS_FALSE =>
    refine ⟨_, rfl, fun σ => ?_⟩
    unfold bfun
    simp only [cnfSat, clauseSat, List.all_cons, List.any_cons, List.all_nil, List.any_nil, litVal_neg σ ht]
    cases litVal σ top <;> simp
  -- one or two operands: a finite check over the values of the literals
  case NOT | IFF =>
    rcases lits with _ | ⟨a, _ | ⟨b, r⟩⟩ <;> cases har
    refine ⟨_, rfl, fun σ => ?_⟩
    unfold bfun
    simp only [cnfSat, clauseSat, List.all_cons, List.any_cons, List.all_nil, List.any_nil, List.map,
      litVal_neg σ ht, hneg σ, List.mem_cons, true_or]
    cases litVal σ top <;> cases litVal σ a <;> decide
  all_goals
    rcases lits with _ | ⟨a, _ | ⟨b, _ | ⟨c, r⟩⟩⟩ <;> cases har
    refine ⟨_, rfl, fun σ => ?_⟩
    unfold bfun
    simp only [cnfSat, clauseSat, List.all_cons, List.any_cons, List.all_nil, List.any_nil, List.map,
      litVal_neg σ ht, hneg σ, List.mem_cons, true_or, or_true]
    cases litVal σ top <;> cases litVal σ a <;> cases litVal σ b <;> decide

end Cirbo
