import Cirbo.Model.Gen
import Cirbo.Proofs.SortBy
import Cirbo.Proofs.Lists
/-!
# The sorted queues of the weighted sums, and the full-adder loop that pushes into a container

`SortedList.add` is `insertBy`, a level is taken off the front by `takeLevel`.  Nothing here speaks of values, so both
the value theorems and the gate counts rest on it.
-/
namespace Cirbo

theorem sum_map_insertBy {α} (f : α → Nat) (lt : α → α → Bool) (x : α) (l : List α) :
    ((insertBy lt x l).map f).sum = f x + (l.map f).sum :=
  ((insertBy_perm lt x l).map f).sum_nat.trans List.sum_cons

theorem takeLevel_spec {α} (lev : α → Nat) (now : Nat) (l : List α) :
    l = (takeLevel lev now l).1 ++ (takeLevel lev now l).2 ∧ ∀ x ∈ (takeLevel lev now l).1, lev x = now := by
  induction l with
  | nil => simp [takeLevel]
  | cons x r ih =>
    unfold takeLevel
    split
    · rename_i he
      simp only [List.cons_append, List.cons.injEq, true_and, List.mem_cons, forall_eq_or_imp]
      exact ⟨ih.1, by simpa using he, ih.2⟩
    · simp

theorem sum_map_takeLevel {α} (lev g : α → Nat) (now : Nat) (l : List α) :
    (l.map (fun x => 2 ^ lev x * g x)).sum = 2 ^ now * ((takeLevel lev now l).1.map g).sum +
      ((takeLevel lev now l).2.map (fun x => 2 ^ lev x * g x)).sum := by
  obtain ⟨h1, h2⟩ := takeLevel_spec lev now l
  conv => lhs; rw [h1]
  rw [List.map_append, List.sum_append, ← sum_map_mul]
  congr 2
  exact List.map_congr_left fun x hx => by rw [h2 x hx]

/-- sorted by level (the `SortedList`s are sorted by the whole tuple; only the level matters) -/
def LSorted {α} (lev : α → Nat) (l : List α) : Prop := l.Pairwise (fun a b => lev a ≤ lev b)

theorem mem_insertBy {α} (lt : α → α → Bool) (x : α) (l : List α) (y : α) :
    y ∈ insertBy lt x l ↔ y = x ∨ y ∈ l :=
  (insertBy_perm lt x l).mem_iff.trans List.mem_cons

theorem length_insertBy {α} (lt : α → α → Bool) (x : α) (l : List α) : (insertBy lt x l).length = l.length + 1 :=
  (insertBy_perm lt x l).length_eq

theorem insertBy_sorted {α} {lt : α → α → Bool} {lev : α → Nat}
    (h1 : ∀ a b, lt a b = true → lev a ≤ lev b) (h2 : ∀ a b, lt a b = false → lev b ≤ lev a)
    (x : α) (l : List α) (hs : LSorted lev l) : LSorted lev (insertBy lt x l) := by
  induction l with
  | nil => simp [insertBy, LSorted]
  | cons z r ih =>
    unfold insertBy
    have hs' := List.pairwise_cons.mp hs
    split
    · rename_i hlt
      refine List.pairwise_cons.mpr ⟨?_, hs⟩
      intro y hy
      rcases List.mem_cons.mp hy with rfl | hy
      · exact h1 _ _ hlt
      · exact Nat.le_trans (h1 _ _ hlt) (hs'.1 y hy)
    · rename_i hlt
      refine List.pairwise_cons.mpr ⟨?_, ih hs'.2⟩
      intro y hy
      rcases (mem_insertBy _ _ _ _).mp hy with rfl | hy
      · exact h2 _ _ (by simpa using hlt)
      · exact hs'.1 y hy

theorem ltSingle_le : ∀ a b : Nat × Label, ltSingle a b = true → a.1 ≤ b.1 := by
  intro a b h
  simp only [ltSingle, Bool.or_eq_true, decide_eq_true_eq, Bool.and_eq_true, beq_iff_eq] at h
  omega

theorem ltSingle_ge : ∀ a b : Nat × Label, ltSingle a b = false → b.1 ≤ a.1 := by
  intro a b h
  simp only [ltSingle, Bool.or_eq_false_iff, decide_eq_false_iff_not, Bool.and_eq_false_iff] at h
  omega

theorem ltPair_le : ∀ a b : Nat × Label × Label, ltPair a b = true → a.1 ≤ b.1 := by
  intro a b h
  simp only [ltPair, Bool.or_eq_true, decide_eq_true_eq, Bool.and_eq_true, beq_iff_eq] at h
  omega

theorem ltPair_ge : ∀ a b : Nat × Label × Label, ltPair a b = false → b.1 ≤ a.1 := by
  intro a b h
  simp only [ltPair, Bool.or_eq_false_iff, decide_eq_false_iff_not, Bool.and_eq_false_iff] at h
  omega

theorem takeLevel_fst_ne {α} (lev : α → Nat) (now : Nat) (x : α) (r : List α) (h : lev x = now) :
    (takeLevel lev now (x :: r)).1 ≠ [] := by
  unfold takeLevel
  simp [h]

theorem takeLevel_rest {α} (lev : α → Nat) (now : Nat) (l : List α) (hs : LSorted lev l)
    (hmin : ∀ x ∈ l, now ≤ lev x) :
    (∀ x ∈ (takeLevel lev now l).2, now < lev x) ∧ LSorted lev (takeLevel lev now l).2 ∧
    (∀ x ∈ (takeLevel lev now l).2, x ∈ l) := by
  induction l with
  | nil => simp [takeLevel, LSorted]
  | cons x r ih =>
    have hs' := List.pairwise_cons.mp hs
    unfold takeLevel
    split
    · rename_i he
      obtain ⟨i1, i2, i3⟩ := ih hs'.2 (fun y hy => hmin y (by simp [hy]))
      exact ⟨i1, i2, fun y hy => by simp [i3 y hy]⟩
    · rename_i he
      refine ⟨?_, hs, fun y hy => hy⟩
      intro y hy
      have hx : now < lev x := by
        have := hmin x (by simp)
        have hne : lev x ≠ now := by simpa using he
        omega
      rcases List.mem_cons.mp hy with rfl | hy
      · exact hx
      · exact Nat.lt_of_lt_of_le hx (hs'.1 y hy)

theorem takeLevel_length {α} (lev : α → Nat) (now : Nat) (l : List α) :
    (takeLevel lev now l).1.length + (takeLevel lev now l).2.length = l.length := by
  rw [← List.length_append, ← (takeLevel_spec lev now l).1]

theorem takeLevel_all {α} (lev : α → Nat) (now : Nat) : ∀ (l : List α), (∀ x ∈ l, lev x = now) →
    takeLevel lev now l = (l, [])
  | [], _ => rfl
  | x :: r, h => by
    have hx : (lev x == now) = true := by simpa using h x List.mem_cons_self
    simp only [takeLevel, hx, if_true, takeLevel_all lev now r (fun y hy => h y (List.mem_cons_of_mem _ hy))]

theorem takeLevel_keeps {α} (lev : α → Nat) (now : Nat) (l : List α) : ∀ x ∈ l, lev x ≠ now → x ∈ (takeLevel lev now l).2 := by
  intro x hx hne
  obtain ⟨h1, h2⟩ := takeLevel_spec lev now l
  rw [h1] at hx
  rcases List.mem_append.mp hx with h | h
  · exact absurd (h2 x h) hne
  · exact h

/-- what the loops need of "`s'` is `s` with items of level `k` inserted": nothing else is new, nothing is lost,
sortedness by level is kept -/
structure Inserted {α} (lev : α → Nat) (k : Nat) (s s' : List α) : Prop where
  new : ∀ x ∈ s', x ∈ s ∨ lev x = k
  old : ∀ x ∈ s, x ∈ s'
  sorted : LSorted lev s → LSorted lev s'

/-- `r` is `rest` with the items `f l`, `l ∈ ls`, inserted -/
structure InsertedAll {α β} (lev : α → Nat) (f : β → α) (ls : List β) (rest r : List α) : Prop where
  sorted : LSorted lev rest → LSorted lev r
  mem : ∀ x, x ∈ r ↔ x ∈ rest ∨ x ∈ ls.map f
  length : r.length = rest.length + ls.length
  sum : ∀ w : α → Nat, (r.map w).sum = (rest.map w).sum + (ls.map (fun l => w (f l))).sum

theorem foldInsert_facts {α β} {lt : α → α → Bool} {lev : α → Nat}
    (h1 : ∀ a b, lt a b = true → lev a ≤ lev b) (h2 : ∀ a b, lt a b = false → lev b ≤ lev a)
    (f : β → α) (ls : List β) : ∀ (rest : List α),
    InsertedAll lev f ls rest (ls.foldl (fun acc l => insertBy lt (f l) acc) rest) := by
  induction ls with
  | nil => intro rest; exact ⟨id, fun _ => by simp, rfl, fun _ => rfl⟩
  | cons l r ih =>
    intro rest
    obtain ⟨a, b, c, d⟩ := ih (insertBy lt (f l) rest)
    refine ⟨fun hs => a (insertBy_sorted h1 h2 _ _ hs), fun x => ?_, ?_, fun w => ?_⟩
    · rw [List.foldl_cons, b, mem_insertBy, List.map_cons, List.mem_cons, or_assoc, or_left_comm]
    · rw [List.foldl_cons, c, length_insertBy, List.length_cons]; omega
    · rw [List.foldl_cons, d, sum_map_insertBy, List.map_cons, List.sum_cons]; omega

theorem foldInsert_ins {α β} {lt : α → α → Bool} {lev : α → Nat}
    (h1 : ∀ a b, lt a b = true → lev a ≤ lev b) (h2 : ∀ a b, lt a b = false → lev b ≤ lev a)
    (f : β → α) (k : Nat) (hk : ∀ l, lev (f l) = k) (ls : List β) (rest : List α) :
    Inserted lev k rest (ls.foldl (fun acc l => insertBy lt (f l) acc) rest) := by
  have h := foldInsert_facts h1 h2 f ls rest
  refine ⟨fun x hx => ((h.mem x).mp hx).imp_right fun hm => ?_, fun x hx => (h.mem x).mpr (Or.inl hx), h.sorted⟩
  obtain ⟨l, _, rfl⟩ := List.mem_map.mp hm
  exact hk l

theorem sortBy_facts (l : List (Nat × Label)) :
    LSorted (·.1) (sortBy ltSingle l) ∧ (sortBy ltSingle l).length = l.length ∧
    ∀ x, x ∈ sortBy ltSingle l ↔ x ∈ l := by
  have h := foldInsert_facts ltSingle_le ltSingle_ge id l []
  exact ⟨h.sorted List.Pairwise.nil, by simpa [sortBy] using h.length, by simpa [sortBy] using h.mem⟩

theorem LSorted.head_le {α} {lev : α → Nat} {y : α} {r : List α} (h : LSorted lev (y :: r)) :
    ∀ x ∈ y :: r, lev y ≤ lev x := by
  intro x hx
  rcases List.mem_cons.mp hx with rfl | hx
  · exact Nat.le_refl _
  · exact (List.pairwise_cons.mp h).1 x hx

theorem minLevel_facts {inf : Nat} {single : List (Nat × Label)} {pairs : List (Nat × Label × Label)}
    (sS : LSorted (·.1) single) (sP : LSorted (·.1) pairs) (hlt : minLevel single pairs inf < inf) :
    (∀ x ∈ single, minLevel single pairs inf ≤ x.1) ∧ (∀ p ∈ pairs, minLevel single pairs inf ≤ p.1) ∧
    ((∃ y r, single = y :: r ∧ y.1 = minLevel single pairs inf) ∨
      (∃ y r, pairs = y :: r ∧ y.1 = minLevel single pairs inf)) := by
  rcases single with _ | ⟨y, r⟩ <;> rcases pairs with _ | ⟨q, qr⟩
  · simp [minLevel] at hlt
  · have hm : minLevel [] (q :: qr) inf = q.1 := by simp only [minLevel] at hlt ⊢; omega
    rw [hm]; exact ⟨by simp, sP.head_le, Or.inr ⟨q, qr, rfl, rfl⟩⟩
  · have hm : minLevel (y :: r) [] inf = y.1 := by simp only [minLevel] at hlt ⊢; omega
    rw [hm]; exact ⟨sS.head_le, by simp, Or.inl ⟨y, r, rfl, rfl⟩⟩
  · have hm : (minLevel (y :: r) (q :: qr) inf = y.1 ∧ y.1 ≤ q.1) ∨ (minLevel (y :: r) (q :: qr) inf = q.1 ∧ q.1 ≤ y.1) := by
      simp only [minLevel] at hlt ⊢; omega
    rcases hm with ⟨hm, hle⟩ | ⟨hm, hle⟩ <;> rw [hm]
    · exact ⟨sS.head_le, fun p hp => Nat.le_trans hle (sP.head_le p hp), Or.inl ⟨y, r, rfl, rfl⟩⟩
    · exact ⟨fun x hx => Nat.le_trans hle (sS.head_le x hx), sP.head_le, Or.inr ⟨q, qr, rfl, rfl⟩⟩

/-- how many items of a list sit at level `k` -/
def cntL {α} (lev : α → Nat) (l : List α) (k : Nat) : Nat := (l.map lev).count k

/-- a level profile without holes: once it is 0 it stays 0 -/
def NoHoles (c : Nat → Nat) : Prop := ∀ l, c l = 0 → ∀ k, l ≤ k → c k = 0

theorem cntL_nil {α} (lev : α → Nat) (k : Nat) : cntL lev [] k = 0 := rfl

theorem cntL_cons {α} (lev : α → Nat) (x : α) (l : List α) (k : Nat) :
    cntL lev (x :: l) k = (if lev x = k then 1 else 0) + cntL lev l k := by
  simp only [cntL, List.map_cons, List.count_cons, beq_iff_eq]; omega

theorem cntL_append {α} (lev : α → Nat) (a b : List α) (k : Nat) : cntL lev (a ++ b) k = cntL lev a k + cntL lev b k := by
  simp only [cntL, List.map_append, List.count_append]

theorem cntL_perm {α} (lev : α → Nat) {a b : List α} (h : a.Perm b) (k : Nat) : cntL lev a k = cntL lev b k :=
  (h.map lev).count_eq k

theorem cntL_insertBy {α} (lev : α → Nat) (lt : α → α → Bool) (x : α) (l : List α) (k : Nat) :
    cntL lev (insertBy lt x l) k = (if lev x = k then 1 else 0) + cntL lev l k := by
  rw [cntL_perm lev (insertBy_perm lt x l) k, cntL_cons]

theorem cntL_foldl_insert {α β} (lev : α → Nat) (lt : α → α → Bool) (f : β → α) (k : Nat) :
    ∀ (xs : List β) (acc : List α),
      cntL lev (xs.foldl (fun acc x => insertBy lt (f x) acc) acc) k = cntL lev acc k + cntL (fun x => lev (f x)) xs k := by
  intro xs
  induction xs with
  | nil => intro acc; rfl
  | cons x r ih => intro acc; simp only [List.foldl_cons, ih, cntL_insertBy, cntL_cons]; omega

theorem cntL_zero_of_all {α} (lev : α → Nat) (l : List α) (k : Nat) (h : ∀ x ∈ l, lev x ≠ k) : cntL lev l k = 0 :=
  List.count_eq_zero.mpr fun hm => by
    obtain ⟨x, hx, e⟩ := List.mem_map.mp hm
    exact h x hx e

theorem exists_mem_of_cntL_pos {α} (lev : α → Nat) (l : List α) (k : Nat) (h : 0 < cntL lev l k) :
    ∃ x ∈ l, lev x = k :=
  List.mem_map.mp (List.count_pos_iff.mp h)

theorem nil_of_cntL_zero {α} (lev : α → Nat) (l : List α) (h : ∀ k, cntL lev l k = 0) : l = [] := by
  cases l with
  | nil => rfl
  | cons x r =>
    have := h (lev x)
    rw [cntL_cons] at this
    simp at this

theorem cntL_all {α} (lev : α → Nat) (l : List α) (k : Nat) (h : ∀ x ∈ l, lev x = k) : cntL lev l k = l.length := by
  rw [cntL, List.count_eq_length.mpr, List.length_map]
  intro b hb
  obtain ⟨x, hx, rfl⟩ := List.mem_map.mp hb
  exact (h x hx).symm

theorem cntL_const {β} (c : Nat) (xs : List β) (k : Nat) : cntL (fun _ : β => c) xs k = if c = k then xs.length else 0 := by
  split
  · exact cntL_all _ _ _ (fun _ _ => ‹c = k›)
  · exact cntL_zero_of_all _ _ _ (fun _ _ => ‹¬ c = k›)

theorem takeLevel_counts {α} (lev : α → Nat) (now : Nat) (l : List α) (hs : LSorted lev l)
    (hmin : ∀ x ∈ l, now ≤ lev x) :
    (takeLevel lev now l).1.length = cntL lev l now ∧
    (∀ k, cntL lev (takeLevel lev now l).2 k = if k = now then 0 else cntL lev l k) := by
  obtain ⟨hsplit, hall⟩ := takeLevel_spec lev now l
  obtain ⟨hgt, _⟩ := takeLevel_rest lev now l hs hmin
  have hz : cntL lev (takeLevel lev now l).2 now = 0 :=
    cntL_zero_of_all _ _ _ (fun x hx => Nat.ne_of_gt (hgt x hx))
  have hsum (k : Nat) : cntL lev l k = cntL lev (takeLevel lev now l).1 k + cntL lev (takeLevel lev now l).2 k := by
    rw [← cntL_append, ← hsplit]
  constructor
  · rw [hsum now, hz, cntL_all lev _ now hall]; rfl
  · intro k
    split
    · rename_i hk; rw [hk]; exact hz
    · rename_i hk
      rw [hsum k, cntL_zero_of_all lev (takeLevel lev now l).1 k (fun x hx => by rw [hall x hx]; exact Ne.symm hk),
        Nat.zero_add]

/-- `reduce3` with the carries kept in any container: `push` adds one (`reduce3` appends to the next level's
list, `wReduce3` inserts into the sorted list of all remaining bits) -/
def reduce3With {σ : Type} (blk3 : List Label → Prog (List Label)) (push : Label → σ → σ) :
    Nat → List Label → σ → Prog (List Label × σ)
  | fuel + 1, a :: b :: c :: rest, s => do
    let (x, y) ← pair2 (← blk3 [a, b, c])
    reduce3With blk3 push fuel (x :: rest) (push y s)
  | _, nowR, s => pure (nowR, s)

theorem reduce3_eq (blk3 : List Label → Prog (List Label)) : ∀ (fuel : Nat) (nowR next : List Label),
    reduce3 blk3 fuel nowR next = reduce3With blk3 (fun y nx => nx ++ [y]) fuel nowR next := by
  intro fuel
  induction fuel with
  | zero => intro nowR next; rfl
  | succ f ih =>
    intro nowR next
    match nowR with
    | a :: b :: c :: rest => simp only [reduce3, reduce3With, ih]
    | [] | [_] | [_, _] => rfl

abbrev pushAll {σ : Type} (push : Label → σ → σ) (ys : List Label) (s : σ) : σ := ys.foldl (fun s y => push y s) s

theorem pushAll_snoc (ys next : List Label) : pushAll (fun y nx => nx ++ [y]) ys next = next ++ ys := by
  induction ys generalizing next with
  | nil => simp [pushAll]
  | cons y r ih => simp only [pushAll, List.foldl_cons] at ih ⊢; rw [ih]; simp

theorem wReduce3_eq (blk3 : List Label → Prog (List Label)) (lvl : Nat) :
    ∀ (fuel : Nat) (nowR : List Label) (single : List (Nat × Label)), wReduce3 blk3 lvl fuel nowR single =
      reduce3With blk3 (fun y s => insertBy ltSingle (lvl + 1, y) s) fuel nowR single := by
  intro fuel
  induction fuel with
  | zero => intro nowR single; rfl
  | succ f ih =>
    intro nowR single
    match nowR with
    | a :: b :: c :: rest => simp only [wReduce3, reduce3With, ih]
    | [] | [_] | [_, _] => rfl

/-- the carries `ys` of a level go into the sorted list one level up, at `k` -/
abbrev insertS (k : Nat) (ys : List Label) (single : List (Nat × Label)) : List (Nat × Label) :=
  ys.foldl (fun acc l => insertBy ltSingle (k, l) acc) single

abbrev insertP (k : Nat) (ps : List (Label × Label)) (pairs : List (Nat × Label × Label)) : List (Nat × Label × Label) :=
  ps.foldl (fun acc (l : Label × Label) => insertBy ltPair (k, l.1, l.2) acc) pairs

theorem length_insertS (k : Nat) (ys : List Label) (s : List (Nat × Label)) :
    (insertS k ys s).length = s.length + ys.length :=
  (foldInsert_facts ltSingle_le ltSingle_ge (fun l => (k, l)) ys s).length

theorem length_insertP (k : Nat) (ps : List (Label × Label)) (s : List (Nat × Label × Label)) :
    (insertP k ps s).length = s.length + ps.length :=
  (foldInsert_facts ltPair_le ltPair_ge (fun (l : Label × Label) => (k, l.1, l.2)) ps s).length

theorem ins_insertS (k : Nat) (ys : List Label) (s : List (Nat × Label)) : Inserted (·.1) k s (insertS k ys s) :=
  foldInsert_ins ltSingle_le ltSingle_ge (fun l => (k, l)) k (fun _ => rfl) ys s

theorem ins_insertP (k : Nat) (ps : List (Label × Label)) (s : List (Nat × Label × Label)) :
    Inserted (·.1) k s (insertP k ps s) :=
  foldInsert_ins ltPair_le ltPair_ge (fun (l : Label × Label) => (k, l.1, l.2)) k (fun _ => rfl) ps s

theorem mem_insertS {k : Nat} {ys : List Label} {s : List (Nat × Label)} {x : Nat × Label} :
    x ∈ insertS k ys s ↔ x ∈ s ∨ ∃ l ∈ ys, x = (k, l) := by
  rw [(foldInsert_facts ltSingle_le ltSingle_ge (fun l => (k, l)) ys s).mem, List.mem_map]
  simp only [eq_comm]

theorem mem_insertP {k : Nat} {ps : List (Label × Label)} {s : List (Nat × Label × Label)} {x : Nat × Label × Label} :
    x ∈ insertP k ps s ↔ x ∈ s ∨ ∃ p ∈ ps, x = (k, p.1, p.2) := by
  rw [(foldInsert_facts ltPair_le ltPair_ge (fun (l : Label × Label) => (k, l.1, l.2)) ps s).mem, List.mem_map]
  simp only [eq_comm]

/-- in the AIG basis no pairs are ever formed: the weighted loop is the naive one -/
theorem weightedLoop_aig_eq (inf : Nat) : ∀ (fuel : Nat) (single res : List (Nat × Label)),
    weightedLoop .aig inf fuel single [] res = weightedNaiveLoop .aig inf fuel single res := by
  intro fuel
  induction fuel with
  | zero => intro single res; rfl
  | succ f ih =>
    intro single res
    simp only [weightedLoop, weightedNaiveLoop, takeLevel, List.isEmpty_nil, Bool.and_true, ih]

end Cirbo
