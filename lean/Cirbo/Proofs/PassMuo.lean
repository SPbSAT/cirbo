import Cirbo.Proofs.PassOrder
/-!
MergeUnaryOperators first fills three redirection maps along the topological order, then rebuilds the circuit with the
operands redirected.
-/
namespace Cirbo
open GateType

theorem unary_val {ty : GateType} {ops : List Label} {l o : Label} {v : Label → Bool} {x : Bool}
    (h : bfun ty (ops.map v) = some x) (ho : unaryOperand ⟨l, ty, ops⟩ = some o) :
    (isNotLike ty = true → x = !v o) ∧ (isIffLike ty = true → x = v o) := by
  cases ty <;> simp [isNotLike, isIffLike] <;>
    rcases ops with _ | ⟨a, _ | ⟨b, _ | ⟨d, r⟩⟩⟩ <;> simp_all [bfun, unaryOperand]

theorem unary_ne_input {ty : GateType} (h : isNotLike ty = true ∨ isIffLike ty = true) : ty ≠ INPUT := by
  rintro rfl; simp [isNotLike, isIffLike] at h

/-- a negation `l` of `o`: `_not_to_even_parent[l] = _not_to_odd_parent[o]` if there is one,
`_not_to_odd_parent[l] = _not_to_even_parent.get(o, o)` -/
def MuoMaps.neg (m : MuoMaps) (l o : Label) : MuoMaps :=
  ⟨match Dict.get? m.odd o with
    | some p => Dict.set m.even l p
    | none => m.even, Dict.set m.odd l ((Dict.get? m.even o).getD o), m.iff⟩

/-- a buffer `l` of `o`: `_iff_to_parent[l] = _iff_to_parent.get(o, o)` -/
def MuoMaps.buf (m : MuoMaps) (l o : Label) : MuoMaps :=
  ⟨m.even, m.odd, Dict.set m.iff l ((Dict.get? m.iff o).getD o)⟩

/-- one round of the bookkeeping of `muoMaps` at the label `l` -/
def MuoUpd (c : Circuit) (m : MuoMaps) (l : Label) (m' : MuoMaps) : Prop :=
  ∃ g, c.find? l = some g ∧
    if isNotLike g.ty then ∃ o, unaryOperand g = some o ∧ m.neg l o = m'
    else if isIffLike g.ty then ∃ o, unaryOperand g = some o ∧ m.buf l o = m' else m = m'

/-- the step is the lambda inside `muoMaps`, found by unification: a copy of it here would be a second place to change -/
theorem muoMaps_step (c : Circuit) : ∃ step : R MuoMaps → Label → R MuoMaps,
    (∀ order, muoMaps c order = order.foldl step (.ok ⟨[], [], []⟩)) ∧ (∀ e l, step (.error e) l = .error e) ∧
    ∀ m l m', step (.ok m) l = .ok m' ↔ MuoUpd c m l m' := by
  refine ⟨_, fun _ => rfl, fun _ _ => rfl, fun m l m' => ?_⟩
  unfold MuoUpd MuoMaps.neg MuoMaps.buf
  cases c.find? l with
  | none => simp
  | some g =>
    by_cases hn : isNotLike g.ty = true
    · cases ho : unaryOperand g with
      | none => simp [hn, ho]
      | some o => cases hd : Dict.get? m.odd o <;> simp [hn, ho, hd]
    · by_cases hi : isIffLike g.ty = true <;> cases ho : unaryOperand g <;> simp [hn, hi, ho]

theorem muoMaps_induct {c : Circuit} {P : List Label → MuoMaps → Prop} {L : List Label} {m : MuoMaps}
    (h0 : P [] ⟨[], [], []⟩)
    (hP : ∀ p l q m m', L = p ++ l :: q → P p m → MuoUpd c m l m' → P (p ++ [l]) m')
    (h : muoMaps c L = .ok m) : P L m := by
  obtain ⟨step, hf, he, hs⟩ := muoMaps_step c
  exact foldlR_run he (fun p l q t t' hL hp h1 => hP p l q t t' hL hp ((hs t l t').mp h1)) h0 (hf L ▸ h)

/-- every entry `l ↦ p` of `even`, `odd`, `iff` satisfies `E l p`, `O l p`, `I l p`: read with values (`v l = v p`,
`v l = !v p`) for the function, with the kind of gate at `p` for the postcondition, with reachability for returning -/
structure MuoMaps.Sat (E O I : Label → Label → Prop) (m : MuoMaps) : Prop where
  even : ∀ l p, Dict.get? m.even l = some p → E l p
  odd : ∀ l p, Dict.get? m.odd l = some p → O l p
  iff : ∀ l p, Dict.get? m.iff l = some p → I l p

theorem MuoMaps.sat_empty (E O I : Label → Label → Prop) : MuoMaps.Sat E O I ⟨[], [], []⟩ :=
  ⟨fun _ _ h => (nomatch h), fun _ _ h => (nomatch h), fun _ _ h => (nomatch h)⟩

/-- the relations must be closed under what a negation and a buffer add: even = odd of the operand, odd = even of the
operand or (if there is none) the operand itself -/
theorem muoUpd_sat {E O I : Label → Label → Prop} {c : Circuit} {m m' : MuoMaps} {l : Label}
    (hN : ∀ g o, c.find? l = some g → isNotLike g.ty = true → unaryOperand g = some o →
      (Dict.get? m.even o = none → O l o) ∧ (∀ q, E o q → O l q) ∧ ∀ p, O o p → E l p)
    (hB : ∀ g o, c.find? l = some g → isIffLike g.ty = true → unaryOperand g = some o →
      (Dict.get? m.iff o = none → I l o) ∧ ∀ q, I o q → I l q)
    (hm : m.Sat E O I) (h : MuoUpd c m l m') : m'.Sat E O I := by
  obtain ⟨g, hf, h⟩ := h
  split at h
  · obtain ⟨o, ho, rfl⟩ := h
    obtain ⟨h1, h2, h3⟩ := hN g o hf ‹_› ho
    refine ⟨fun x p hx => ?_, fun x p hx => ?_, hm.iff⟩
    · simp only [MuoMaps.neg] at hx
      split at hx
      · rcases Dict.get?_set_some hx with ⟨rfl, rfl⟩ | hx
        · exact h3 _ (hm.odd o _ ‹_›)
        · exact hm.even x p hx
      · exact hm.even x p hx
    · rcases Dict.get?_set_some hx with ⟨rfl, rfl⟩ | hx
      · cases hev : Dict.get? m.even o with
        | none => exact h1 hev
        | some q => exact h2 q (hm.even o q hev)
      · exact hm.odd x p hx
  · split at h
    · obtain ⟨o, ho, rfl⟩ := h
      obtain ⟨h1, h2⟩ := hB g o hf ‹_› ho
      refine ⟨hm.even, hm.odd, fun x p hx => ?_⟩
      rcases Dict.get?_set_some hx with ⟨rfl, rfl⟩ | hx
      · cases hev : Dict.get? m.iff o with
        | none => exact h1 hev
        | some q => exact h2 q (hm.iff o q hev)
      · exact hm.iff x p hx
    · exact h ▸ hm

theorem muoMaps_sat {E O I : Label → Label → Prop} {c : Circuit} {order : List Label} {m : MuoMaps}
    (hN : ∀ l g o, c.find? l = some g → isNotLike g.ty = true → unaryOperand g = some o →
      O l o ∧ (∀ q, E o q → O l q) ∧ ∀ p, O o p → E l p)
    (hB : ∀ l g o, c.find? l = some g → isIffLike g.ty = true → unaryOperand g = some o →
      I l o ∧ ∀ q, I o q → I l q)
    (h : muoMaps c order = .ok m) : m.Sat E O I :=
  muoMaps_induct (P := fun _ m => m.Sat E O I) (MuoMaps.sat_empty E O I) (fun _ l _ _ _ _ hm hs => muoUpd_sat
      (fun g o hf ht ho => (hN l g o hf ht ho).imp_left fun h _ => h)
      (fun g o hf ht ho => (hB l g o hf ht ho).imp_left fun h _ => h) hm hs) h

theorem muoMaps_val {c : Circuit} {b v : Label → Bool} (hv : IsValB c b v) {order : List Label} {m : MuoMaps}
    (h : muoMaps c order = .ok m) :
    m.Sat (fun l p => v l = v p) (fun l p => v l = !v p) (fun l p => v l = v p) := by
  have key : ∀ l g o, c.find? l = some g → unaryOperand g = some o →
      (isNotLike g.ty = true → v l = !v o) ∧ (isIffLike g.ty = true → v l = v o) := by
    intro l g o hf ho
    obtain ⟨hg, rfl⟩ := find_some_mem hf
    have hval := hv g hg
    constructor <;> intro ht
    · rw [if_neg (unary_ne_input (.inl ht))] at hval; exact (unary_val hval ho).1 ht
    · rw [if_neg (unary_ne_input (.inr ht))] at hval; exact (unary_val hval ho).2 ht
  refine muoMaps_sat (fun l g o hf ht ho => ?_) (fun l g o hf ht ho => ?_) h
  · have := (key l g o hf ho).1 ht
    exact ⟨this, fun q hq => by rw [this, hq], fun p hp => by rw [this, hp, Bool.not_not]⟩
  · have := (key l g o hf ho).2 ht
    exact ⟨this, fun q hq => by rw [this, hq]⟩

theorem muoRemap_cases (c : Circuit) (m : MuoMaps) (l : Label) :
    muoRemap c m l = l ∨ Dict.get? m.even l = some (muoRemap c m l) ∨ Dict.get? m.iff l = some (muoRemap c m l) := by
  unfold muoRemap
  split
  · exact .inl rfl
  · split
    · cases he : Dict.get? m.even l with
      | none => exact .inl rfl
      | some p => exact .inr (.inl rfl)
    · split
      · cases he : Dict.get? m.iff l with
        | none => exact .inl rfl
        | some p => exact .inr (.inr rfl)
      · exact .inl rfl

theorem muoRemap_sat {E O : Label → Label → Prop} {c : Circuit} {m : MuoMaps} (hm : m.Sat E O E)
    (hr : ∀ l, E l l) (l : Label) : E l (muoRemap c m l) := by
  rcases muoRemap_cases c m l with e | e | e
  · rw [e]; exact hr l
  · exact hm.even l _ e
  · exact hm.iff l _ e

theorem unaryOperand_mem {g : Gate} {o : Label} (h : unaryOperand g = some o) : o ∈ g.ops := by
  unfold unaryOperand at h
  split at h <;> exact List.mem_of_getElem? h

theorem unary_cases {ty : GateType} (h : isNotLike ty = true ∨ isIffLike ty = true) :
    ty = NOT ∨ ty = LNOT ∨ ty = RNOT ∨ ty = IFF ∨ ty = LIFF ∨ ty = RIFF := by
  simpa [isNotLike, isIffLike, or_assoc] using h

theorem unaryOperand_some {g : Gate} (hn : isNotLike g.ty = true ∨ isIffLike g.ty = true)
    (har : arityOk g.ty g.ops.length = true) : ∃ o, unaryOperand g = some o := by
  obtain ⟨l, ty, ops⟩ := g
  rcases ops with _ | ⟨a, _ | ⟨b, r⟩⟩
  · rcases unary_cases hn with rfl | rfl | rfl | rfl | rfl | rfl <;> simp [arityOk] at har
  · rcases unary_cases hn with rfl | rfl | rfl | rfl | rfl | rfl <;> simp [arityOk] at har <;> simp [unaryOperand]
  · unfold unaryOperand; split <;> simp

theorem muoMaps_total {c : Circuit} (har : ArOK c) (hnd : c.labels.Nodup) {order : List Label}
    (hl : ∀ l ∈ order, l ∈ c.labels) : ∃ m, muoMaps c order = .ok m := by
  obtain ⟨step, hf, _, hs⟩ := muoMaps_step c
  rw [hf]
  refine (foldlR_total (P := fun _ _ => True) (L := order) (fun p l q m h _ => ?_) order [] _ rfl trivial).imp fun _ h => h.1
  obtain ⟨g, hg, rfl⟩ := gate_of_label (hl l (by rw [h]; simp))
  have hop : isNotLike g.ty = true ∨ isIffLike g.ty = true → ∃ o, unaryOperand g = some o := fun ht =>
    unaryOperand_some ht (by have := har g hg; rwa [if_neg (unary_ne_input ht)] at this)
  have : ∃ m', if isNotLike g.ty then ∃ o, unaryOperand g = some o ∧ m.neg g.label o = m'
      else if isIffLike g.ty then ∃ o, unaryOperand g = some o ∧ m.buf g.label o = m' else m = m' := by
    split
    · obtain ⟨o, ho⟩ := hop (.inl ‹_›); exact ⟨_, o, ho, rfl⟩
    · split
      · obtain ⟨o, ho⟩ := hop (.inr ‹_›); exact ⟨_, o, ho, rfl⟩
      · exact ⟨m, rfl⟩
  obtain ⟨m', hm'⟩ := this
  exact ⟨m', (hs m _ m').mpr ⟨g, find_label hnd hg, hm'⟩, trivial⟩

theorem muo_maps_of_ok {c c' : Circuit} (h : muo c = .ok c') :
    ∃ order m, c.topSort true = .ok order ∧ muoMaps c order = .ok m := by
  unfold muo at h
  cases hts : c.topSort true with
  | cyclic => rw [hts] at h; cases h
  | ok order =>
    cases hm : muoMaps c order with
    | error e => rw [hts] at h; dsimp only at h; rw [hm] at h; cases h
    | ok m => exact ⟨order, m, rfl, hm⟩

theorem muo_run {c : Circuit} (hw : WFS c) {order : List Label} {m : MuoMaps} (hts : c.topSort true = .ok order)
    (hm : muoMaps c order = .ok m) :
    ∃ c', PassRun muo c c' ∧
      (∀ g' ∈ c'.gates, ∃ g ∈ c.gates, g' = ⟨g.label, g.ty, g.ops.map (muoRemap c m)⟩) ∧
      c'.outputs = c.outputs.map (muoRemap c m) := by
  obtain ⟨log, hlog⟩ := traverse_outputs_ok hw true
  obtain ⟨hLnd, hLmem, hLord⟩ := full_order hw hlog
  -- an entry of the maps is a transitive operand of its key
  have hop : ∀ l g o, c.find? l = some g → unaryOperand g = some o → Reach c.opsOf [l] o := fun l g o hf ho =>
    .step (.base (List.mem_singleton_self l)) (by simpa [Circuit.opsOf, hf] using unaryOperand_mem ho)
  have htr : ∀ {l o q}, Reach c.opsOf [l] o → Reach c.opsOf [o] q → Reach c.opsOf [l] q := fun h1 h2 =>
    Reach.trans (fun _ h => List.mem_singleton.mp h ▸ h1) h2
  have hrem : ∀ x, Reach c.opsOf [x] (muoRemap c m x) := muoRemap_sat (muoMaps_sat
    (fun l g o hf _ ho => ⟨hop l g o hf ho, fun _ => htr (hop l g o hf ho), fun _ => htr (hop l g o hf ho)⟩)
    (fun l g o hf _ ho => ⟨hop l g o hf ho, fun _ => htr (hop l g o hf ho)⟩) hm) fun l => .base (List.mem_singleton_self l)
  have hval : ∀ b v, IsValB c b v → ∀ l, v (muoRemap c m l) = v l := fun b v hv l =>
    (muoRemap_sat (muoMaps_val hv hm) (fun _ => rfl) l).symm
  obtain ⟨n1, hn1, hlab1, hr, hgs⟩ := emplaceAll_run hw hrem hval hLnd (fun l hl => (hLmem l).mp hl) hLord
  obtain ⟨n2, hn2⟩ := setInputs_returns_of_shape hw (hlab1 ▸ hLnd) (fun l => hlab1 ▸ hLmem l) hr.shape
  have hall : ∀ l, l ∈ n1.labels ↔ l ∈ c.labels := fun l => hlab1 ▸ hLmem l
  obtain ⟨c', hc', hgc, hoc, hp, sh, hin⟩ := hr.finish_ok hn2 (outs := c.outputs.map (muoRemap c m))
    (fun o' ho' => by
      obtain ⟨o, ho, rfl⟩ := List.mem_map.mp ho'
      exact (hall _).mpr (reach_labels hw (fun _ h => List.mem_singleton.mp h ▸ hw.outputsOK o ho) (hrem o)))
    (List.length_map _) (fun b v hv => by rw [List.map_map]; exact List.map_congr_left fun l _ => hval b v hv l)
  exact ⟨c', ⟨by simp only [muo, hts, hm, hlog, hn1, hn2, hc'], hp, sh, hin⟩, hgc ▸ hgs, hoc⟩

theorem muo_spec {c c' : Circuit} (hw : WFS c) (h : muo c = .ok c') : PassRun muo c c' :=
  let ⟨_, _, hts, hm⟩ := muo_maps_of_ok h
  let ⟨_, r, _⟩ := muo_run hw hts hm; r.of_ok h

theorem muo_total {c : Circuit} (hw : WFS c) (har : ArOK c) : ∃ c', muo c = .ok c' := by
  obtain ⟨order, hts, hperm, _⟩ := topSort_inv_spec hw.toWFG
  obtain ⟨m, hm⟩ := muoMaps_total har hw.nodup (fun l hl => hperm.mem_iff.mp hl)
  exact let ⟨c', r, _⟩ := muo_run hw hts hm; ⟨c', r.ok⟩

end Cirbo
