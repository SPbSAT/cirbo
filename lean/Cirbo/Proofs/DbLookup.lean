import Cirbo.Model.DbLookup
/-!
# Lookup with don't-cares: every completion is tried, the smallest stored one wins (C17)
-/
namespace Cirbo
namespace Norm

variable {γ : Type _} (size : γ → Nat)

/-- the accumulator after the stored circuits `cs`: nothing if there are none, else a smallest one, with its size -/
def Best (cs : List γ) : Option (γ × Nat) → Prop
  | none => cs = []
  | some (r, s) => s = size r ∧ r ∈ cs ∧ ∀ c ∈ cs, s ≤ size c

variable {size}

theorem foldl_pickStep_lookup (lookup : List Row → Option γ) : ∀ (ts : List (List Row)) (acc : Option (γ × Nat)),
    ts.foldl (fun acc t => pickStep size acc (lookup t)) acc =
      (ts.filterMap lookup).foldl (fun acc c => pickStep size acc (some c)) acc
  | [], _ => rfl
  | t :: ts, acc => by
    rw [List.foldl_cons, foldl_pickStep_lookup lookup ts, List.filterMap_cons]
    cases lookup t <;> rfl

theorem Best.step {cs : List γ} {acc : Option (γ × Nat)} (h : Best size cs acc) (c : γ) :
    Best size (cs ++ [c]) (pickStep size acc (some c)) := by
  have hmem : ∀ {n}, (∀ x ∈ cs, n ≤ size x) → n ≤ size c → ∀ x ∈ cs ++ [c], n ≤ size x := by
    intro n h1 h2 x hx
    rcases List.mem_append.mp hx with hx | hx
    · exact h1 x hx
    · rwa [List.mem_singleton.mp hx]
  cases acc with
  | none =>
    cases h
    exact ⟨rfl, by simp, by simp⟩
  | some p =>
    obtain ⟨r, s⟩ := p
    obtain ⟨hs, hr, hmin⟩ := h
    simp only [pickStep]
    split
    · rename_i hlt
      exact ⟨rfl, by simp, hmem (fun x hx => Nat.le_trans (Nat.le_of_lt hlt) (hmin x hx)) (Nat.le_refl _)⟩
    · rename_i hge
      exact ⟨hs, List.mem_append_left _ hr, hmem hmin (Nat.le_of_not_lt hge)⟩

theorem Best.foldl : ∀ (cs pre : List γ) (acc : Option (γ × Nat)), Best size pre acc →
    Best size (pre ++ cs) (cs.foldl (fun acc c => pickStep size acc (some c)) acc)
  | [], pre, acc, h => by simpa using h
  | c :: cs, pre, acc, h => by simpa using Best.foldl cs (pre ++ [c]) _ (h.step c)

theorem lookupDC_spec (lookup : List Row → Option γ) (size : γ → Nat) (tt : List (List TEntry)) :
    (∀ r, lookupDC lookup size tt = some r →
      (∃ t ∈ completions tt, lookup t = some r) ∧ ∀ t ∈ completions tt, ∀ c, lookup t = some c → size r ≤ size c) ∧
    (lookupDC lookup size tt = none ↔ ∀ t ∈ completions tt, lookup t = none) := by
  have hb := Best.foldl (size := size) ((completions tt).filterMap lookup) [] none rfl
  rw [List.nil_append, ← foldl_pickStep_lookup] at hb
  unfold lookupDC
  generalize (completions tt).foldl _ none = res at hb
  cases res with
  | none => exact ⟨fun r h => (nomatch h), iff_of_true rfl (List.filterMap_eq_nil_iff.mp hb)⟩
  | some p =>
    obtain ⟨r, s⟩ := p
    obtain ⟨rfl, hr, hmin⟩ := hb
    simp only [List.mem_filterMap] at hr hmin
    obtain ⟨t, ht, hl⟩ := hr
    refine ⟨fun r' h => ?_, iff_of_false (fun h => (nomatch h)) fun h => ?_⟩
    · cases h
      exact ⟨⟨t, ht, hl⟩, fun t' ht' c hc => hmin c ⟨t', ht', hc⟩⟩
    · rw [h t ht] at hl; cases hl

end Norm
end Cirbo
