import Cirbo.Proofs.GenWeighted
import Cirbo.Proofs.GenMul
/-!
# Weighted sums: when the input levels have no gaps, the output levels are 0, 1, 2, …
(the positional reading of `add_mul`'s result)
-/
namespace Cirbo

/-- the levels queued, singles then pairs -/
def levelsOf (single : List (Nat × Label)) (pairs : List (Nat × Label × Label)) : List Nat :=
  single.map (·.1) ++ pairs.map (·.1)

/-- every level is at least `lo`, and below every level above `lo` the next lower one occurs too -/
def Gapless (lo : Nat) (L : List Nat) : Prop := (∀ x ∈ L, lo ≤ x) ∧ (∀ x ∈ L, lo < x → x - 1 ∈ L)

theorem gapless_lo_mem {lo : Nat} {L : List Nat} (h : Gapless lo L) : ∀ (d x : Nat), x ∈ L → x = lo + d → lo ∈ L := by
  intro d
  induction d with
  | zero => intro x hx e; simpa [e] using hx
  | succ d ih =>
    intro x hx e
    have := h.2 x hx (by omega)
    exact ih (x - 1) this (by omega)

theorem level_facts {inf : Nat} {single : List (Nat × Label)} {pairs : List (Nat × Label × Label)}
    {res : List (Nat × Label)} (inv : WInv inf single pairs res) (hne : single ≠ [] ∨ pairs ≠ []) :
    let lvl := minLevel single pairs inf
    (∀ y ∈ levelsOf single pairs, lvl ≤ y) ∧ lvl ∈ levelsOf single pairs := by
  obtain ⟨hS, hP, hhead⟩ := minLevel_facts inv.sS inv.sP (inv.minLevel_lt hne)
  simp only [levelsOf, List.mem_append, List.mem_map]
  constructor
  · rintro y (⟨x, hx, rfl⟩ | ⟨x, hx, rfl⟩)
    · exact hS x hx
    · exact hP x hx
  · rcases hhead with ⟨y, r, e, hy⟩ | ⟨y, r, e, hy⟩
    · exact Or.inl ⟨y, e ▸ List.mem_cons_self, hy⟩
    · exact Or.inr ⟨y, e ▸ List.mem_cons_self, hy⟩

theorem Gapless.succ {lo : Nat} {L L' : List Nat} (hg : Gapless lo L)
    (h1 : ∀ y ∈ L', (y ∈ L ∧ lo < y) ∨ y = lo + 1) (h2 : ∀ y ∈ L, y ≠ lo → y ∈ L') : Gapless (lo + 1) L' := by
  constructor
  · intro y hy
    rcases h1 y hy with ⟨_, h⟩ | h <;> omega
  · intro y hy hgt
    rcases h1 y hy with ⟨hL, _⟩ | h
    · exact h2 _ (hg.2 y hL (by omega)) (by omega)
    · omega

/-- what taking level `lo` off and inserting carries at `lo + 1` does to the list of levels -/
theorem ins_levels {α} {lev : α → Nat} {lo : Nat} {l s' : List α} (hs : LSorted lev l) (hmin : ∀ x ∈ l, lo ≤ lev x)
    (h : Inserted lev (lo + 1) (takeLevel lev lo l).2 s') :
    (∀ y ∈ s'.map lev, (y ∈ l.map lev ∧ lo < y) ∨ y = lo + 1) ∧ (∀ y ∈ l.map lev, y ≠ lo → y ∈ s'.map lev) := by
  obtain ⟨r1, _, r3⟩ := takeLevel_rest lev lo l hs hmin
  constructor
  · intro y hy
    obtain ⟨x, hx, rfl⟩ := List.mem_map.mp hy
    exact (h.new x hx).imp_left fun hm => ⟨List.mem_map_of_mem (r3 x hm), r1 x hm⟩
  · intro y hy hne
    obtain ⟨x, hx, rfl⟩ := List.mem_map.mp hy
    exact List.mem_map_of_mem (h.old x (takeLevel_keeps lev lo l x hx hne))

theorem gapless_step {inf lo : Nat} {single : List (Nat × Label)} {pairs : List (Nat × Label × Label)}
    {res : List (Nat × Label)} (inv : WInv inf single pairs res) (hne : single ≠ [] ∨ pairs ≠ [])
    (hg : Gapless lo (levelsOf single pairs)) :
    minLevel single pairs inf = lo ∧
    ∀ (s' : List (Nat × Label)) (p' : List (Nat × Label × Label)),
      Inserted (·.1) (lo + 1) (takeLevel (·.1) lo single).2 s' →
      Inserted (·.1) (lo + 1) (takeLevel (·.1) lo pairs).2 p' →
      Gapless (lo + 1) (levelsOf s' p') := by
  obtain ⟨f1, f2⟩ := level_facts inv hne
  have hlo : lo ∈ levelsOf single pairs :=
    gapless_lo_mem hg (minLevel single pairs inf - lo) _ f2 (by have := hg.1 _ f2; omega)
  refine ⟨Nat.le_antisymm (f1 lo hlo) (hg.1 _ f2), fun s' p' hS hP => ?_⟩
  obtain ⟨a1, a2⟩ := ins_levels inv.sS (fun x hx => hg.1 _ (List.mem_append_left _ (List.mem_map_of_mem hx))) hS
  obtain ⟨b1, b2⟩ := ins_levels inv.sP (fun x hx => hg.1 _ (List.mem_append_right _ (List.mem_map_of_mem hx))) hP
  refine hg.succ (fun y hy => ?_) (fun y hy hne => ?_)
  · rcases List.mem_append.mp hy with h | h
    · exact (a1 y h).imp_left fun ⟨m, lt⟩ => ⟨List.mem_append_left _ m, lt⟩
    · exact (b1 y h).imp_left fun ⟨m, lt⟩ => ⟨List.mem_append_right _ m, lt⟩
  · rcases List.mem_append.mp hy with h | h
    · exact List.mem_append_left _ (a2 y h hne)
    · exact List.mem_append_right _ (b2 y h hne)

theorem range_append_self (res : List (Nat × Label)) (r : Label) (h : res.map (·.1) = List.range res.length) :
    (res ++ [(res.length, r)]).map (·.1) = List.range (res ++ [(res.length, r)]).length := by
  simp only [List.map_append, List.map_cons, List.map_nil, List.length_append, List.length_cons, List.length_nil, h]
  rw [List.range_succ]

theorem sem_weightedLoop_levels {v : Label → Bool} {b : Basis} {inf : Nat} :
    ∀ (fuel : Nat) (single : List (Nat × Label)) (pairs : List (Nat × Label × Label)) (res out : List (Nat × Label)),
      Sem (weightedLoop b inf fuel single pairs res) v out → WInv inf single pairs res → (b = .aig → pairs = []) →
      Gapless res.length (levelsOf single pairs) → res.map (·.1) = List.range res.length →
      out.map (·.1) = List.range out.length := by
  intro fuel
  induction fuel with
  | zero => intro single pairs res out h; unfold weightedLoop at h; exact absurd h sem_fail
  | succ fuel ih =>
    intro single pairs res out h inv haig hgap hres
    rcases sem_weightedLoop_succ h inv haig with ⟨_, _, rfl⟩ | ⟨r, s', p', hne, hrec, inv', haig', hS, hP, _⟩
    · exact hres
    · obtain ⟨hlv, hgstep⟩ := gapless_step inv hne hgap
      rw [hlv] at hrec inv' hS hP
      exact ih _ _ _ _ hrec inv' haig' (by simpa using hgstep s' p' hS hP) (range_append_self res r hres)

theorem gapless_of_mem_iff {lo : Nat} {L L' : List Nat} (h : ∀ x, x ∈ L' ↔ x ∈ L) (hg : Gapless lo L) : Gapless lo L' :=
  ⟨fun x hx => hg.1 x ((h x).mp hx), fun x hx hlt => (h _).mpr (hg.2 x ((h x).mp hx) hlt)⟩

theorem sem_addSumWeighted_levels {v : Label → Bool} {ins out : List (Nat × Label)} {basis : BasisArg}
    (h : Sem (addSumWeighted ins basis) v out) (hg : Gapless 0 (ins.map (·.1))) :
    out.map (·.1) = List.range out.length := by
  unfold addSumWeighted at h
  split at h
  · exact absurd h sem_fail
  · split at h
    · exact absurd h sem_fail
    · refine sem_weightedLoop_levels _ _ _ _ _ h (winv_init ins) (fun _ => rfl) ?_ rfl
      apply gapless_of_mem_iff _ hg
      intro x
      simp only [levelsOf, List.map_nil, List.append_nil, List.mem_map]
      constructor
      · rintro ⟨p, hp, rfl⟩; exact ⟨p, ((sortBy_facts ins).2.2 p).mp hp, rfl⟩
      · rintro ⟨p, hp, rfl⟩; exact ⟨p, ((sortBy_facts ins).2.2 p).mpr hp, rfl⟩

theorem wsum_positional (v : Label → Bool) : ∀ (lv : List (Nat × Label)) (k : Nat),
    lv.map (·.1) = (List.range' k lv.length) → wsum v lv = 2 ^ k * valLE v (lv.map (·.2)) := by
  intro lv
  induction lv with
  | nil => intro k _; simp [wsum_nil, valLE]
  | cons p r ih =>
    intro k h
    simp only [List.map_cons, List.length_cons, List.range'_succ, List.cons.injEq] at h
    rw [wsum_cons, ih (k + 1) h.2, h.1]
    simp only [List.map_cons, valLE, Nat.pow_succ, Nat.mul_add]
    congr 1
    rw [Nat.mul_assoc]

theorem gapless_of_noHoles {α} {lev : α → Nat} {l : List α} (h : NoHoles (cntL lev l)) : Gapless 0 (l.map lev) :=
  ⟨fun _ _ => Nat.zero_le _, fun x hx hpos => Decidable.by_contra fun hn => by
    have := h (x - 1) (List.count_eq_zero.mpr hn) x (by omega)
    exact absurd (List.count_pos_iff.mpr hx) (by rw [show (l.map lev).count x = cntL lev l x from rfl, this]; omega)⟩

theorem ppWeighted_gapless (rows : List (List Label)) (n : Nat) (hn : 1 ≤ n) (hrows : ∀ r ∈ rows, r.length = n) :
    Gapless 0 ((ppWeighted rows).map (·.1)) := by
  rcases Nat.eq_zero_or_pos rows.length with h0 | h0
  · rw [List.eq_nil_of_length_eq_zero h0]; exact ⟨nofun, nofun⟩
  · exact gapless_of_noHoles (by rw [funext (cntL_ppWeighted hrows)]; exact ppProf_no_holes _ _ h0 hn)

theorem sem_weightedRows {v : Label → Bool} {rows : List (List Label)} {n : Nat} {res : List (Nat × Label)} {basis : BasisArg}
    (hn : 1 ≤ n) (hrows : ∀ r ∈ rows, r.length = n) (hw : Sem (addSumWeighted (ppWeighted rows) basis) v res) :
    valLE v (res.map (·.2)) = rowsVal v rows := by
  have hlev := sem_addSumWeighted_levels hw (ppWeighted_gapless rows n hn hrows)
  have hpos := wsum_positional v res 0 (by rw [hlev, List.range_eq_range'])
  rw [← wsum_ppWeighted, ← (sem_addSumWeighted hw).1, hpos, Nat.pow_zero, Nat.one_mul]

theorem sem_addMul {v : Label → Bool} {a b : List Label} {be : Bool} {out : List Label}
    (h : Sem (addMul a b be) v out) (ha : 1 ≤ a.length) :
    valLE v (revIf out be) = valLE v (revIf a be) * valLE v (revIf b be) := by
  simp only [addMul, sem_bind, sem_pure] at h
  obtain ⟨rows, hr, lv, hw, rfl⟩ := h
  obtain ⟨rows', e1, _, e3, e4, _⟩ := sem_ppRows _ _ _ hr
  simp only [List.nil_append] at e1; subst e1
  rw [revIf_revIf, ← e4, sem_weightedRows ha (fun r hr' => by rw [e3 r hr', revIf_length]) hw]

end Cirbo
