import Cirbo.Proofs.RemoveGate
import Cirbo.Proofs.Rename
import Cirbo.Proofs.MoreOps
import Cirbo.Proofs.ConnWfs
import Cirbo.Proofs.ReplaceWfs
/-!
# Histories over the extended set of public mutator calls keep the C02 invariant
-/
namespace Cirbo

inductive XOp
  | h (op : HOp)
  | copy
  | renameGate (old new : Label)
  | removeBlock (name : Label)
  | makeBlockFromSlice (name : Label) (ins outs : List Label)
  /-- `connect_circuit(other, this_connectors, other_connectors, right_connect=False, name=, add_prefix=)`;
  `connect_left`, `extend_circuit`, `add_circuit` are this call with their documented arguments -/
  | connectLeft (other : Circuit) (thisC otherC : List Label) (name : Label) (addP : Bool)
  /-- `connect_circuit(…, right_connect=True, …)`; `connect_right`, `connect_inputs` and
  `extend_circuit(right_connect=True)` are this call with their documented arguments -/
  | connectRight (other : Circuit) (thisC otherC : List Label) (name : Label) (addP : Bool)
  /-- `replace_subcircuit(sub, inputs_mapping, outputs_mapping)`; `uuid` stands for the fresh uuid the
  call draws for its temporary block name (any value) -/
  | replaceSubcircuit (sub : Circuit) (im om : List (Label × Label)) (uuid : Nat)

/-- the mappings of `replace_subcircuit` have distinct keys, being Python dicts -/
def XOp.valid : XOp → Prop
  | .h op => op.valid
  | .connectLeft other _ _ _ _ => WFS other
  | .connectRight other _ _ _ _ => WFS other
  | .replaceSubcircuit sub im om _ => WFS sub ∧ (im.map (·.1)).Nodup ∧ (om.map (·.1)).Nodup
  | _ => True

def runXOp (c : Circuit) : XOp → R Circuit
  | .h op => runHOp c op
  | .copy => c.copy
  | .renameGate o n => c.renameGate o n
  | .removeBlock n => c.removeBlock n
  | .makeBlockFromSlice n i o => c.makeBlockFromSlice n i o
  | .connectLeft other t o n a => c.connectCircuit other t o false n a
  | .connectRight other t o n a => c.connectCircuit other t o true n a
  | .replaceSubcircuit sub im om k => match c.replaceSubcircuit sub im om k with
    | .error e => .error e
    | .ok (c', _) => .ok c'

def runXOps : Circuit → List XOp → R Circuit
  | c, [] => .ok c
  | c, op :: r => match runXOp c op with
    | .error e => .error e
    | .ok c' => runXOps c' r

theorem runXOp_wfs {c c' : Circuit} {op : XOp} (hw : WFS c) (hv : op.valid) (h : runXOp c op = .ok c') : WFS c' := by
  cases op with
  | h o => exact runHOp_wfs hw hv h
  | copy => exact copy_wfs hw h
  | renameGate o n => exact renameGate_wfs hw h
  | removeBlock n => exact removeBlock_wfs hw h
  | makeBlockFromSlice n i o => exact makeBlockFromSlice_wfs hw h
  | connectLeft other t o n a => exact connect_wfs hw hv h
  | connectRight other t o n a => exact connect_wfs hw hv h
  | replaceSubcircuit sub im om k =>
    simp only [runXOp] at h
    split at h
    · cases h
    · rename_i hr
      cases h
      exact replaceSubcircuit_wfs hw hv.1 hv.2.1 hv.2.2 hr

end Cirbo
