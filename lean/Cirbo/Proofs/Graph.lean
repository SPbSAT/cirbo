import Cirbo.Proofs.TopSort
import Cirbo.Proofs.Wfs
import Cirbo.Proofs.Lists
/-! A circuit as a graph: `WFG c` makes both Kahn graphs of `c` well formed, whence `Circuit.topSort` in either
direction. -/
namespace Cirbo

theorem opsOf_gate {c : Circuit} (h : c.labels.Nodup) {g : Gate} (hg : g ∈ c.gates) :
    c.opsOf g.label = g.ops := by
  simp [Circuit.opsOf, find_label h hg]

theorem opsOf_not_mem {c : Circuit} {l : Label} (hl : l ∉ c.labels) : c.opsOf l = [] := by
  simp [Circuit.opsOf, find_none hl]

theorem opsOf_of_find {c : Circuit} {l : Label} {g : Gate} (h : c.find? l = some g) : c.opsOf l = g.ops := by
  simp [Circuit.opsOf, h]

theorem opsOf_lt {c : Circuit} {r : Label → Nat} (hrk : ∀ g ∈ c.gates, ∀ o ∈ g.ops, r o < r g.label) (l : Label) :
    ∀ x ∈ c.opsOf l, r x < r l := fun x hx => by
  cases hf : c.find? l with
  | none => simp [Circuit.opsOf, hf] at hx
  | some g =>
    obtain ⟨hg, rfl⟩ := find_some_mem hf
    exact hrk g hg x (opsOf_of_find hf ▸ hx)

theorem opsOf_closed {c : Circuit} (hnd : c.labels.Nodup) (hcl : ∀ g ∈ c.gates, ∀ o ∈ g.ops, o ∈ c.labels)
    (l x : Label) (hx : x ∈ c.opsOf l) : x ∈ c.labels := by
  by_cases hl : l ∈ c.labels
  · obtain ⟨g, hg, rfl⟩ := gate_of_label hl
    exact hcl g hg x (opsOf_gate hnd hg ▸ hx)
  · rw [opsOf_not_mem hl] at hx; cases hx

theorem sum_opsOf_labels {c : Circuit} (hnd : c.labels.Nodup) (f : List Label → Nat) :
    (c.labels.map fun l => f (c.opsOf l)).sum = (c.gates.map fun g => f g.ops).sum := by
  unfold Circuit.labels
  rw [List.map_map]
  exact congrArg _ (List.map_congr_left fun g hg => by simp [opsOf_gate hnd hg])

theorem graphInv_wf {c : Circuit} (h : WFG c) : GWF c.graphInv := by
  refine ⟨h.nodup, ?_, ?_, ?_, ?_⟩
  · intro l hl p hp
    obtain ⟨g, hg, rfl⟩ := gate_of_label hl
    simp only [Circuit.graphInv, opsOf_gate h.nodup hg] at hp
    exact h.closed g hg p hp
  · intro l s hs; exact h.usersL l s hs
  · intro l s hs
    obtain ⟨g, hg, rfl⟩ := gate_of_label hs
    simp only [Circuit.graphInv, opsOf_gate h.nodup hg]
    exact h.usersC l g hg
  · obtain ⟨r, hr⟩ := h.rank
    refine ⟨r, ?_⟩
    intro l hl p hp
    obtain ⟨g, hg, rfl⟩ := gate_of_label hl
    simp only [Circuit.graphInv, opsOf_gate h.nodup hg] at hp
    exact hr g hg p hp

/-- against the users the rank is turned round: what is left of the sum of all ranks -/
theorem usersOf_rank {c : Circuit} (h : WFG c) : ∃ r : Label → Nat, ∀ l, ∀ x ∈ c.usersOf l, r x < r l := by
  obtain ⟨r, hr⟩ := h.rank
  refine ⟨fun x => (c.labels.map r).sum - r x, fun l x hx => ?_⟩
  have hxl := h.usersL l x hx
  obtain ⟨g, hg, rfl⟩ := gate_of_label hxl
  have h1 := hr g hg l ((mem_users_iff h.usersC hg l).mp hx)
  have h2 := le_sum_of_mem r c.labels g.label hxl
  simp only
  omega

theorem graphDir_wf {c : Circuit} (h : WFG c) : GWF c.graphDir := by
  refine ⟨h.nodup, ?_, ?_, ?_, (usersOf_rank h).imp fun r hr l _ => hr l⟩
  · intro l _ p hp; exact h.usersL l p hp
  · intro l s hs
    by_cases hl : l ∈ c.labels
    · obtain ⟨g, hg, rfl⟩ := gate_of_label hl
      simp only [Circuit.graphDir, opsOf_gate h.nodup hg] at hs
      exact h.closed g hg s hs
    · simp [Circuit.graphDir, opsOf_not_mem hl] at hs
  · intro l s hs
    by_cases hl : l ∈ c.labels
    · obtain ⟨g, hg, rfl⟩ := gate_of_label hl
      simp only [Circuit.graphDir, opsOf_gate h.nodup hg]
      exact (h.usersC s g hg).symm
    · simp only [Circuit.graphDir, opsOf_not_mem hl, List.count_nil]
      symm
      apply List.count_eq_zero.mpr
      intro hm; exact hl (h.usersL s l hm)

theorem kahn_nil_of_queue_nil (G : Graph) (hq : (initState G).queue = []) : kahn G = [] := by
  have hk : kstep G (initState G) = none := by unfold kstep; rw [hq]; rfl
  unfold kahn
  cases G.nodes.length with
  | zero => rfl
  | succ n => simp only [kahnLoop, hk]; rfl

theorem topSort_spec {c : Circuit} (inverse : Bool) {G : Graph}
    (hGe : G = if inverse then c.graphInv else c.graphDir) (hG : GWF G) :
    ∃ order, c.topSort inverse = .ok order ∧ order.Perm c.labels ∧ OpsFirst G.pre order := by
  have hnodes : G.nodes = c.labels := by rw [hGe]; cases inverse <;> rfl
  unfold Circuit.topSort
  rw [← hGe]
  by_cases he : c.gates.isEmpty
  · have : c.gates = [] := by simpa using he
    exact ⟨[], by simp [he], by simp [Circuit.labels, this], fun pre l post hs => by simp at hs⟩
  · simp only [he, Bool.false_eq_true, if_false]
    have hperm := hnodes ▸ kahn_perm hG
    by_cases hq : (initState G).queue.isEmpty
    · -- impossible: then Kahn outputs nothing, but the circuit is not empty
      rw [kahn_nil_of_queue_nil _ (by simpa using hq)] at hperm
      have hg : c.gates = [] := by simpa [Circuit.labels] using hperm.nil_eq.symm
      simp [hg] at he
    · simp only [hq, Bool.false_eq_true, if_false]
      exact ⟨kahn G, rfl, hperm, kahn_order hG⟩

theorem topSort_inv_spec {c : Circuit} (h : WFG c) :
    ∃ order, c.topSort true = .ok order ∧ order.Perm c.labels ∧
      ∀ pre l post, order = pre ++ l :: post → ∀ g ∈ c.gates, g.label = l → ∀ o ∈ g.ops, o ∈ pre := by
  obtain ⟨order, h1, h2, h3⟩ := topSort_spec true rfl (graphInv_wf h)
  refine ⟨order, h1, h2, fun pre l post hs g hg hgl o ho => h3 pre l post hs o ?_⟩
  subst hgl
  simpa [Circuit.graphInv, opsOf_gate h.nodup hg] using ho

theorem topSort_dir_spec {c : Circuit} (h : WFG c) :
    ∃ order, c.topSort false = .ok order ∧ order.Perm c.labels ∧ OpsFirst c.usersOf order :=
  topSort_spec false rfl (graphDir_wf h)

end Cirbo
