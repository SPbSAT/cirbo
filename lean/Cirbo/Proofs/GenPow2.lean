import Cirbo.Proofs.GenDadda
import Cirbo.Proofs.SumR
/-!
# `add_sum_pow2_m1` and the column loops built on it
-/
namespace Cirbo

/-- the sum of the rows read as numbers -/
def rowsSum (v : Label → Bool) (rows : List (List Label)) : Nat := (rows.map (valLE v)).sum
/-- the same without the lowest bit of each row -/
def rowsTail (v : Label → Bool) (rows : List (List Label)) : Nat := rowsSum v (rows.map List.tail)

theorem rowsSum_nil (v) : rowsSum v [] = 0 := rfl
theorem rowsSum_cons (v r rs) : rowsSum v (r :: rs) = valLE v r + rowsSum v rs := by simp [rowsSum]
theorem rowsSum_append (v a b) : rowsSum v (a ++ b) = rowsSum v a + rowsSum v b := by simp [rowsSum]
theorem rowsTail_append (v a b) : rowsTail v (a ++ b) = rowsTail v a + rowsTail v b := by
  simp [rowsTail, rowsSum_append]

theorem rowsSum_heads_tails (v : Label → Bool) (rows : List (List Label)) :
    rowsSum v rows = cnt v (rows.filterMap (·.head?)) + 2 * rowsSum v (rows.map List.tail) := by
  induction rows with
  | nil => rfl
  | cons r rs ih =>
    cases r with
    | nil => simp only [List.filterMap_cons, List.head?_nil, List.map_cons, List.tail_nil, rowsSum_cons, valLE, ih]; omega
    | cons x t =>
      simp only [List.filterMap_cons, List.head?_cons, List.map_cons, List.tail_cons, rowsSum_cons, valLE, cnt_cons, ih]; omega

theorem rowsSum_all_empty (v : Label → Bool) (rows : List (List Label)) (h : rows.all (·.isEmpty) = true) :
    rowsSum v rows = 0 := by
  induction rows with
  | nil => rfl
  | cons r rs ih =>
    simp only [List.all_cons, Bool.and_eq_true, List.isEmpty_iff] at h
    rw [rowsSum_cons, h.1, ih h.2]; rfl

/-- `zip_longest` + `filter(None)`: the columns carry the same total as the rows -/
theorem colsVal_transposeRagged (v : Label → Bool) : ∀ (fuel : Nat) (rows : List (List Label)),
    (∀ r ∈ rows, r.length ≤ fuel) → colsVal v (transposeRagged rows fuel) = rowsSum v rows := by
  intro fuel
  induction fuel with
  | zero =>
    intro rows h
    exact (rowsSum_all_empty v rows (List.all_eq_true.mpr fun r hr =>
      List.isEmpty_iff.mpr (List.eq_nil_of_length_eq_zero (Nat.le_zero.mp (h r hr))))).symm
  | succ fuel ih =>
    intro rows h
    unfold transposeRagged
    split
    · rename_i he; rw [rowsSum_all_empty v rows he]; rfl
    · rw [colsVal, ih, ← rowsSum_heads_tails]
      intro r hr
      obtain ⟨r', hr', rfl⟩ := List.mem_map.mp hr
      have := h r' hr'
      rw [List.length_tail]; omega

theorem mem_transposeRagged : ∀ (fuel : Nat) (rows : List (List Label)), ∀ col ∈ transposeRagged rows fuel, ∀ x ∈ col,
    ∃ row ∈ rows, x ∈ row := by
  intro fuel
  induction fuel with
  | zero => intro rows col hc; simp [transposeRagged] at hc
  | succ n ih =>
    intro rows col hc x hx
    unfold transposeRagged at hc
    split at hc
    · cases hc
    · rcases List.mem_cons.mp hc with rfl | hc
      · obtain ⟨row, hrow, hh⟩ := List.mem_filterMap.mp hx
        exact ⟨row, hrow, List.mem_of_mem_head? hh⟩
      · obtain ⟨row', hrow', hx'⟩ := ih _ col hc x hx
        obtain ⟨row, hrow, rfl⟩ := List.mem_map.mp hrow'
        exact ⟨row, hrow, List.mem_of_mem_tail hx'⟩

theorem transposeRagged_first (rows : List (List Label)) (n : Nat) (hne : rows ≠ []) (hrow : ∀ row ∈ rows, row ≠ []) :
    ∃ c0 rest z, transposeRagged rows (n + 1) = c0 :: rest ∧ c0.getLast? = some z := by
  unfold transposeRagged
  cases rows with
  | nil => exact absurd rfl hne
  | cons r0 rs =>
    have hr0 : r0 ≠ [] := hrow r0 (by simp)
    have hall : ((r0 :: rs).all (·.isEmpty)) = false := by
      cases r0 with
      | nil => exact absurd rfl hr0
      | cons a t => simp
    simp only [hall, Bool.false_eq_true, if_false]
    cases r0 with
    | nil => exact absurd rfl hr0
    | cons a t =>
      have hc : (List.filterMap (·.head?) ((a :: t) :: rs)) ≠ [] := by simp
      cases hg : (List.filterMap (·.head?) ((a :: t) :: rs)).getLast? with
      | none => exact absurd (List.getLast?_eq_none_iff.mp hg) hc
      | some z => exact ⟨_, _, z, rfl, hg⟩

theorem transposeRagged_ne_nil : ∀ (fuel : Nat) (rows : List (List Label)), ∀ col ∈ transposeRagged rows fuel, col ≠ [] := by
  intro fuel
  induction fuel with
  | zero => intro rows col hc; simp [transposeRagged] at hc
  | succ n ih =>
    intro rows col hc
    unfold transposeRagged at hc
    split at hc
    · cases hc
    · rename_i hall
      rcases List.mem_cons.mp hc with rfl | hc
      · intro e
        apply hall
        rw [List.all_eq_true]
        intro row hrow
        cases row with
        | nil => rfl
        | cons x t =>
          exfalso
          have : x ∈ List.filterMap (·.head?) rows := List.mem_filterMap.mpr ⟨x :: t, hrow, rfl⟩
          rw [e] at this; cases this
      · exact ih _ col hc

theorem transposeRagged_two (rows : List (List Label)) (n : Nat) (hne : rows ≠ []) (hrow : ∀ row ∈ rows, 2 ≤ row.length) :
    ∃ c0 c1 rest z, transposeRagged rows (n + 2) = c0 :: c1 :: rest ∧ c0.getLast? = some z := by
  obtain ⟨c0, rest, z, e1, e2⟩ := transposeRagged_first rows (n + 1) hne (fun row hr e => by
    have := hrow row hr; rw [e] at this; simp at this)
  have hne' : rows.map List.tail ≠ [] := by
    intro e; exact hne (List.map_eq_nil_iff.mp e)
  obtain ⟨c1, rest', z', e1', _⟩ := transposeRagged_first (rows.map List.tail) n hne' (fun row hr e => by
    obtain ⟨row', hr', rfl⟩ := List.mem_map.mp hr
    have := hrow row' hr'
    have h0 := congrArg List.length e
    simp only [List.length_tail, List.length_nil] at h0; omega)
  rw [transposeRagged] at e1
  split at e1
  · cases e1
  · simp only [List.cons.injEq] at e1
    obtain ⟨rfl, rfl⟩ := e1
    refine ⟨_, c1, rest', z, ?_, e2⟩
    rw [transposeRagged]
    rename_i hall
    rw [if_neg hall, e1']

/-- the state of the chunk loops of `add_sum_pow2_m1`: `pot` counts the input; `link`: the low bit of the last chunk's
count is the last label still to count -/
structure P2Inv (v : Label → Bool) (ins labels : List Label) (out : List (List Label)) : Prop where
  pot : cnt v labels + 2 * rowsTail v out = cnt v ins
  same : out = [] → labels = ins
  link : out ≠ [] → ∃ r0 rest, out.getLast? = some (r0 :: rest) ∧ labels.getLast? = some r0
  pos : 1 ≤ labels.length

theorem P2Inv.init (v : Label → Bool) {ins : List Label} (hne : ins ≠ []) : P2Inv v ins ins [] :=
  ⟨by simp [rowsTail, rowsSum], fun _ => rfl, fun h => absurd rfl h, List.length_pos_iff.mpr hne⟩

theorem P2Inv.push {v : Label → Bool} {ins : List Label} {out : List (List Label)}
    (l' : List Label) (r0 : Label) (rest : List Label)
    (hpot : cnt v l' + bv v r0 + 2 * (rowsTail v out + valLE v rest) = cnt v ins) :
    P2Inv v ins (l' ++ [r0]) (out ++ [r0 :: rest]) := by
  refine ⟨?_, fun he => by simp at he, fun _ => ⟨r0, rest, by simp, by simp⟩, by simp⟩
  rw [rowsTail_append, cnt_append]
  simp only [cnt_cons, cnt_nil, rowsTail, List.map_cons, List.map_nil, List.tail_cons, rowsSum_cons, rowsSum_nil] at hpot ⊢
  omega

theorem sem_pow2Chunk {v : Label → Bool} {basis : BasisArg} {i : Nat} {ins : List Label} : ∀ (fuel : Nat) (labels : List Label)
    (out : List (List Label)) (labels' : List Label) (out' : List (List Label)),
    Sem (pow2Chunk basis i fuel labels out) v (labels', out') → P2Inv v ins labels out →
    P2Inv v ins labels' out' ∧ labels'.length < i := by
  intro fuel
  induction fuel with
  | zero =>
    intro labels out labels' out' h hinv
    simp only [pow2Chunk] at h
    split at h
    · exact absurd h sem_fail
    · rename_i hlt
      simp only [sem_pure, Prod.mk.injEq] at h
      obtain ⟨rfl, rfl⟩ := h
      exact ⟨hinv, by omega⟩
  | succ fuel ih =>
    intro labels out labels' out' h hinv
    simp only [pow2Chunk] at h
    split at h
    · rename_i hge
      simp only [sem_bind] at h
      obtain ⟨r, hr, h⟩ := h
      split at h
      · rename_i r0 rest
        have hv := sem_addSumNBits hr
        simp only [revIf, Bool.false_eq_true, if_false, valLE] at hv
        refine ih _ _ _ _ h (P2Inv.push _ r0 rest ?_)
        have := hinv.pot
        rw [cnt_take_drop v labels i] at this
        omega
      · exact absurd h sem_fail
    · rename_i hlt
      simp only [sem_pure, Prod.mk.injEq] at h
      obtain ⟨rfl, rfl⟩ := h
      exact ⟨hinv, by omega⟩

theorem sem_pow2Pass {v : Label → Bool} {basis : BasisArg} {ins labels labels' : List Label} {out out' : List (List Label)}
    (h : Sem (pow2Pass basis labels out) v (labels', out')) (hinv : P2Inv v ins labels out) :
    P2Inv v ins labels' out' ∧ labels'.length < 3 := by
  simp only [pow2Pass, sem_bind] at h
  obtain ⟨⟨l1, o1⟩, h1, ⟨l2, o2⟩, h2, ⟨l3, o3⟩, h3, h4⟩ := h
  obtain ⟨i1, _⟩ := sem_pow2Chunk _ _ _ _ _ h1 hinv
  obtain ⟨i2, _⟩ := sem_pow2Chunk _ _ _ _ _ h2 i1
  obtain ⟨i3, _⟩ := sem_pow2Chunk _ _ _ _ _ h3 i2
  exact sem_pow2Chunk _ _ _ _ _ h4 i3

theorem colsVal_map_revIf (v : Label → Bool) (cols : List (List Label)) (be : Bool) :
    colsVal v (cols.map (fun col => revIf col be)) = colsVal v cols := by
  induction cols with
  | nil => rfl
  | cons c r ih =>
    simp only [List.map_cons, colsVal, ih]
    cases be <;> simp [revIf, cnt_reverse]

theorem sem_addSumPow2M1 {v : Label → Bool} {ins : List Label} {be : Bool} {basis : BasisArg} {out : List (List Label)}
    (h : Sem (addSumPow2M1 ins be basis) v out) :
    colsVal v out = cnt v ins ∧ ∃ z rest, out = [z] :: rest := by
  unfold addSumPow2M1 at h
  split at h
  · exact absurd h sem_fail
  · rename_i x xs
    split at h
    · exact absurd h sem_fail
    · rename_i bs _
      split at h
      · rw [sem_pure] at h; subst h
        exact ⟨by simp [colsVal, cnt], x, [], rfl⟩
      · rename_i hxs
        simp only [sem_bind] at h
        obtain ⟨⟨l1, o1⟩, hp, ⟨lf, o2⟩, hm, h⟩ := h
        have hinit := P2Inv.init v (List.cons_ne_nil x xs)
        have h1 : P2Inv v (x :: xs) l1 o1 ∧ l1.length < 3 := by
          split at hp
          · exact sem_pow2Pass hp hinit
          · rename_i hle
            simp only [sem_pure, Prod.mk.injEq] at hp
            obtain ⟨rfl, rfl⟩ := hp
            exact ⟨hinit, by simp at hle ⊢; omega⟩
        obtain ⟨i1, hl1⟩ := h1
        -- after the optional half adder: a single label, linked to the last row
        have h2 : ∃ z, P2Inv v (x :: xs) [z] o2 ∧ o2 ≠ [] := by
          split at hm
          · rename_i a b heq
            have hl1e : l1 = [a, b] := heq
            subst hl1e
            simp only [sem_bind, sem_pure, Prod.mk.injEq] at hm
            obtain ⟨r, hr, rfl, rfl⟩ := hm
            have hs : ∃ x' y' s c, [a, b] = [x', y'] ∧ r = [s, c] ∧ bv v s + 2 * bv v c = bv v x' + bv v y' := by
              cases bs
              · exact sem_addSum2 hr
              · exact sem_addSum2Aig hr
            obtain ⟨x', y', s, c, hin, rfl, hv⟩ := hs
            cases hin
            refine ⟨s, P2Inv.push [] s [c] ?_, by simp⟩
            have := i1.pot
            simp only [cnt_cons, cnt_nil, valLE] at this ⊢
            omega
          · rename_i hnot
            simp only [sem_pure, Prod.mk.injEq] at hm
            obtain ⟨rfl, rfl⟩ := hm
            -- between one and two labels, and not two
            match lf, i1.pos, hl1, hnot with
            | [z], _, _, _ =>
              refine ⟨z, i1, ?_⟩
              intro he
              have := i1.same he
              cases this
              exact hxs rfl
            | [a, b], _, _, hnot => exact absurd rfl (hnot a b)
        obtain ⟨z, i2, hne2⟩ := h2
        obtain ⟨r0, rest0, hlast, hz⟩ := i2.link hne2
        simp only [List.getLast?_singleton, Option.some.injEq] at hz
        subst hz
        obtain ⟨init, hinit2⟩ := List.getLast?_eq_some_iff.mp hlast
        have hnotall : ¬ (o2.all (·.isEmpty) = true) := by
          rw [hinit2]; simp
        generalize hfu : (o2.map (·.length)).foldl max 0 = mx at h
        have hmx : ∀ r ∈ o2, r.length ≤ mx := by
          intro r hr
          rw [← hfu]
          exact (List.le_foldl_max _ 0).2 _ (List.mem_map_of_mem hr)
        rw [transposeRagged, if_neg hnotall] at h
        simp only [] at h
        have hheads : (o2.filterMap (·.head?)).getLast? = some z := by
          rw [hinit2, List.filterMap_append]; simp
        rw [hheads] at h
        simp only [sem_pure] at h
        subst h
        refine ⟨?_, z, (transposeRagged (o2.map List.tail) mx).map (fun col => revIf col be), by cases be <;> simp [revIf]⟩
        have hrest := colsVal_transposeRagged v mx (o2.map List.tail) (by
          intro r hr
          obtain ⟨r', hr', rfl⟩ := List.mem_map.mp hr
          have := hmx r' hr'
          rw [List.length_tail]; omega)
        have hpot := i2.pot
        rw [colsVal_map_revIf, colsVal, hrest]
        simp only [rowsTail, cnt_cons, cnt_nil] at hpot ⊢
        exact hpot

theorem colsVal_drop (v : Label → Bool) : ∀ (c : List (List Label)) (d : Nat),
    colsVal v (c.drop d) = cnt v (c.getD d []) + 2 * colsVal v (c.drop (d + 1)) := by
  intro c
  induction c with
  | nil => intro d; simp [colsVal, cnt]
  | cons x r ih =>
    intro d
    cases d with
    | zero => simp [colsVal]
    | succ d => simpa using ih d

/-- the bit `firstBits` takes from an entry: the first of its first column -/
def headBit (v : Label → Bool) (o : List (List Label)) : Nat :=
  match o with
  | (x :: _) :: _ => bv v x
  | _ => 0

/-- the number those bits form, low end first -/
def headsVal (v : Label → Bool) : List (List (List Label)) → Nat
  | [] => 0
  | o :: r => headBit v o + 2 * headsVal v r

theorem headsVal_append (v : Label → Bool) (a b : List (List (List Label))) :
    headsVal v (a ++ b) = headsVal v a + 2 ^ a.length * headsVal v b :=
  horner_append (headBit v) (headsVal v) rfl (fun _ _ => rfl) a b

/-- bits of `out[j]` with weight `≥ i`, in units of `2^i` -/
def hiSum (v : Label → Bool) (i : Nat) (l : List (List (List Label) × Nat)) : Nat :=
  (l.map (fun p => colsVal v (p.1.drop (i - p.2)))).sum

/-- bits of weight exactly `i` -/
def carr (v : Label → Bool) (i : Nat) (l : List (List (List Label) × Nat)) : Nat :=
  (l.map (fun p => cnt v (p.1.getD (i - p.2) []))).sum

theorem hiSum_step (v : Label → Bool) (i : Nat) : ∀ (l : List (List (List Label) × Nat)), (∀ p ∈ l, p.2 ≤ i) →
    hiSum v i l = carr v i l + 2 * hiSum v (i + 1) l := by
  intro l
  induction l with
  | nil => intro _; rfl
  | cons p r ih =>
    intro h
    have hp := h p (by simp)
    have := ih (fun q hq => h q (by simp [hq]))
    simp only [hiSum, carr, List.map_cons, List.sum_cons] at this ⊢
    rw [colsVal_drop v p.1 (i - p.2), this, show i + 1 - p.2 = i - p.2 + 1 by omega]
    omega

theorem cnt_flatten_map {α} (v : Label → Bool) (F : α → List Label) (l : List α) :
    cnt v (l.map F).flatten = (l.map (fun x => cnt v (F x))).sum := by
  induction l with
  | nil => rfl
  | cons x r ih => simp [cnt_append, ih]

theorem cnt_carriedInto (v : Label → Bool) (out : List (List (List Label))) (i : Nat) (h : out.length ≤ i) :
    cnt v (carriedInto out i) = carr v i out.zipIdx := by
  unfold carriedInto carr
  rw [cnt_flatten_map]
  congr 1
  apply List.map_congr_left
  rintro ⟨oj, j⟩ hp
  rw [List.mem_zipIdx_iff_getElem?] at hp
  have hj : j < out.length := (List.getElem?_eq_some_iff.mp hp).1
  simp only
  split
  · rfl
  · rename_i hc
    simp only [Bool.and_eq_true, decide_eq_true_eq, not_and, Nat.not_lt] at hc
    have := hc (by omega)
    rw [List.getD_eq_getElem?_getD, List.getElem?_eq_none (by omega)]
    rfl

/-- the operand bits `own w` of the weights `w ∈ idx`, counted with their weights -/
def wcnt (v : Label → Bool) (own : Nat → List Label) (idx : List Nat) : Nat :=
  (idx.map (fun w => 2 ^ w * cnt v (own w))).sum

theorem hiSum_push (v : Label → Bool) {out : List (List (List Label))} {i : Nat} (hl : out.length = i)
    {z : Label} {rest : List (List Label)} {n : Nat} (hval : colsVal v ([z] :: rest) = n + carr v i out.zipIdx) :
    headsVal v (out ++ [[z] :: rest]) + 2 ^ (i + 1) * hiSum v (i + 1) (out ++ [[z] :: rest]).zipIdx =
      headsVal v out + 2 ^ i * hiSum v i out.zipIdx + 2 ^ i * n := by
  have hstep := hiSum_step v i out.zipIdx (by
    rintro ⟨oj, j⟩ hp
    rw [List.mem_zipIdx_iff_getElem?] at hp
    have hj : j < out.length := (List.getElem?_eq_some_iff.mp hp).1
    simp only; omega)
  rw [headsVal_append, List.zipIdx_append, hl]
  simp only [hiSum, List.map_append, List.sum_append, List.zipIdx_cons, List.zipIdx_nil, List.map_cons, List.map_nil,
    List.sum_cons, List.sum_nil, Nat.zero_add, Nat.add_zero, Nat.add_sub_cancel_left, List.drop_one, List.tail_cons,
    headsVal, headBit, Nat.mul_zero] at hstep ⊢
  simp only [colsVal, cnt_cons, cnt_nil, Nat.add_zero] at hval
  rw [Nat.pow_succ, hstep]
  -- `2^i·(z + 2·rest) = 2^i·(n + carried)`; the bits of weight above `i` move along unchanged
  have key : 2 ^ i * bv v z + 2 * (2 ^ i * colsVal v rest) = 2 ^ i * n + 2 ^ i * carr v i out.zipIdx := by
    rw [← Nat.mul_left_comm, ← Nat.mul_add, ← Nat.mul_add, hval]
  simp only [Nat.mul_add, Nat.mul_assoc, Nat.mul_left_comm (2 ^ i) 2]
  omega

theorem sem_pow2Columns {v : Label → Bool} {own : Nat → List Label} {basis : BasisArg} :
    ∀ (idx : List Nat) (out out' : List (List (List Label))) (s : Nat),
    idx = List.range' s idx.length → out.length = s → Sem (pow2Columns own basis idx out) v out' →
    out'.length = s + idx.length ∧
    headsVal v out' + 2 ^ (s + idx.length) * hiSum v (s + idx.length) out'.zipIdx =
      headsVal v out + 2 ^ s * hiSum v s out.zipIdx + wcnt v own idx := by
  intro idx
  induction idx with
  | nil =>
    intro out out' s _ hl h
    simp only [pow2Columns, sem_pure] at h
    subst h
    exact ⟨by simpa using hl, by simp [wcnt]⟩
  | cons i r ih =>
    intro out out' s hidx hl h
    simp only [List.length_cons, List.range'_succ, List.cons.injEq] at hidx
    obtain ⟨rfl, hr⟩ := hidx
    have key : ∃ o, Sem (pow2Columns own basis r (out ++ [o])) v out' ∧ (∃ z rest, o = [z] :: rest) ∧
        colsVal v o = cnt v (own i) + carr v i out.zipIdx := by
      simp only [pow2Columns] at h
      split at h
      · rename_i x hx
        refine ⟨[[x]], h, ⟨x, [], rfl⟩, ?_⟩
        rw [← cnt_carriedInto v out i (Nat.le_of_eq hl), ← cnt_append, hx]
        simp [colsVal, cnt]
      · simp only [sem_bind] at h
        obtain ⟨o, ho, h⟩ := h
        obtain ⟨e1, e2⟩ := sem_addSumPow2M1 ho
        refine ⟨o, h, e2, ?_⟩
        rw [e1, cnt_append, cnt_carriedInto v out i (Nat.le_of_eq hl)]
    obtain ⟨o, ho, ⟨z, rest, rfl⟩, hval⟩ := key
    obtain ⟨l1, l3⟩ := ih (out ++ [[z] :: rest]) out' (i + 1) hr (by simp [hl]) ho
    refine ⟨by rw [l1]; simp; omega, ?_⟩
    have e : i + 1 + r.length = i + (r.length + 1) := by omega
    rw [List.length_cons, ← e, l3, hiSum_push v hl hval]
    simp only [wcnt, List.map_cons, List.sum_cons]
    omega

theorem sumR_wcnt (v : Label → Bool) (own : Nat → List Label) (s N : Nat) :
    sumR (s + N) (fun w => 2 ^ w * cnt v (own w)) =
      sumR s (fun w => 2 ^ w * cnt v (own w)) + wcnt v own (List.range' s N) := by
  rw [sumR_split]
  simp only [wcnt, sumR, List.range'_eq_map_range, List.map_map, Function.comp_def]

theorem horner_sumR {α} (d : α) (g : α → Nat) (H : List α → Nat) (h0 : H [] = 0) (hc : ∀ x r, H (x :: r) = g x + 2 * H r) :
    ∀ (l : List α), H l = sumR l.length (fun i => 2 ^ i * g (l.getD i d)) := by
  intro l
  induction l with
  | nil => exact h0
  | cons x r ih =>
    rw [List.length_cons, sumR_succ', hc, ih, ← sumR_mul]
    simp only [List.getD_cons_zero, List.getD_cons_succ, Nat.pow_zero, Nat.one_mul, Nat.pow_succ]
    congr 1
    apply sumR_congr; intro j _; rw [Nat.mul_comm (2 ^ j) 2, Nat.mul_assoc]

theorem valLE_sumR (v : Label → Bool) (r : List Label) : valLE v r = sumR r.length (fun j => 2 ^ j * bv v (r.getD j PH)) :=
  horner_sumR PH (bv v) (valLE v) rfl (fun _ _ => rfl) r

theorem rowsVal_sumR (v : Label → Bool) (rows : List (List Label)) :
    rowsVal v rows = sumR rows.length (fun i => 2 ^ i * valLE v (rows.getD i [])) :=
  horner_sumR [] (valLE v) (rowsVal v) rfl (fun _ _ => rfl) rows

theorem cnt_filter_range (v : Label → Bool) (p : Nat → Bool) (F : Nat → Label) (N : Nat) :
    cnt v (((List.range N).filter p).map F) = sumR N (fun i => if p i then bv v (F i) else 0) := by
  unfold sumR
  induction List.range N with
  | nil => rfl
  | cons x r ih =>
    simp only [List.filter_cons, List.map_cons, List.sum_cons]
    split
    · simp [cnt_cons, ih]
    · simp [ih]

theorem getD_mem_len {c : List (List Label)} {n : Nat} (h : ∀ r ∈ c, r.length = n) {i : Nat} (hi : i < c.length) :
    (c.getD i []).length = n :=
  h _ (List.getD_mem_of_lt [] hi)

/-- the operand bits of weight `w` of the partial-product matrix (`PH`: a mere `getD` default) -/
def mulOwn (rows : List (List Label)) (n m : Nat) (w : Nat) : List Label :=
  ((List.range (w + 1)).filter (fun j => j < m && w - j < n)).map (fun j => (rows.getD j []).getD (w - j) PH)

theorem antidiag_sum (v : Label → Bool) (rows : List (List Label)) (n : Nat) (hrows : ∀ r ∈ rows, r.length = n) :
    sumR (n + rows.length) (fun w => 2 ^ w * cnt v (mulOwn rows n rows.length w)) = rowsVal v rows := by
  have hB : ∀ w, 2 ^ w * cnt v (mulOwn rows n rows.length w) = sumR (w + 1) (fun i =>
      if i < rows.length ∧ w - i < n then 2 ^ (i + (w - i)) * bv v ((rows.getD i []).getD (w - i) PH) else 0) := by
    intro w
    rw [mulOwn, cnt_filter_range, ← sumR_mul]
    apply sumR_congr; intro i hi
    simp only [Bool.and_eq_true, decide_eq_true_eq]
    split
    · rw [show i + (w - i) = w by omega]
    · rfl
  rw [sumR_congr (fun w _ => hB w), Nat.add_comm,
    sumR_antidiag _ _ _ (Nat.le_succ _) (fun i j => 2 ^ (i + j) * bv v ((rows.getD i []).getD j PH)), rowsVal_sumR]
  apply sumR_congr; intro i hi
  rw [valLE_sumR, getD_mem_len hrows hi, ← sumR_mul]
  exact sumR_congr (fun j _ => by rw [Nat.pow_add, Nat.mul_assoc])

/-- the body of the fold in `firstBits`, under a name -/
def fbStep (acc : Prog (List Label)) (o : List (List Label)) : Prog (List Label) := do
  let l ← acc
  match o with
  | (x :: _) :: _ => pure (l ++ [x])
  | _ => .fail "Py:IndexError"

theorem sem_fbFold {v : Label → Bool} : ∀ (c : List (List (List Label))) (acc : Prog (List Label)) (out : List Label),
    Sem (c.foldl fbStep acc) v out →
    ∃ l0 hs, Sem acc v l0 ∧ out = l0 ++ hs ∧ hs.length = c.length ∧ valLE v hs = headsVal v c := by
  intro c
  induction c with
  | nil => intro acc out h; exact ⟨out, [], h, by simp, rfl, rfl⟩
  | cons o t ih =>
    intro acc out h
    simp only [List.foldl_cons] at h
    obtain ⟨l1, hs, h1, e, hlen, hval⟩ := ih _ out h
    simp only [fbStep, sem_bind] at h1
    obtain ⟨l0, hl0, hm⟩ := h1
    split at hm
    · rename_i x c r
      simp only [sem_pure] at hm
      subst hm
      exact ⟨l0, x :: hs, hl0, by rw [e]; simp, by simp [hlen], by simp [valLE, headsVal, headBit, hval]⟩
    · exact absurd hm sem_fail

theorem sem_firstBits {v : Label → Bool} {c : List (List (List Label))} {out : List Label} (h : Sem (firstBits c) v out) :
    out.length = c.length ∧ valLE v out = headsVal v c := by
  have h' : Sem (c.foldl fbStep (pure [])) v out := h  -- by definition of `firstBits`
  obtain ⟨l0, hs, h0, e, hl, hv⟩ := sem_fbFold c _ out h'
  rw [sem_pure] at h0
  subst h0
  simp only [List.nil_append] at e
  subst e
  exact ⟨hl, hv⟩

/-- the column loop from `init` (the operand bits of the weights below `d`, nothing heavier), then `firstBits` -/
theorem sem_pow2Result {v : Label → Bool} {own : Nat → List Label} {basis : BasisArg} {N d : Nat}
    {init cols : List (List (List Label))} {out : List Label}
    (hd : init.length = d) (hN : d ≤ N)
    (hhead : headsVal v init = sumR d (fun w => 2 ^ w * cnt v (own w))) (hhi : hiSum v d init.zipIdx = 0)
    (hc : Sem (pow2Columns own basis ((List.range N).drop d) init) v cols) (hf : Sem (firstBits cols) v out)
    (hfit : sumR N (fun w => 2 ^ w * cnt v (own w)) < 2 ^ N) :
    valLE v out = sumR N (fun w => 2 ^ w * cnt v (own w)) ∧ out.length = N := by
  rw [List.range_drop] at hc
  obtain ⟨l1, l3⟩ := sem_pow2Columns _ _ _ d (by rw [List.length_range']) hd hc
  obtain ⟨f1, f2⟩ := sem_firstBits hf
  rw [List.length_range', Nat.add_sub_cancel' hN] at l1 l3
  rw [hhi, Nat.mul_zero, Nat.add_zero, hhead, ← sumR_wcnt, Nat.add_sub_cancel' hN, ← f2] at l3
  exact ⟨(eq_of_lt_of_add_mul l3.symm hfit).symm, f1.trans l1⟩

theorem rowsVal_heads (v : Label → Bool) : ∀ {c : List (List Label)} {hs : List Label},
    All2 (fun col x => ∃ rest, col = x :: rest) c hs → (∀ r ∈ c, r.length = 1) → rowsVal v c = valLE v hs := by
  intro c hs h
  induction h with
  | nil => intro _; rfl
  | @cons col x t ts hx _ ih =>
    intro hlen
    obtain ⟨rest, rfl⟩ := hx
    have h0 := hlen (x :: rest) (by simp)
    simp only [List.length_cons] at h0
    have : rest = [] := List.eq_nil_of_length_eq_zero (by omega)
    subst this
    simp only [rowsVal, valLE]
    rw [ih (fun r hr => hlen r (by simp [hr]))]
    omega

theorem sem_mulPow2M1Core {v : Label → Bool} {a b out : List Label} (h : Sem (mulPow2M1Core a b) v out) :
    valLE v out = valLE v a * valLE v b ∧
      out.length = (if a.length = 1 then b.length else if b.length = 1 then a.length else a.length + b.length) := by
  simp only [mulPow2M1Core, sem_bind] at h
  obtain ⟨rows, hr, h⟩ := h
  obtain ⟨rows', e1, e2, e3, e4, e5⟩ := sem_ppRows _ _ _ hr
  simp only [List.nil_append] at e1; subst e1
  simp only [beq_iff_eq] at h
  split at h
  · rename_i h1
    have hall := sem_heads (c := rows) h
    rw [if_pos h1]
    exact ⟨by rw [← e4, rowsVal_heads v hall (fun r hr => by rw [e3 r hr, h1])], by rw [← all2_length hall, e2]⟩
  · rename_i h1
    rw [if_neg h1]
    split at h
    · rename_i h2
      rw [if_pos h2]
      cases rows with
      | nil => exact absurd h sem_fail
      | cons r0 rs =>
        rw [sem_pure] at h
        subst h
        have : rs = [] := List.eq_nil_of_length_eq_zero (by rw [List.length_cons, h2] at e2; omega)
        subst this
        exact ⟨by rw [← e4, rowsVal, rowsVal, Nat.mul_zero, Nat.add_zero], e3 _ (by simp)⟩
    · rename_i h2
      rw [if_neg h2]
      split at h
      · rename_i c00 r0 rs
        simp only [sem_bind] at h
        obtain ⟨cols, hc, hf⟩ := h
        have hm : 1 ≤ b.length := by rw [← e2]; simp
        have hown0 : mulOwn ((c00 :: r0) :: rs) a.length b.length 0 = [c00] := by
          have hn := e3 (c00 :: r0) (by simp)
          unfold mulOwn
          have : (List.range (0 + 1)).filter (fun j => decide (j < b.length) && decide (0 - j < a.length)) = [0] := by
            simp [List.range_succ]; rw [← hn]; simp; omega
          rw [this]; rfl
        have hanti := antidiag_sum v ((c00 :: r0) :: rs) a.length e3
        rw [e2, e4] at hanti
        have hc' : Sem (pow2Columns (mulOwn ((c00 :: r0) :: rs) a.length b.length) (.enum .xaig)
            ((List.range (a.length + b.length)).drop 1) [[[c00]]]) v cols := hc
        have hres := sem_pow2Result (d := 1) rfl (by omega)
          (by rw [sumR_succ, sumR_zero, hown0]; simp [headsVal, headBit, cnt]) rfl hc' hf
          (by rw [hanti]; exact valLE_mul_lt v a b)
        rwa [hanti] at hres
      · exact absurd h sem_fail

theorem sem_addMulPow2M1 {v : Label → Bool} {a b out : List Label} {be : Bool}
    (h : Sem (addMulPow2M1 a b be) v out) :
    valLE v (revIf out be) = valLE v (revIf a be) * valLE v (revIf b be) ∧
      out.length = (if a.length = 1 then b.length else if b.length = 1 then a.length else a.length + b.length) := by
  have := sem_mulPow2M1Core (sem_revIf_bind h)
  rwa [revIf_length, revIf_length, revIf_length] at this

end Cirbo
