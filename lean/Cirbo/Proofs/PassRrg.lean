import Cirbo.Proofs.PassOrder
/-!
`rrg_run` exhibits the run of RemoveRedundantGates on a well-formed circuit; because the pass is a function, whatever it
returned is that run's result.
-/
namespace Cirbo
open GateType

theorem rrg_of_trace {allow : Bool} {c c' n1 n2 n3 : Circuit} {log : List Ev}
    (h1 : traverse c false false (some c.outputs) false = .ok log)
    (h2 : emplaceAll c (exits log) id Circuit.empty = .ok n1)
    (h3 : (if allow then .ok n1 else n1.addInputs (c.inputs.filter (fun i => !n1.hasGate i))) = .ok n2)
    (h4 : n2.setInputs (c.inputs.filter (fun i => n2.inputs.contains i)) = .ok n3)
    (h5 : n3.setOutputs c.outputs = .ok c') : rrg allow c = .ok c' := by
  simp only [rrg, h1, hookLabels_false, h2, h3, h4, h5]

/-- what `RemoveRedundantGates(allow_inputs_removal=allow)` returns on `c`: gates of `c` only, exactly those the outputs
depend on, plus all inputs unless their removal was asked for -/
structure RrgSpec (allow : Bool) (c c' : Circuit) : Prop where
  wfs : WFS c'
  sub : ∀ g ∈ c'.gates, g ∈ c.gates
  val : ∀ b v, IsValB c b v → IsValB c' b v
  outputs : c'.outputs = c.outputs
  inputs : c'.inputs = c.inputs.filter (fun i => decide (i ∈ c'.labels))
  keepInputs : allow = false → c'.inputs = c.inputs
  size : c'.gates.length ≤ c.gates.length
  labels : ∀ l, l ∈ c'.labels ↔ Reach c.opsOf c.outputs l ∨ (allow = false ∧ l ∈ c.inputs)

theorem rrg_run {allow : Bool} {c : Circuit} (hw : WFS c) : ∃ log n1 n2 n3 c',
    (traverse c false false (some c.outputs) false = .ok log ∧
      emplaceAll c (exits log) id Circuit.empty = .ok n1 ∧
      (if allow then .ok n1 else n1.addInputs (c.inputs.filter (fun i => !n1.hasGate i))) = .ok n2 ∧
      n2.setInputs (c.inputs.filter (fun i => n2.inputs.contains i)) = .ok n3 ∧
      n3.setOutputs c.outputs = .ok c') ∧ n1.labels = exits log ∧
    RrgSpec allow c c' := by
  obtain ⟨log, hlog⟩ := traverse_outputs_ok hw false
  obtain ⟨hEnd, hEreach, hEpost⟩ := exits_spec hw hlog
  obtain ⟨n1, hn1, hlab1, hr1, hgs1⟩ := emplaceAll_run hw (f := id) (fun l => .base (List.mem_singleton_self l)) (fun _ _ _ _ => rfl) hEnd
    (fun l hl => reach_labels hw hw.outputsOK ((hEreach l).mp hl)) hEpost
  have hsub1 : ∀ g ∈ n1.gates, g ∈ c.gates := fun g' hg' => by
    obtain ⟨g, hg, rfl⟩ := hgs1 g' hg'
    simpa using hg
  have w1 := hr1.wfs
  generalize hM : (if allow then [] else c.inputs.filter (fun i => !n1.hasGate i)) = missing
  have hmiss : ∀ i, i ∈ missing ↔ allow = false ∧ i ∈ c.inputs ∧ i ∉ exits log := by
    intro i
    have : n1.hasGate i = true ↔ i ∈ exits log := by rw [hasGate_iff, hlab1]
    subst hM; cases allow <;> simp [← this]
  -- the missing inputs are new labels
  obtain ⟨n2, hn2, w2, hg2, hi2⟩ : ∃ n2, (if allow then Except.ok n1 else n1.addInputs (c.inputs.filter (fun i => !n1.hasGate i))) = .ok n2 ∧
      WFS n2 ∧ n2.gates = n1.gates ++ missing.map (fun i => ⟨i, INPUT, []⟩) ∧ n2.inputs = n1.inputs ++ missing := by
    subst hM
    cases allow
    · obtain ⟨n2, h⟩ := addInputs_returns (c.inputs.filter (fun i => !n1.hasGate i)) n1
        (List.nodup_append.mpr ⟨w1.nodup, hw.inputsNodup.sublist List.filter_sublist, by
          rintro a ha b hb rfl
          have := (List.mem_filter.mp hb).2
          rw [(hasGate_iff n1 a).mpr ha] at this
          cases this⟩)
      obtain ⟨a1, a2, _⟩ := addInputs_spec _ _ _ h
      exact ⟨n2, h, addInputs_wfs _ w1 h, a1, a2⟩
    · exact ⟨n1, rfl, w1, by simp, by simp⟩
  have hsub2 : ∀ g ∈ n2.gates, g ∈ c.gates := by
    intro g hg
    rcases List.mem_append.mp (hg2 ▸ hg) with hg | hg
    · exact hsub1 g hg
    · obtain ⟨i, hi, rfl⟩ := List.mem_map.mp hg
      exact hw.inputGate_mem ((hmiss i).mp hi).2.1
  -- so the inputs of `c` that are there can be put on, in the order of `c`
  obtain ⟨n3, hn3⟩ := setInputs_returns w2.nodup (ins := c.inputs.filter (fun i => n2.inputs.contains i))
    (hw.inputsNodup.sublist List.filter_sublist)
    (fun i hi => (w2.inputsOK i).mp (by simpa using (List.mem_filter.mp hi).2))
    (fun g hg hty => List.mem_filter.mpr ⟨(hw.inputsOK g.label).mpr ⟨g, hsub2 g hg, rfl, hty⟩,
      by simpa using (w2.inputsOK g.label).mpr ⟨g, hg, rfl, hty⟩⟩)
  have hlab3 : n3.labels = exits log ++ missing := by
    simp [Circuit.labels, setInputs_gates hn3, hg2, ← hlab1, Function.comp_def]
  obtain ⟨c', hc'⟩ := setOutputs_returns (n := n3) (outs := c.outputs) (fun o ho =>
    hlab3 ▸ List.mem_append_left _ ((hEreach o).mpr (.base ho)))
  have hgates : c'.gates = n2.gates := (setOutputs_gates hc').trans (setInputs_gates hn3)
  have hlabels : c'.labels = exits log ++ missing := by rw [Circuit.labels, setOutputs_gates hc']; exact hlab3
  have hsub : ∀ g ∈ c'.gates, g ∈ c.gates := fun g hg => hsub2 g (hgates ▸ hg)
  have w' : WFS c' := setOutputs_wfs (setInputs_wfs w2 hn3) hc'
  -- an input of `c` is an input of the result iff it is one of its labels
  have hkeep : ∀ i ∈ c.inputs, n2.inputs.contains i = decide (i ∈ c'.labels) := by
    intro i hi
    have : i ∈ n1.inputs ↔ i ∈ exits log := by
      rw [w1.inputsOK, ← hlab1]
      constructor
      · rintro ⟨g, hg, rfl, _⟩; exact mem_labels_of_mem hg
      · intro hl
        obtain ⟨g, hg, rfl⟩ := gate_of_label hl
        obtain ⟨gi, hgi, hgil, hgit⟩ := (hw.inputsOK g.label).mp hi
        exact ⟨g, hg, rfl, by rw [gate_unique hw.nodup (hsub1 g hg) hgi hgil.symm]; exact hgit⟩
    simp [hi2, hlabels, this]
  obtain ⟨ho, hi⟩ := setOutputs_interface hc'
  have hin : c'.inputs = c.inputs.filter (fun i => decide (i ∈ c'.labels)) := by
    rw [hi, (setInputs_interface hn3).1]; exact List.filter_congr hkeep
  refine ⟨log, n1, n2, n3, c', ⟨hlog, hn1, hn2, hn3, hc'⟩, hlab1, ⟨w', hsub, fun b v hv g hg => hv g (hsub g hg), ho, hin, ?_,
    size_of_shape w'.nodup fun g hg => ⟨g, hsub g hg, rfl, rfl, rfl⟩, ?_⟩⟩
  · intro hal
    rw [hin, List.filter_eq_self]
    intro i hi
    by_cases he : i ∈ exits log <;> simp [hlabels, hmiss, he, hal, hi]
  · intro l
    rw [hlabels, List.mem_append, hmiss, hEreach]
    by_cases hr : Reach c.opsOf c.outputs l <;> simp [hr]

theorem rrg_spec {allow : Bool} {c c' : Circuit} (hw : WFS c) (h : rrg allow c = .ok c') : RrgSpec allow c c' := by
  obtain ⟨log, n1, n2, n3, c1, ⟨t1, t2, t3, t4, t5⟩, _, spec⟩ := rrg_run (allow := allow) hw
  cases h.symm.trans (rrg_of_trace t1 t2 t3 t4 t5)
  exact spec

theorem rrg_total {allow : Bool} {c : Circuit} (hw : WFS c) : ∃ c', rrg allow c = .ok c' :=
  let ⟨_, _, _, _, c', ⟨t1, t2, t3, t4, t5⟩, _⟩ := rrg_run (allow := allow) hw
  ⟨c', rrg_of_trace t1 t2 t3 t4 t5⟩

theorem rrg_gate_reach {allow : Bool} {c' c'' : Circuit} (hw : WFS c') (h : rrg allow c' = .ok c'') {g : Gate}
    (hg : g ∈ c''.gates) (ht : g.ty ≠ INPUT) : g ∈ c'.gates ∧ Reach c'.opsOf c'.outputs g.label := by
  have s := rrg_spec hw h
  have hg' := s.sub g hg
  refine ⟨hg', ?_⟩
  rcases (s.labels g.label).mp (mem_labels_of_mem hg) with hr | ⟨_, hin⟩
  · exact hr
  · exact absurd hin (hw.gate_not_input hg' ht)

theorem RrgSpec.find? {a : Bool} {c c' : Circuit} (s : RrgSpec a c c') (hw : WFS c) {l : Label} (hl : l ∈ c'.labels) :
    c.find? l = c'.find? l := by
  obtain ⟨g, hg, rfl⟩ := gate_of_label hl
  rw [find_label hw.nodup (s.sub g hg), find_label s.wfs.nodup hg]

theorem RrgSpec.preserves {a : Bool} {c c' : Circuit} (s : RrgSpec a c c') : Preserves c c' :=
  ⟨s.wfs, by rw [s.inputs]; exact List.filter_sublist, by rw [s.outputs], fun ha g hg => ha g (s.sub g hg), s.size,
    fun b v hv => ⟨s.val b v hv, by rw [s.outputs]⟩⟩

end Cirbo
