import Cirbo.Spec.Bool
import Cirbo.Model.Ops
import Cirbo.Proofs.Lists
/-!
# Operator-level lemmas (C01, C15)

Finite facts about the *generated* tables are closed by exhaustive case analysis; the
unbounded-arity statements are inductions over the operand list.
-/
namespace Cirbo
open V3

theorem lk1_not_bool (a : Bool) : lk1 .NOT (ofBool a) = some (ofBool (!a)) := by
  cases a <;> rfl

theorem foldOp_bool {ty : GateType} {f : Bool → Bool → Bool} {g : List Bool → Bool}
    (hf : ∀ a b, lk2 ty (ofBool a) (ofBool b) = some (ofBool (f a b)))
    (g1 : ∀ a, g [a] = a) (g2 : ∀ a b r, g (a :: b :: r) = g (f a b :: r)) (a : Bool) (bs : List Bool) :
    foldOp ty (ofBool a) (bs.map ofBool) = some (ofBool (g (a :: bs))) := by
  induction bs generalizing a with
  | nil => rw [g1]; rfl
  | cons b bs ih => rw [g2, ← ih, List.map_cons, foldOp, hf]; rfl

theorem foldOp_and_bool (a : Bool) (bs : List Bool) :
    foldOp .AND (ofBool a) (bs.map ofBool) = some (ofBool ((a :: bs).all id)) :=
  foldOp_bool (f := and) (g := (·.all id)) (by decide) (by simp) (by simp [Bool.and_assoc]) a bs

theorem foldOp_or_bool (a : Bool) (bs : List Bool) :
    foldOp .OR (ofBool a) (bs.map ofBool) = some (ofBool ((a :: bs).any id)) :=
  foldOp_bool (f := or) (g := (·.any id)) (by decide) (by simp) (by simp [Bool.or_assoc]) a bs

theorem foldOp_xor_bool (a : Bool) (bs : List Bool) :
    foldOp .XOR (ofBool a) (bs.map ofBool) = some (ofBool (xorAll (a :: bs))) :=
  foldOp_bool (f := xor) (g := xorAll) (by decide) (by simp [xorAll]) (by simp [xorAll]) a bs

theorem bind_not_bool {x : Option V3} {b : Bool} (h : x = some (ofBool b)) :
    x.bind (lk1 .NOT) = some (ofBool (!b)) := by
  rw [h, Option.bind_some, lk1_not_bool]

theorem applyOp_ofBool (ty : GateType) (bs : List Bool) :
    applyOp ty (bs.map ofBool) = (bfun ty bs).map ofBool := by
  cases ty
  case INPUT | ALWAYS_TRUE | ALWAYS_FALSE => rfl
  case NOT | IFF => rcases bs with _ | ⟨a, _ | ⟨b, r⟩⟩ <;> first | rfl | (cases a <;> rfl)
  case AND => rcases bs with _ | ⟨a, _ | ⟨b, r⟩⟩ <;> first | rfl | exact foldOp_and_bool a (b :: r)
  case OR => rcases bs with _ | ⟨a, _ | ⟨b, r⟩⟩ <;> first | rfl | exact foldOp_or_bool a (b :: r)
  case XOR => rcases bs with _ | ⟨a, _ | ⟨b, r⟩⟩ <;> first | rfl | exact foldOp_xor_bool a (b :: r)
  case NAND =>
    rcases bs with _ | ⟨a, _ | ⟨b, r⟩⟩ <;> first | rfl | exact bind_not_bool (foldOp_and_bool a (b :: r))
  case NOR =>
    rcases bs with _ | ⟨a, _ | ⟨b, r⟩⟩ <;> first | rfl | exact bind_not_bool (foldOp_or_bool a (b :: r))
  case NXOR =>
    rcases bs with _ | ⟨a, _ | ⟨b, r⟩⟩ <;> first | rfl | exact bind_not_bool (foldOp_xor_bool a (b :: r))
  all_goals
    rcases bs with _ | ⟨a, _ | ⟨b, _ | ⟨c, r⟩⟩⟩ <;> first | rfl | (cases a <;> cases b <;> rfl)

/-- results compared in the information order: two defined results by `≤`, a raise only with a
raise; a defined result and a raise are unrelated in either direction -/
def OLe : Option V3 → Option V3 → Prop
  | some r, some r' => r ≤ r'
  | none, none => True
  | _, _ => False

instance : (a b : Option V3) → Decidable (OLe a b)
  | some r, some r' => inferInstanceAs (Decidable (r ≤ r'))
  | none, none => isTrue trivial
  | some _, none => isFalse id
  | none, some _ => isFalse id

theorem OLe.refl (a : Option V3) : OLe a a := by
  cases a with
  | none => trivial
  | some r => exact Or.inr rfl

-- `a ≤ a'` is `a = U ∨ a = a'`, so only the rows at `U` of a table have to be looked at.
theorem lk1_mono (ty : GateType) (a a' : V3) (h : a ≤ a') : OLe (lk1 ty a) (lk1 ty a') := by
  rcases h with rfl | rfl
  · cases ty <;> cases a' <;> decide
  · exact OLe.refl _

theorem lk2_U (ty : GateType) (a b : V3) : OLe (lk2 ty U U) (lk2 ty a b) ∧
    OLe (lk2 ty U b) (lk2 ty a b) ∧ OLe (lk2 ty a U) (lk2 ty a b) := by
  cases ty <;> cases a <;> cases b <;> decide

theorem lk2_mono (ty : GateType) (a a' b b' : V3) (ha : a ≤ a') (hb : b ≤ b') :
    OLe (lk2 ty a b) (lk2 ty a' b') := by
  rcases ha with rfl | rfl <;> rcases hb with rfl | rfl
  · exact (lk2_U ty a' b').1
  · exact (lk2_U ty a' b).2.1
  · exact (lk2_U ty a b').2.2
  · exact OLe.refl _

theorem OLe.bind {x x' : Option V3} {f f' : V3 → Option V3} (hx : OLe x x')
    (hf : ∀ r r', r ≤ r' → OLe (f r) (f' r')) : OLe (x.bind f) (x'.bind f') := by
  cases x <;> cases x'
  · trivial
  · exact hx.elim
  · exact hx.elim
  · exact hf _ _ hx

theorem foldOp_mono (ty : GateType) (a a' : V3) (xs xs' : List V3) (ha : a ≤ a')
    (hx : All2 (· ≤ ·) xs xs') : OLe (foldOp ty a xs) (foldOp ty a' xs') := by
  induction hx generalizing a a' with
  | nil => exact ha
  | cons hb _ ih => exact OLe.bind (lk2_mono ty _ _ _ _ ha hb) ih

theorem applyOp_mono (ty : GateType) (xs xs' : List V3) (hx : All2 (· ≤ ·) xs xs') :
    OLe (applyOp ty xs) (applyOp ty xs') := by
  cases ty
  case INPUT | ALWAYS_TRUE | ALWAYS_FALSE => exact OLe.refl _
  case NOT | IFF =>
    rcases hx with _ | ⟨h1, _ | ⟨h2, hr⟩⟩ <;> first | exact OLe.refl _ | exact lk1_mono _ _ _ h1
  case AND | OR | XOR =>
    rcases hx with _ | ⟨h1, _ | ⟨h2, hr⟩⟩ <;>
      first | exact OLe.refl _ | exact foldOp_mono _ _ _ _ _ h1 (.cons h2 hr)
  case NAND | NOR | NXOR =>
    rcases hx with _ | ⟨h1, _ | ⟨h2, hr⟩⟩ <;>
      first | exact OLe.refl _ | exact (foldOp_mono _ _ _ _ _ h1 (.cons h2 hr)).bind (lk1_mono _)
  all_goals
    rcases hx with _ | ⟨h1, _ | ⟨h2, _ | ⟨h3, hr⟩⟩⟩ <;> first | exact OLe.refl _ | exact lk2_mono _ _ _ _ _ h1 h2

theorem all2_map_le {α} (ops : List α) (v v' : α → V3) (h : ∀ o ∈ ops, v o ≤ v' o) :
    All2 (· ≤ ·) (ops.map v) (ops.map v') := by
  induction ops with
  | nil => exact .nil
  | cons o r ih =>
    exact .cons (h o (by simp)) (ih (fun x hx => h x (by simp [hx])))

theorem applyOp_sound (ty : GateType) (xs : List V3) (bs : List Bool)
    (hx : All2 (· ≤ ·) xs (bs.map ofBool)) :
    OLe (applyOp ty xs) ((bfun ty bs).map ofBool) := by
  rw [← applyOp_ofBool]; exact applyOp_mono ty _ _ hx

theorem bfun_isSome (ty : GateType) (bs : List Bool) : (bfun ty bs).isSome = arityOk ty bs.length := by
  cases ty <;> rcases bs with _ | ⟨a, _ | ⟨b, _ | ⟨c, r⟩⟩⟩ <;> rfl

theorem OLe.isSome_eq {x y : Option V3} (h : OLe x y) : x.isSome = y.isSome := by
  cases x <;> cases y <;> first | rfl | exact h.elim

theorem exists_bool_above (xs : List V3) :
    ∃ bs : List Bool, bs.length = xs.length ∧ All2 (· ≤ ·) xs (bs.map ofBool) := by
  induction xs with
  | nil => exact ⟨[], rfl, .nil⟩
  | cons x r ih =>
    obtain ⟨bs, hl, h⟩ := ih
    obtain ⟨b, hb⟩ : ∃ b, x ≤ ofBool b := by
      cases x
      · exact ⟨false, .inr rfl⟩
      · exact ⟨true, .inr rfl⟩
      · exact ⟨false, .inl rfl⟩
    exact ⟨b :: bs, congrArg (· + 1) hl, .cons hb h⟩

theorem applyOp_isSome_iff (ty : GateType) (xs : List V3) :
    (applyOp ty xs).isSome = arityOk ty xs.length := by
  -- refining the arguments neither creates nor removes a raise, and there are Boolean arguments above any
  obtain ⟨bs, hl, h⟩ := exists_bool_above xs
  rw [(applyOp_sound ty xs bs h).isSome_eq, Option.isSome_map, bfun_isSome, hl]

theorem bfun_isSome_of_arityOk (ty : GateType) (xs : List Bool) (h : arityOk ty xs.length = true) :
    ∃ r, bfun ty xs = some r := by
  have h1 := applyOp_isSome_iff ty (xs.map V3.ofBool)
  rw [List.length_map, h, applyOp_ofBool] at h1
  cases hb : bfun ty xs with
  | none => rw [hb] at h1; simp at h1
  | some r => exact ⟨r, rfl⟩

theorem xorAll_perm {l1 l2 : List Bool} (h : l1.Perm l2) : xorAll l1 = xorAll l2 := by
  induction h with
  | nil => rfl
  | cons x _ ih => simp [xorAll, ih]
  | swap x y l => simp only [xorAll]; cases x <;> cases y <;> simp
  | trans _ _ ih1 ih2 => exact ih1.trans ih2

theorem bfun_perm (ty : GateType) (hs : Gen.isSymmetric ty = true) {l1 l2 : List Bool} (h : l1.Perm l2) :
    bfun ty l1 = bfun ty l2 := by
  rcases l1 with _ | ⟨a, _ | ⟨b, r⟩⟩
  · rw [← h.nil_eq]
  · rw [← List.singleton_perm.mp h]
  · -- two or more operands: `all`, `any` and the parity do not see the order
    rcases l2 with _ | ⟨a', _ | ⟨b', r'⟩⟩
    · cases h.symm.nil_eq
    · cases List.perm_singleton.mp h
    · cases ty <;> simp only [Gen.isSymmetric, Bool.false_eq_true] at hs <;>
        simp only [bfun, h.all_eq, h.any_eq, xorAll_perm h]

end Cirbo
