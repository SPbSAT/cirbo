import Cirbo.Model.Passes
import Cirbo.Proofs.Dfs
import Cirbo.Proofs.Mutate
import Cirbo.Proofs.FoldR
import Cirbo.Proofs.Val
/-!
Every pass traverses its argument and re-emits gates of it, one `emplace_gate` per label, into an empty circuit:
`Rebuild c n` is what all these loops maintain. Then the sequencing of passes in pipelines.
-/
namespace Cirbo
open GateType

/-- `c'` is made of gates of `c` with other operands -/
def SameShape (c c' : Circuit) : Prop :=
  ∀ g' ∈ c'.gates, ∃ g ∈ c.gates, g'.label = g.label ∧ g'.ty = g.ty ∧ g'.ops.length = g.ops.length

theorem arOK_of_shape {c c' : Circuit} (hs : SameShape c c') (h : ArOK c) : ArOK c' := by
  intro g' hg'
  obtain ⟨g, hg, _, ht, hl⟩ := hs g' hg'
  have := h g hg
  rw [ht, hl]
  split at this
  · rw [if_pos ‹_›]; exact List.eq_nil_of_length_eq_zero (by rw [hl, this]; rfl)
  · rw [if_neg ‹_›]; exact this

theorem size_of_shape {c c' : Circuit} (hnd' : c'.labels.Nodup) (sh : SameShape c c') :
    c'.gates.length ≤ c.gates.length := by
  have hsub : c'.labels ⊆ c.labels := by
    intro l hl
    obtain ⟨g', hg', rfl⟩ := List.mem_map.mp hl
    obtain ⟨g, hg, e, _⟩ := sh g' hg'
    exact e ▸ mem_labels_of_mem hg
  simpa [Circuit.labels] using hnd'.length_le_of_subset hsub

/-- what a simplification pass or pipeline keeps (C03). One valuation serves both circuits because the passes keep labels;
where labels change, `Refines` is the notion. -/
structure Preserves (c c' : Circuit) : Prop where
  wfs : WFS c'
  inputs : c'.inputs.Sublist c.inputs
  outputs : c'.outputs.length = c.outputs.length
  ar : ArOK c → ArOK c'
  size : c'.gates.length ≤ c.gates.length
  val : ∀ b v, IsValB c b v → IsValB c' b v ∧ c'.outputs.map v = c.outputs.map v

theorem Preserves.refl {c : Circuit} (hw : WFS c) : Preserves c c :=
  ⟨hw, List.Sublist.refl _, rfl, fun h => h, Nat.le_refl _, fun _ _ hv => ⟨hv, rfl⟩⟩

theorem Preserves.trans {a b c : Circuit} (h1 : Preserves a b) (h2 : Preserves b c) : Preserves a c :=
  ⟨h2.wfs, h2.inputs.trans h1.inputs, h2.outputs.trans h1.outputs, fun h => h2.ar (h1.ar h), Nat.le_trans h2.size h1.size, fun bb v hv => by
    obtain ⟨v1, o1⟩ := h1.val bb v hv
    obtain ⟨v2, o2⟩ := h2.val bb v v1
    exact ⟨v2, o2.trans o1⟩⟩

theorem Preserves.same_function {c c' : Circuit} (hp : Preserves c c') {b v v' : Label → Bool}
    (hv : IsValB c b v) (hv' : IsValB c' b v') : c'.outputs.map v' = c.outputs.map v := by
  obtain ⟨h1, h2⟩ := hp.val b v hv
  rw [← h2]
  refine List.map_congr_left fun o ho => ?_
  obtain ⟨g, hg, rfl⟩ := List.mem_map.mp (hp.wfs.outputsOK o ho)
  exact valB_unique_of_rank hp.wfs.closed hp.wfs.rank hv' h1 g hg

/-- the circuit `n` built so far from gates of `c` -/
structure Rebuild (c n : Circuit) : Prop where
  wfs : WFS n
  shape : SameShape c n
  val : ∀ b v, IsValB c b v → IsValB n b v

theorem Rebuild.empty (c : Circuit) : Rebuild c Circuit.empty :=
  ⟨wfs_empty, fun _ h => (nomatch h), fun _ _ _ _ h => (nomatch h)⟩

theorem Rebuild.labels_sub {c n : Circuit} (hr : Rebuild c n) {l : Label} (hl : l ∈ n.labels) : l ∈ c.labels := by
  obtain ⟨g', hg', rfl⟩ := List.mem_map.mp hl
  obtain ⟨g, hg, e, _⟩ := hr.shape g' hg'
  exact e ▸ mem_labels_of_mem hg

theorem Rebuild.emit {c n n' : Circuit} (hr : Rebuild c n) {g : Gate} (hg : g ∈ c.gates)
    (hio : g.ty = INPUT → g.ops = []) {ops : List Label} (hlen : ops.length = g.ops.length)
    (hval : ∀ b v, IsValB c b v → ops.map v = g.ops.map v)
    (h : n.addGate ⟨g.label, g.ty, ops⟩ = .ok n') : Rebuild c n' := by
  have hgs := (addGate_fields h).gates
  refine ⟨addGate_wfs hr.wfs (fun e => List.eq_nil_of_length_eq_zero (by rw [hlen, hio e]; rfl)) h, ?_, ?_⟩
  · intro x hx
    rcases List.mem_append.mp (hgs ▸ hx) with hx | hx
    · exact hr.shape x hx
    · exact ⟨g, hg, by simp_all⟩
  · intro b v hv x hx
    rcases List.mem_append.mp (hgs ▸ hx) with hx | hx
    · exact hr.val b v hv x hx
    · obtain rfl := List.mem_singleton.mp hx
      simpa only [hval b v hv] using hv g hg

theorem Rebuild.finish_ok {c n n2 : Circuit} (hr : Rebuild c n) (h1 : n.setInputs c.inputs = .ok n2)
    {outs : List Label} (hin : ∀ o ∈ outs, o ∈ n.labels) (hlen : outs.length = c.outputs.length)
    (hval : ∀ b v, IsValB c b v → outs.map v = c.outputs.map v) :
    ∃ c', n2.setOutputs outs = .ok c' ∧ c'.gates = n.gates ∧ c'.outputs = outs ∧ Preserves c c' ∧ SameShape c c' ∧
      c'.inputs = c.inputs := by
  have hg2 := setInputs_gates h1
  obtain ⟨c', h2⟩ := setOutputs_returns (n := n2) (outs := outs) (by rw [Circuit.labels, hg2]; exact hin)
  have hg : c'.gates = n.gates := (setOutputs_gates h2).trans hg2
  have hw := setOutputs_wfs (setInputs_wfs hr.wfs h1) h2
  have sh : SameShape c c' := fun g h => hr.shape g (hg ▸ h)
  obtain ⟨ho, hi⟩ := setOutputs_interface h2
  have hin : c'.inputs = c.inputs := hi.trans (setInputs_interface h1).1
  exact ⟨c', h2, hg, ho, ⟨hw, hin ▸ .refl _, ho ▸ hlen, arOK_of_shape sh,
    size_of_shape hw.nodup sh, fun b v hv => ⟨fun g h => hr.val b v hv g (hg ▸ h), ho ▸ hval b v hv⟩⟩, sh, hin⟩

theorem reach_outputs_induct {c : Circuit} (hnd : c.labels.Nodup) {P : Label → Prop} (hout : ∀ o ∈ c.outputs, P o)
    (hops : ∀ g ∈ c.gates, ∀ o ∈ g.ops, P o) {l : Label} (h : Reach c.opsOf c.outputs l) : P l := by
  induction h with
  | base hm => exact hout _ hm
  | @step u l' _ hm _ =>
    by_cases hul : u ∈ c.labels
    · obtain ⟨g, hg, rfl⟩ := gate_of_label hul
      exact hops g hg l' (opsOf_gate hnd hg ▸ hm)
    · rw [opsOf_not_mem hul] at hm; cases hm

theorem reach_labels {c : Circuit} (hw : WFS c) {start : List Label} (hs : ∀ o ∈ start, o ∈ c.labels) {l : Label}
    (h : Reach c.opsOf start l) : l ∈ c.labels :=
  h.closed (fun x _ y hy => opsOf_closed hw.nodup hw.closed x y hy) hs

/-- what the run of a merging pass on `c` returns -/
structure PassRun (pass : Circuit → R Circuit) (c c' : Circuit) : Prop where
  ok : pass c = .ok c'
  preserves : Preserves c c'
  shape : SameShape c c'
  inputs : c'.inputs = c.inputs

theorem PassRun.of_ok {pass : Circuit → R Circuit} {c c' c'' : Circuit} (r : PassRun pass c c') (h : pass c = .ok c'') :
    PassRun pass c c'' := by
  cases h.symm.trans r.ok
  exact r

/-- the step that `applyTransformers` folds over the passes: the model's lambda under a name -/
def trStepR (acc : R Circuit) (t : Tr) : R Circuit :=
  match acc with
  | .error e => .error e
  | .ok c' => transform1 t c'

/-- applying the passes `ts` one after the other, as a caller would by hand -/
def runSeq (c : R Circuit) (ts : List Tr) : R Circuit := ts.foldl trStepR c

theorem applyTransformers_def (c : Circuit) (ts : List Tr) :
    applyTransformers c ts = runSeq (.ok c) (reduceIdem none (linearize.linearizeList ts)) := rfl

theorem runSeq_append (c : R Circuit) (a b : List Tr) : runSeq c (a ++ b) = runSeq (runSeq c a) b :=
  List.foldl_append

theorem runSeq_error (e : String) (ts : List Tr) : runSeq (.error e) ts = .error e :=
  foldlR_error (fun _ _ => rfl) e ts

theorem linearizeList_append (a b : List Tr) :
    linearize.linearizeList (a ++ b) = linearize.linearizeList a ++ linearize.linearizeList b := by
  induction a with
  | nil => rfl
  | cons t r ih => simp [linearize.linearizeList, ih]

/-- a class of circuits the passes stay in, on which redundant-gate removal is idempotent -/
structure PassClass (G : Circuit → Prop) : Prop where
  step : ∀ t c c', G c → transform1 t c = .ok c' → G c'
  idem : ∀ a c c1, G c → rrg a c = .ok c1 → rrg a c1 = .ok c1

theorem sameIdem_true {t p : Tr} (h : sameIdem t p = true) : ∃ a, t = .rrg a ∧ p = .rrg a := by
  cases t <;> cases p <;> simp_all [sameIdem]

theorem runSeq_reduceIdem {G : Circuit → Prop} (hG : PassClass G) : ∀ (ts : List Tr) (prev : Option Tr) (c : Circuit),
    G c → (∀ p, prev = some p → ∃ c0, G c0 ∧ transform1 p c0 = .ok c) →
    runSeq (.ok c) (reduceIdem prev ts) = runSeq (.ok c) ts := by
  intro ts
  induction ts with
  | nil => intros; rfl
  | cons t r ih =>
    intro prev c hc hp
    have hgen : runSeq (.ok c) (t :: reduceIdem (some t) r) = runSeq (.ok c) (t :: r) := by
      show runSeq (trStepR (.ok c) t) (reduceIdem (some t) r) = runSeq (trStepR (.ok c) t) r
      cases ht : trStepR (.ok c) t with
      | error e => rw [runSeq_error, runSeq_error]
      | ok c2 => exact ih (some t) c2 (hG.step t c c2 hc ht) (fun p hp' => by cases hp'; exact ⟨c, hc, ht⟩)
    cases prev with
    | none => exact hgen
    | some p =>
      obtain ⟨c0, hc0, hpc⟩ := hp p rfl
      simp only [reduceIdem]
      split
      · -- `t = p` is a removal, and `c` is already a result of it
        rename_i hs
        obtain ⟨a, rfl, rfl⟩ := sameIdem_true hs
        rw [ih (some (.rrg a)) c hc hp]
        show runSeq (.ok c) r = runSeq (trStepR (.ok c) (.rrg a)) r
        rw [show trStepR (.ok c) (.rrg a) = .ok c from hG.idem a c0 c hc0 hpc]
      · exact hgen

theorem applyTransformers_eq_seq {G : Circuit → Prop} (hG : PassClass G) {c : Circuit} (hc : G c) (ts : List Tr) :
    applyTransformers c ts = runSeq (.ok c) (linearize.linearizeList ts) :=
  runSeq_reduceIdem hG _ none c hc (fun _ hp => nomatch hp)

/-- a linearised list of passes: atomic, every merging pass directly followed by its implied `RemoveRedundantGates()` -/
inductive Closed : List Tr → Prop
  | nil : Closed []
  | rrg (a r) : Closed r → Closed (.rrg a :: r)
  | muo (r) : Closed r → Closed (.muo :: .rrg false :: r)
  | mdg (r) : Closed r → Closed (.mdg :: .rrg false :: r)
  | meg (r) : Closed r → Closed (.meg :: .rrg false :: r)

theorem closed_append {a b : List Tr} (ha : Closed a) (hb : Closed b) : Closed (a ++ b) := by
  induction ha with
  | nil => exact hb
  | rrg a r _ ih => exact .rrg a _ ih
  | muo r _ ih => exact .muo _ ih
  | mdg r _ ih => exact .mdg _ ih
  | meg r _ ih => exact .meg _ ih

mutual
theorem linearize_closed : ∀ t : Tr, Closed (linearize t)
  | .rrg a => by simpa [linearize] using Closed.rrg a [] .nil
  | .muo => by simpa [linearize] using Closed.muo [] .nil
  | .mdg => by simpa [linearize] using Closed.mdg [] .nil
  | .meg => by simpa [linearize] using Closed.meg [] .nil
  | .comp ts => by simpa [linearize] using linearizeList_closed ts
theorem linearizeList_closed : ∀ ts : List Tr, Closed (linearize.linearizeList ts)
  | [] => by simpa [linearize.linearizeList] using Closed.nil
  | t :: r => by
    simpa [linearize.linearizeList] using closed_append (linearize_closed t) (linearizeList_closed r)
end

/-- re-linearising only repeats implied removals. In cirbo: applying a `TransformerComposition` whose list came from
`as_distinct(imply_deps=True)`, which `apply_transformers` linearises again -/
theorem runSeq_relinearize_on {G : Circuit → Prop} (hG : PassClass G) {l : List Tr} (hl : Closed l) :
    ∀ c : R Circuit, (∀ c0, c = .ok c0 → G c0) → runSeq c (linearize.linearizeList l) = runSeq c l := by
  have good : ∀ (c : R Circuit) t, (∀ c0, c = .ok c0 → G c0) → ∀ c1, trStepR c t = .ok c1 → G c1 := by
    intro c t hc c1 h1
    cases c with
    | error e => cases h1
    | ok c0 => exact hG.step t c0 c1 (hc c0 rfl) h1
  -- a merging pass `t` with its removal: the linearisation runs the removal twice
  have merge : ∀ (t : Tr) (r : List Tr), (∀ c, (∀ c0, c = .ok c0 → G c0) → runSeq c (linearize.linearizeList r) = runSeq c r) →
      ∀ c, (∀ c0, c = .ok c0 → G c0) →
      runSeq c (t :: .rrg false :: .rrg false :: linearize.linearizeList r) = runSeq c (t :: .rrg false :: r) := by
    intro t r ih c hc
    have h1 := good c t hc
    have h2 := good _ (.rrg false) h1
    show runSeq (trStepR (trStepR (trStepR c t) (.rrg false)) (.rrg false)) _ = runSeq (trStepR (trStepR c t) (.rrg false)) r
    rw [ih _ (good _ (.rrg false) h2)]
    congr 1
    cases hc2 : trStepR (trStepR c t) (.rrg false) with
    | error e => rfl
    | ok c2 =>
      cases hc1 : trStepR c t with
      | error e => rw [hc1] at hc2; cases hc2
      | ok c1 => rw [hc1] at hc2; exact hG.idem false c1 c2 (h1 c1 hc1) hc2
  induction hl with
  | nil => intro c _; rfl
  | rrg a r _ ih => exact fun c hc => ih _ (good c (.rrg a) hc)
  | muo r _ ih => exact merge .muo r ih
  | mdg r _ ih => exact merge .mdg r ih
  | meg r _ ih => exact merge .meg r ih

theorem linearize_or (a b : Tr) (c : R Circuit) :
    runSeq c (linearize (a.or b)) = runSeq (runSeq c (linearize a)) (linearize b) := by
  unfold Tr.or
  simp only [linearize]
  rw [linearizeList_append, runSeq_append]
  cases a <;> cases b <;> simp [linearize, linearize.linearizeList]

theorem linearize_cleanup (heavy : Bool) :
    linearize.linearizeList ([.rrg false, .muo, .mdg] ++ (if heavy then [.meg] else [])) =
      [.rrg false, .muo, .rrg false, .mdg, .rrg false] ++ (if heavy then [.meg, .rrg false] else []) := by
  cases heavy <;> rfl

/-! Under the hypothesis `RrgIdem`: removal is idempotent on *all* circuits of the model, which is proved nowhere. Proved is
its well-formed case, `rrg_idem`; the forms without hypothesis (`passClass_wf`, Proofs/PassPipe.lean) are what Props/C18 uses. -/

def RrgIdem : Prop := ∀ (a : Bool) (c c1 : Circuit), rrg a c = .ok c1 → rrg a c1 = .ok c1

theorem PassClass.ofIdem (H : RrgIdem) : PassClass fun _ => True :=
  ⟨fun _ _ _ _ _ => trivial, fun a c c1 _ => H a c c1⟩

theorem runSeq_relinearize (H : RrgIdem) {l : List Tr} (hl : Closed l) :
    ∀ c : R Circuit, runSeq c (linearize.linearizeList l) = runSeq c l :=
  fun c => runSeq_relinearize_on (.ofIdem H) hl c fun _ _ => trivial

/-- `t1 | t2` runs `t1` then `t2`; the hypothesis is not used -/
theorem or_eq_seq (_H : RrgIdem) (a b : Tr) (c : R Circuit) :
    runSeq c (linearize (a.or b)) = runSeq (runSeq c (linearize a)) (linearize b) :=
  linearize_or a b c

theorem cleanup_eq_seq (H : RrgIdem) (c : Circuit) (heavy : Bool) :
    cleanup c heavy = runSeq (.ok c)
      ([.rrg false, .muo, .rrg false, .mdg, .rrg false] ++ (if heavy then [.meg, .rrg false] else [])) := by
  rw [← linearize_cleanup]
  exact applyTransformers_eq_seq (.ofIdem H) trivial _

end Cirbo
