import Cirbo.Proofs.Traverse
import Cirbo.Proofs.Graph
/-!
# The depth-first loop: its invariant, and what the hooks see (C20, used by C03/C18)

White = `unv`, grey = `ent`, black = `vis`. `DfsInv` holds on every graph; that the exits are exactly the reachable
gates, that they come in post-order unless a cycle is met, and that a grey successor means a cycle are read off it.
-/
namespace Cirbo

variable {c : Circuit} {ab : Bool} {next : Label → List Label} {start : List Label} {s s' : TrSt}

theorem dfsStep_cases (hs : trStep c false ab next s = .next s') :
    ∃ q cur, s.queue = q ++ [cur] ∧ c.hasGate cur = true ∧
      ((s.st cur = .unv ∧ childProblem c ab (setSt s.st cur .ent) (next cur) = none ∧
          s' = ⟨q ++ [cur] ++ pushed next s.st cur, setSt s.st cur .ent,
            s.log ++ enterEvs next s.st cur⟩) ∨
       (s.st cur = .ent ∧ s' = ⟨q, setSt s.st cur .vis, s.log ++ [Ev.exit cur]⟩) ∨
       (s.st cur = .vis ∧ s' = ⟨q, s.st, s.log⟩)) :=
  trStep_next_cases hs

/-- done, for the traversal: black, or seen grey by the discover hook (a back edge) -/
abbrev trDone (st : Label → TState) (log : List Ev) (x : Label) : Prop := st x = .vis ∨ Ev.discover x .ent ∈ log

/-- Invariant of the depth-first loop, on any graph. A grey gate is open (`grey`): its successors are
black, or wait above it, or were grey themselves when discovered — which the log records as
`discover x .ent` and which puts `x` on a cycle (`back`). The exits are the black gates, each once, in
post-order up to such back edges (`post`). -/
structure DfsInv (next : Label → List Label) (start : List Label) (s : TrSt) : Prop where
  grey : ∀ u, s.st u = .ent → OpenNode next (trDone s.st s.log) s.queue u
  exitVis : ∀ l, l ∈ exits s.log ↔ s.st l = .vis
  exitND : (exits s.log).Nodup
  post : ∀ e1 l e2, exits s.log = e1 ++ l :: e2 → ∀ x ∈ next l, x ∈ e1 ∨ Ev.discover x .ent ∈ s.log
  back : ∀ x, Ev.discover x .ent ∈ s.log → Reach next start x ∧ Desc next x x

theorem dfsinv_init (next : Label → List Label) (q0 : List Label) :
    DfsInv next q0 ⟨q0, fun _ => .unv, []⟩ :=
  ⟨fun _ h => (nomatch h), fun _ => by simp [exits], by simp [exits],
    fun _ _ _ he => by simp [exits] at he, fun _ h => (nomatch h)⟩

theorem mem_enterEvs_discover {st : Label → TState} {cur x : Label} {t : TState} :
    Ev.discover x t ∈ enterEvs next st cur ↔ x ∈ next cur ∧ setSt st cur .ent x = t := by
  simp [enterEvs]
  exact ⟨fun ⟨_, h, e1, e2⟩ => e1 ▸ ⟨h, e2⟩, fun ⟨h, e⟩ => ⟨x, h, rfl, e⟩⟩

theorem DfsInv.grey_succ (tinv : TInv next start s) (inv : DfsInv next start s) {q : List Label}
    {cur x : Label} (hq : s.queue = q ++ [cur]) (hx : x ∈ next cur)
    (hxe : setSt s.st cur .ent x = .ent) : Reach next start x ∧ Desc next x x := by
  refine ⟨.step (tinv.reachQ cur (by simp [hq])) hx, ?_⟩
  by_cases hxc : x = cur
  · exact hxc ▸ .base (hxc ▸ hx)
  · rw [setSt_ne _ _ hxc] at hxe
    exact .step ((inv.grey x hxe).above cur (hq ▸ above_top (hq ▸ (inv.grey x hxe).mem) hxc)) hx

theorem trStep_dfsinv (tinv : TInv next start s) (inv : DfsInv next start s)
    (hs : trStep c false ab next s = .next s') : DfsInv next start s' := by
  obtain ⟨q, cur, hq, -, hcase⟩ := dfsStep_cases hs
  have hopen : ∀ u, s.st u = .ent → OpenNode next (trDone s.st s.log) (q ++ [cur]) u := hq ▸ inv.grey
  rcases hcase with ⟨hst, -, rfl⟩ | ⟨hst, rfl⟩ | ⟨hst, rfl⟩
  · have hex : exits (s.log ++ enterEvs next s.st cur) = exits s.log := by
      simp [exits_append, exits_enterEvs]
    have hsub : ∀ x, trDone s.st s.log x → trDone (setSt s.st cur .ent) (s.log ++ enterEvs next s.st cur) x :=
      fun x hx =>
      hx.imp (fun h => by rwa [setSt_ne _ _ fun e => by simp [e, hst] at h]) (List.mem_append_left _)
    refine ⟨fun u (hu : setSt s.st cur .ent u = .ent) => ?_, fun l => ?_, hex ▸ inv.exitND,
      fun e1 l e2 he x hx => (inv.post e1 l e2 (hex ▸ he) x hx).imp id (List.mem_append_left _),
      fun x hx => ?_⟩
    · by_cases huc : u = cur
      · subst huc
        refine .expand (fun h => (mem_pushed.mp h).2.1 rfl) (fun x hx => (mem_pushed.mp hx).1) fun o ho => ?_
        -- a successor is pushed if white, logged as a back edge if grey, done if black
        cases hh : setSt s.st u .ent o with
        | unv =>
          have hoc : o ≠ u := fun e => by simp [e, setSt_self] at hh
          exact .inr (mem_pushed.mpr ⟨ho, hoc, by rwa [setSt_ne _ _ hoc] at hh⟩)
        | ent => exact .inl (.inr (List.mem_append_right _ (mem_enterEvs_discover.mpr ⟨ho, hh⟩)))
        | vis => exact .inl (.inl hh)
      · rw [setSt_ne _ _ huc] at hu
        exact (hopen u hu).push huc (fun h => by rw [(mem_pushed.mp h).2.2] at hu; cases hu)
          (fun x hx => (mem_pushed.mp hx).1) hsub
    · show l ∈ exits (s.log ++ enterEvs next s.st cur) ↔ setSt s.st cur .ent l = .vis
      rw [hex, inv.exitVis]
      by_cases e : l = cur
      · simp [e, setSt_self, hst]
      · rw [setSt_ne _ _ e]
    · rcases List.mem_append.mp hx with h | h
      · exact inv.back x h
      · obtain ⟨h1, h2⟩ := mem_enterEvs_discover.mp h
        exact inv.grey_succ tinv hq h1 h2
  · have hex : exits (s.log ++ [Ev.exit cur]) = exits s.log ++ [cur] := exits_append _ _
    have hlog : ∀ x, Ev.discover x .ent ∈ s.log ++ [Ev.exit cur] ↔ Ev.discover x .ent ∈ s.log := by simp
    have hsub : ∀ x, trDone s.st s.log x → trDone (setSt s.st cur .vis) (s.log ++ [Ev.exit cur]) x := fun x hx =>
      hx.imp (fun h => by rwa [setSt_ne _ _ fun e => by simp [e, hst] at h]) (hlog x).mpr
    refine ⟨fun u (hu : setSt s.st cur .vis u = .ent) => ?_, fun l => ?_, ?_, ?_,
      fun x hx => inv.back x ((hlog x).mp hx)⟩
    · have huc : u ≠ cur := fun e => by simp [e, setSt_self] at hu
      rw [setSt_ne _ _ huc] at hu
      exact (hopen u hu).pop huc hsub (.inl (setSt_self ..))
    · show l ∈ exits (s.log ++ [Ev.exit cur]) ↔ setSt s.st cur .vis l = .vis
      rw [hex, List.mem_append, inv.exitVis]
      by_cases e : l = cur
      · simp [e, setSt_self]
      · simp [e, setSt_ne]
    · show (exits (s.log ++ [Ev.exit cur])).Nodup
      rw [hex]
      refine List.nodup_append.mpr ⟨inv.exitND, by simp, fun a ha b hb e => ?_⟩
      obtain rfl : b = cur := by simpa using hb
      have := (inv.exitVis a).mp ha
      rw [e, hst] at this; cases this
    · show ∀ e1 l e2, exits (s.log ++ [Ev.exit cur]) = e1 ++ l :: e2 → _
      rw [hex]
      exact snoc_split_induct (P := fun e1 l => ∀ x ∈ next l, x ∈ e1 ∨ Ev.discover x .ent ∈ s.log ++ [Ev.exit cur])
        (fun e1 l e2 he x hx => (inv.post e1 l e2 he x hx).imp id (hlog x).mpr)
        fun x hx => ((hopen cur hst).top x hx).imp (inv.exitVis x).mpr (hlog x).mpr
  · exact ⟨fun u hu => (hopen u hu).pop (fun e => by simp [e, hst] at hu) (fun _ h => h) (.inl hst),
      inv.exitVis, inv.exitND, inv.post, inv.back⟩

theorem DfsInv.no_back {r : Label → Nat} (hr : ∀ l, Reach next start l → ∀ x ∈ next l, r x < r l)
    (inv : DfsInv next start s) (x : Label) : Ev.discover x .ent ∉ s.log := fun hx =>
  Nat.lt_irrefl _ (Desc.rank_lt hr (inv.back x hx).1 (inv.back x hx).2)

/-- enter before exit (no relation to `EnInv2` of the gate enumeration) -/
structure EnInv (s : TrSt) : Prop where
  entered : ∀ l, s.st l ≠ .unv → Ev.enter l ∈ s.log
  before : ∀ pre l post, s.log = pre ++ Ev.exit l :: post → Ev.enter l ∈ pre

theorem split_append_exit {log evs pre post : List Ev} {l : Label}
    (h : log ++ evs = pre ++ Ev.exit l :: post) :
    (∃ post', log = pre ++ Ev.exit l :: post') ∨ (Ev.exit l ∈ evs ∧ ∀ e ∈ log, e ∈ pre) := by
  rcases List.append_eq_append_iff.mp h with ⟨a, ha, hb⟩ | ⟨a, ha, hb⟩
  · exact .inr ⟨by simp [hb], fun e he => by simp [ha, he]⟩
  · cases a with
    | nil => exact .inr ⟨(List.nil_append evs ▸ hb) ▸ List.mem_cons_self, fun e he => by simpa [ha] using he⟩
    | cons x t =>
      obtain ⟨rfl, -⟩ := List.cons.inj hb
      exact .inl ⟨t, ha⟩

theorem trStep_eninv (inv : EnInv s) (hs : trStep c false ab next s = .next s') : EnInv s' := by
  obtain ⟨q, cur, -, -, ⟨-, -, rfl⟩ | ⟨hst, rfl⟩ | ⟨-, rfl⟩⟩ := dfsStep_cases hs
  · refine ⟨fun l (hl : setSt s.st cur .ent l ≠ .unv) => ?_, fun pre l post h => ?_⟩
    · by_cases e : l = cur
      · simp [e, enterEvs]
      · exact List.mem_append_left _ (inv.entered l (by rwa [setSt_ne _ _ e] at hl))
    · rcases split_append_exit h with ⟨post', hp⟩ | ⟨hm, -⟩
      · exact inv.before pre l post' hp
      · simp [enterEvs] at hm
  · refine ⟨fun l (hl : setSt s.st cur .vis l ≠ .unv) => List.mem_append_left _ (inv.entered l ?_),
      fun pre l post h => ?_⟩
    · by_cases e : l = cur
      · simp [e, hst]
      · rwa [setSt_ne _ _ e] at hl
    · rcases split_append_exit h with ⟨post', hp⟩ | ⟨hm, hsub⟩
      · exact inv.before pre l post' hp
      · obtain rfl : l = cur := by simpa using hm
        exact hsub _ (inv.entered l (by simp [hst]))
  · exact ⟨inv.entered, inv.before⟩

/-- what a depth-first traversal that returned leaves behind: the final state of the loop, with an empty
stack, and the `unvisited` events after its log -/
theorem dfs_final {inverse : Bool} {start : Option (List Label)} {tsu : Bool} {log : List Ev}
    (h : traverse c false inverse start tsu ab = .ok log) :
    (c.gates = [] ∧ log = []) ∨ ∃ s, ∃ M : List Label, c.gates ≠ [] ∧ s.queue = [] ∧
      TInv (if inverse then c.usersOf else c.opsOf) (start.getD (if inverse then c.inputs else c.outputs)) s ∧
      DfsInv (if inverse then c.usersOf else c.opsOf) (start.getD (if inverse then c.inputs else c.outputs)) s ∧
      EnInv s ∧ log = s.log ++ M.map Ev.unvisited ++ [Ev.done] := by
  obtain h0 | ⟨s, order, hne, hl, -, rfl⟩ := traverse_ok_cases h
  · exact .inl h0
  · obtain ⟨⟨tinv, inv, en⟩, hq⟩ := (trLoop_induct (P := fun s => TInv _ _ s ∧ DfsInv _ _ s ∧ EnInv s)
      (fun _ _ hP hs => ⟨trStep_inv hP.1 hs, trStep_dfsinv hP.1 hP.2.1 hs, trStep_eninv hP.2.2 hs⟩) _ _
      ⟨tinv_init _ _, dfsinv_init _ _, fun l hl => absurd rfl hl, fun pre l post he => by simp at he⟩).1 s hl
    exact .inr ⟨s, _, hne, hq, tinv, inv, en, rfl⟩

theorem dfs_exits_exact {c : Circuit} (inverse : Bool) (start : Option (List Label)) (tsu ab : Bool)
    {log : List Ev} (hne : c.gates ≠ []) (h : traverse c false inverse start tsu ab = .ok log) :
    let next := if inverse then c.usersOf else c.opsOf
    let q0 := start.getD (if inverse then c.inputs else c.outputs)
    (exits log).Nodup ∧ (∀ l, l ∈ exits log ↔ Reach next q0 l) ∧ (∀ l, l ∈ exits log ↔ l ∈ yields log) := by
  intro next q0
  obtain ⟨h0, -⟩ | ⟨s, M, -, hq, tinv, inv, -, rfl⟩ := dfs_final h
  · exact absurd h0 hne
  -- nothing is left grey once the stack is empty
  have hvis : ∀ l, s.st l = .vis ↔ s.st l ≠ .unv := fun l => by
    cases hst : s.st l with
    | ent => have := (inv.grey l hst).mem; rw [hq] at this; cases this
    | _ => simp
  have hmain : ∀ l, l ∈ exits (s.log ++ M.map Ev.unvisited ++ [Ev.done]) ↔ Reach next q0 l := fun l => by
    rw [exits_tail, inv.exitVis, hvis, reach_iff_of_done tinv hq]
  exact ⟨by rw [exits_tail]; exact inv.exitND, hmain,
    fun l => by rw [hmain, yields_tail, tinv.yld, reach_iff_of_done tinv hq]⟩

theorem dfs_postorder_gen (inverse : Bool) (start : Option (List Label)) (tsu : Bool) {log : List Ev}
    (h : traverse c false inverse start tsu ab = .ok log) :
    (∀ e1 l e2, exits log = e1 ++ l :: e2 → ∀ x ∈ (if inverse then c.usersOf else c.opsOf) l,
      x ∈ e1 ∨ Ev.discover x .ent ∈ log) ∧
    ∀ x, Ev.discover x .ent ∈ log →
      Reach (if inverse then c.usersOf else c.opsOf) (start.getD (if inverse then c.inputs else c.outputs)) x ∧
      Desc (if inverse then c.usersOf else c.opsOf) x x := by
  obtain ⟨-, rfl⟩ | ⟨s, M, -, -, -, inv, -, rfl⟩ := dfs_final h
  · exact ⟨fun e1 l e2 he => by simp [exits] at he, fun x hx => nomatch hx⟩
  · have hlog : ∀ x, Ev.discover x .ent ∈ s.log ++ M.map Ev.unvisited ++ [Ev.done] ↔ Ev.discover x .ent ∈ s.log := by
      simp
    exact ⟨fun e1 l e2 he x hx => (inv.post e1 l e2 (exits_tail _ _ ▸ he) x hx).imp id (hlog x).mpr,
      fun x hx => inv.back x ((hlog x).mp hx)⟩

theorem dfs_postorder (inverse : Bool) (start : Option (List Label)) (tsu ab : Bool)
    {r : Label → Nat}
    (hr : ∀ l, Reach (if inverse then c.usersOf else c.opsOf) (start.getD (if inverse then c.inputs else c.outputs)) l →
      ∀ x ∈ (if inverse then c.usersOf else c.opsOf) l, r x < r l)
    {log : List Ev} (h : traverse c false inverse start tsu ab = .ok log) :
    OpsFirst (if inverse then c.usersOf else c.opsOf) (exits log) := by
  obtain ⟨hpost, hback⟩ := dfs_postorder_gen inverse start tsu h
  exact fun e1 l e2 he x hx => (hpost e1 l e2 he x hx).resolve_right fun hb =>
    Nat.lt_irrefl _ (Desc.rank_lt hr (hback x hb).1 (hback x hb).2)

/-- a second form of `DfsInv` under a rank (`DfsInv.toPInv`); nothing here uses it -/
structure PInv (next : Label → List Label) (r : Label → Nat) (s : TrSt) : Prop where
  /-- everything above the (last occurrence of an) entered gate is a strict descendant -/
  above : ∀ pre u post, s.queue = pre ++ u :: post → u ∉ post → s.st u = .ent → ∀ x ∈ post, r x < r u
  /-- unvisited successors of an entered gate wait above it -/
  pending : ∀ u, s.st u = .ent → ∀ x ∈ next u, s.st x = .unv →
    ∃ pre post, s.queue = pre ++ u :: post ∧ u ∉ post ∧ x ∈ post
  /-- the exits so far are a post-order -/
  post : ∀ e1 l e2, exits s.log = e1 ++ l :: e2 → ∀ x ∈ next l, x ∈ e1

theorem DfsInv.toPInv {r : Label → Nat} (hr : ∀ l, Reach next start l → ∀ x ∈ next l, r x < r l)
    (tinv : TInv next start s) (inv : DfsInv next start s) : PInv next r s :=
  ⟨fun pre u post e hup hu x hx => Desc.rank_lt hr (tinv.reachSt u (by simp [hu]))
      ((inv.grey u hu).above x ⟨pre, post, e, hup, hx⟩),
    fun u hu x hx hxu => ((inv.grey u hu).ops x hx).resolve_left fun h =>
      h.elim (by simp [hxu]) (inv.no_back hr x),
    fun e1 l e2 he x hx => (inv.post e1 l e2 he x hx).resolve_right (inv.no_back hr x)⟩

theorem dfs_operands_first {c : Circuit}
    (hrank : ∃ r : Label → Nat, ∀ g ∈ c.gates, ∀ o ∈ g.ops, r o < r g.label)
    (start : Option (List Label)) (tsu ab : Bool) {log : List Ev}
    (h : traverse c false false start tsu ab = .ok log) : OpsFirst c.opsOf (exits log) := by
  obtain ⟨r, hr⟩ := hrank
  exact dfs_postorder (c := c) false start tsu ab (r := r) (fun l _ => opsOf_lt hr l) h

end Cirbo
