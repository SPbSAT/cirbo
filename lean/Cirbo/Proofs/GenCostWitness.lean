import Cirbo.Proofs.GenWalk
import Cirbo.Proofs.GenTotalW2
/-!
# The documented bound `4.5·n − 2·m` of `add_sum_n_weighted_bits` (XAIG) fails: a concrete run

The run on 35 inputs is not evaluated on the circuit model (that takes the kernel minutes).  The program is followed
with the counter alone (`Prog.walk`); totality says the real run returns, `run_of_walk` that it returns what the walk found.
-/
namespace Cirbo
open GateType

/-- weights 0,0,0,0, 1,1,1,1, 2,2,2, 3,3,3, …, 10,10,10 -/
def badWeights : List Nat := [0, 0, 0, 0, 1, 1, 1, 1] ++ (List.range 9).flatMap (fun l => [l + 2, l + 2, l + 2])
def badInputs : List Label := (List.range 35).map (fun i => "x" ++ toString i)
def badHost : Circuit := ⟨badInputs.map (fun l => ⟨l, INPUT, []⟩), badInputs, [], [], []⟩

/-- (result bits, labels drawn, gates added) on the path of the program from counter 0 -/
def badWalk : Option (Nat × Nat × Nat) :=
  ((addSumWeighted (badWeights.zip badInputs) (.enum .xaig)).walk 0 []).map fun x => (x.1.length, x.2)

theorem badWalk_eq : badWalk = some (13, 132, 132) := by decide +kernel

theorem newLabel_not_badInput (j : Nat) : newLabel j ∉ badHost.labels := by
  intro h
  obtain ⟨i, _, hi⟩ : ∃ i ∈ List.range 35, "x" ++ toString i = newLabel j := by
    simpa [Circuit.labels, badHost, badInputs] using h
  have := congrArg String.toList hi
  simp [newLabel, String.toList_append] at this

/-- `n = 35` operands, `m = 13` result bits, 132 gates: `132 > 4.5·35 − 2·13 = 131.5` -/
theorem weighted_xaig_documented_bound_fails :
    ∃ (ins : List (Nat × Label)) (st st' : GSt) (r : List (Nat × Label)),
      (addSumWeighted ins (.enum .xaig)).run st = .ok (r, st') ∧
      9 * ins.length < 2 * (st'.c.gates.length - st.c.gates.length) + 4 * r.length := by
  obtain ⟨⟨r, ctr', n⟩, hw, he⟩ := Option.map_eq_some_iff.mp badWalk_eq
  obtain ⟨hr, hc, hn⟩ : r.length = 13 ∧ ctr' = 132 ∧ n = 132 := by simpa using he
  have hins : ∀ x ∈ badWeights.zip badInputs, x.2 ∈ badHost.labels := fun x hx => by
    have : badHost.labels = badInputs := by simp [Circuit.labels, badHost, Function.comp_def]
    rw [this]; exact (List.of_mem_zip hx).2
  have hok := yields_addSumWeighted (basis := .enum .xaig) rfl (by decide) _ _ _ (Inv.nil ⟨badHost, 0⟩) (fun _ h => h)
    (List.forall_mem_map.mpr hins)
  obtain ⟨c', hrun, hlen⟩ := run_of_walk_of_ok hok hw (by omega) (fun j _ => newLabel_not_badInput j)
  refine ⟨_, _, _, _, hrun, ?_⟩
  have : (badWeights.zip badInputs).length = 35 := by decide
  rw [this, hr]
  show _ < 2 * (c'.gates.length - badHost.gates.length) + _
  omega

end Cirbo
