import Cirbo.Model.Gen2
import Cirbo.Proofs.Frame
/-!
# Generator programs: what is true of every `Prog`

A program returns along a path; `Path` lists the gates the path adds, `Along`/`Sem`/`SemF` read a predicate off each.
`run_path` is the one induction about what a run does to the gates; `run_frame` is the other, carrying `WFS`.  Value
theorems are proved over `Sem`, without any reasoning about label freshness.
-/
namespace Cirbo
open GateType Circuit

def ttApply (t : TT) (a b : Bool) : Bool :=
  if a then (if b then t.2.2.2 else t.2.2.1) else (if b then t.2.1 else t.1)

/-- the regenerated `binary_tt_to_type` table maps every 4-bit string to a gate type computing
exactly that truth table -/
theorem ttType_sem {a b c d : Bool} {ty : GateType} (h : Gen.ttType a b c d = some ty) (x y : Bool) :
    bfun ty [x, y] = some (ttApply (a, b, c, d) x y) := by
  cases a <;> cases b <;> cases c <;> cases d <;> simp only [Gen.ttType, Option.some.injEq] at h <;>
    subst h <;> cases x <;> cases y <;> rfl

/-- `Sem p v a`: `p` can return `a` along a path all of whose added gates are consistent with the
valuation `v` -/
inductive Sem {α : Type} : Prog α → (Label → Bool) → α → Prop
  | pure {a : α} {v} : Sem (.pure a) v a
  | fresh {r k v} {a : α} (l : Label) : Sem (k l) v a → Sem (.fresh r k) v a
  | add {g ok k v} {a : α} : bfun g.ty (g.ops.map v) = some (v g.label) → Sem k v a → Sem (.add g ok k) v a
  | mark {l k v} {a : α} : Sem k v a → Sem (.mark l k) v a

/-- `Along F G p a` follows one path of `p` to the result `a` and records what holds of every label drawn
(`F`) and of every gate added (`G`) -/
inductive Along {α : Type} (F : Label → Prop) (G : Gate → Prop) : Prog α → α → Prop
  | pure {a : α} : Along F G (.pure a) a
  | fresh {r k} {a : α} (l : Label) : F l → Along F G (k l) a → Along F G (.fresh r k) a
  | add {g ok k} {a : α} : G g → Along F G k a → Along F G (.add g ok k) a
  | mark {l k} {a : α} : Along F G k a → Along F G (.mark l k) a

/-- `Path F p a gs`: `p` can return `a` along a path on which every label drawn satisfies `F` and the gates added
are, in order, `gs` -/
inductive Path {α : Type} (F : Label → Prop) : Prog α → α → List Gate → Prop
  | pure {a : α} : Path F (.pure a) a []
  | fresh {r k} {a : α} {gs} (l : Label) : F l → Path F (k l) a gs → Path F (.fresh r k) a gs
  | add {g ok k} {a : α} {gs} : Path F k a gs → Path F (.add g ok k) a (g :: gs)
  | mark {l k} {a : α} {gs} : Path F k a gs → Path F (.mark l k) a gs

/-- a label of the form `"new_" ++ …`, the only kind a run draws -/
def Drawn (l : Label) : Prop := ∃ n, l = newLabel n

section
variable {α β : Type} {F F' : Label → Prop} {G G' : Gate → Prop}

theorem along_pure {a a' : α} : Along F G (Pure.pure a : Prog α) a' ↔ a' = a := by
  constructor
  · intro h; cases h; rfl
  · rintro rfl; exact .pure

theorem along_fail {e : String} {a : α} : ¬ Along F G (.fail e : Prog α) a := by
  intro h; cases h

theorem Along.mono {p : Prog α} {a : α} (hF : ∀ l, F l → F' l) (hG : ∀ g, G g → G' g) (h : Along F G p a) :
    Along F' G' p a := by
  induction h with
  | pure => exact .pure
  | fresh l hl _ ih => exact .fresh l (hF l hl) ih
  | add hg _ ih => exact .add (hG _ hg) ih
  | mark _ ih => exact .mark ih

theorem path_bind {p : Prog α} {f : α → Prog β} {b : β} {gs : List Gate} :
    Path F (p >>= f) b gs ↔ ∃ a g1 g2, Path F p a g1 ∧ Path F (f a) b g2 ∧ gs = g1 ++ g2 := by
  show Path F (p.bind f) b gs ↔ _
  constructor
  · intro h
    induction p generalizing gs with
    | pure a => exact ⟨a, [], gs, .pure, h, rfl⟩
    | fresh r k ih =>
      cases h with
      | fresh l hl hk => obtain ⟨a, g1, g2, h1, h2, e⟩ := ih l hk; exact ⟨a, g1, g2, .fresh l hl h1, h2, e⟩
    | add g ok k ih =>
      cases h with
      | add hk => obtain ⟨a, g1, g2, h1, h2, rfl⟩ := ih hk; exact ⟨a, g :: g1, g2, .add h1, h2, rfl⟩
    | mark l k ih =>
      cases h with
      | mark hk => obtain ⟨a, g1, g2, h1, h2, e⟩ := ih hk; exact ⟨a, g1, g2, .mark h1, h2, e⟩
    | fail e => cases h
  · rintro ⟨a, g1, g2, h1, h2, rfl⟩
    induction h1 with
    | pure => exact h2
    | fresh l hl _ ih => exact .fresh l hl (ih h2)
    | add _ ih => exact .add (ih h2)
    | mark _ ih => exact .mark (ih h2)

theorem along_iff_path {p : Prog α} {a : α} : Along F G p a ↔ ∃ gs, Path F p a gs ∧ ∀ g ∈ gs, G g := by
  constructor
  · intro h
    induction h with
    | pure => exact ⟨[], .pure, nofun⟩
    | fresh l hl _ ih => obtain ⟨gs, h1, h2⟩ := ih; exact ⟨gs, .fresh l hl h1, h2⟩
    | add hg _ ih => obtain ⟨gs, h1, h2⟩ := ih; exact ⟨_ :: gs, .add h1, List.forall_mem_cons.mpr ⟨hg, h2⟩⟩
    | mark _ ih => obtain ⟨gs, h1, h2⟩ := ih; exact ⟨gs, .mark h1, h2⟩
  · rintro ⟨gs, h, hG⟩
    induction h with
    | pure => exact .pure
    | fresh l hl _ ih => exact .fresh l hl (ih hG)
    | add _ ih => exact .add (hG _ List.mem_cons_self) (ih fun g hg => hG g (List.mem_cons_of_mem _ hg))
    | mark _ ih => exact .mark (ih hG)

theorem along_bind {p : Prog α} {f : α → Prog β} {b : β} :
    Along F G (p >>= f) b ↔ ∃ a, Along F G p a ∧ Along F G (f a) b := by
  simp only [along_iff_path, path_bind]
  constructor
  · rintro ⟨_, ⟨a, g1, g2, h1, h2, rfl⟩, hG⟩
    exact ⟨a, ⟨g1, h1, fun g hg => hG g (List.mem_append_left _ hg)⟩, g2, h2, fun g hg => hG g (List.mem_append_right _ hg)⟩
  · rintro ⟨a, ⟨g1, h1, k1⟩, g2, h2, k2⟩
    exact ⟨_, ⟨a, g1, g2, h1, h2, rfl⟩, fun g hg => (List.mem_append.mp hg).elim (k1 g) (k2 g)⟩

theorem sem_iff_along {p : Prog α} {v : Label → Bool} {a : α} :
    Sem p v a ↔ Along (fun _ => True) (fun g => bfun g.ty (g.ops.map v) = some (v g.label)) p a := by
  constructor
  · intro h
    induction h with
    | pure => exact .pure
    | fresh l _ ih => exact .fresh l trivial ih
    | add hb _ ih => exact .add hb ih
    | mark _ ih => exact .mark ih
  · intro h
    induction h with
    | pure => exact .pure
    | fresh l _ _ ih => exact .fresh l ih
    | add hb _ ih => exact .add hb ih
    | mark _ ih => exact .mark ih

end

theorem sem_pure {α} {a a' : α} {v} : Sem (Pure.pure a : Prog α) v a' ↔ a' = a :=
  sem_iff_along.trans along_pure

theorem sem_fail {α} {e : String} {v} {a : α} : ¬ Sem (.fail e : Prog α) v a :=
  fun h => along_fail (sem_iff_along.mp h)

theorem sem_bind {α β} {p : Prog α} {f : α → Prog β} {v : Label → Bool} {b : β} :
    Sem (p >>= f) v b ↔ ∃ a, Sem p v a ∧ Sem (f a) v b := by
  simp only [sem_iff_along]
  exact along_bind

theorem sem_gate {α} {l : Label} {ty : GateType} {ops : List Label} {ok} {k : Prog α} {v : Label → Bool} {a : α}
    (h : Sem (.add ⟨l, ty, ops⟩ ok k) v a) : bfun ty (ops.map v) = some (v l) ∧ Sem k v a := by
  cases h with
  | add hb hk => exact ⟨hb, hk⟩

theorem sem_markIf {α} {ao : Bool} {l : Label} {k : Prog α} {v : Label → Bool} {a : α}
    (h : Sem (if ao then .mark l k else k) v a) : Sem k v a := by
  cases ao with
  | false => exact h
  | true => cases h with
    | mark hk => exact hk

theorem run_pure {α} {a a' : α} {st st' : GSt} (h : (Prog.pure a).run st = .ok (a', st')) : a' = a ∧ st' = st := by
  simp only [Prog.run, Except.ok.injEq, Prod.mk.injEq] at h
  exact ⟨h.1.symm, h.2.symm⟩

theorem freshLoop_label {c : Circuit} {restr : List Label} : ∀ (fuel ctr : Nat) (l : Label) (ctr' : Nat),
    freshLoop c restr fuel ctr = .ok (l, ctr') → Drawn l := by
  intro fuel
  induction fuel with
  | zero => intro ctr l ctr' h; simp [freshLoop] at h
  | succ fuel ih =>
    intro ctr l ctr' h
    simp only [freshLoop] at h
    split at h
    · cases h
    · split at h
      · exact ih _ _ _ h
      · simp only [Except.ok.injEq, Prod.mk.injEq] at h
        exact ⟨ctr, h.1.symm⟩

theorem run_fresh {α} {r k} {st st' : GSt} {a : α} (h : (Prog.fresh r k).run st = .ok (a, st')) :
    ∃ l ctr', Drawn l ∧ (k l).run ⟨st.c, ctr'⟩ = .ok (a, st') := by
  simp only [Prog.run] at h
  split at h
  · cases h
  · exact ⟨_, _, freshLoop_label _ _ _ _ ‹_›, h⟩

theorem run_add {α} {g ok} {k : Prog α} {st st' : GSt} {a : α} (h : (Prog.add g ok k).run st = .ok (a, st')) :
    ∃ c', st.c.addGate g = .ok c' ∧ k.run ⟨c', st.ctr⟩ = .ok (a, st') := by
  simp only [Prog.run] at h
  split at h
  · cases h
  · exact ⟨_, ‹_›, h⟩

theorem run_mark {α} {l} {k : Prog α} {st st' : GSt} {a : α} (h : (Prog.mark l k).run st = .ok (a, st')) :
    ∃ c', st.c.markAsOutput l = .ok c' ∧ k.run ⟨c', st.ctr⟩ = .ok (a, st') := by
  simp only [Prog.run] at h
  split at h
  · cases h
  · exact ⟨_, ‹_›, h⟩

theorem run_bind {α β} (p : Prog α) (f : α → Prog β) : ∀ (st : GSt),
    (p >>= f).run st = match p.run st with
      | .ok (a, st') => (f a).run st'
      | .error e => .error e := by
  show ∀ st, (p.bind f).run st = _
  induction p with
  | pure a => intro st; simp [Prog.bind, Prog.run]
  | fresh r k ih =>
    intro st
    simp only [Prog.bind, Prog.run]
    cases freshLoop st.c r (st.c.gates.length + r.length + 1) st.ctr with
    | error e => rfl
    | ok p => obtain ⟨l, c'⟩ := p; exact ih l _
  | add g ok k ih =>
    intro st
    simp only [Prog.bind, Prog.run]
    cases st.c.addGate g with
    | error e => rfl
    | ok c' => exact ih _
  | mark l k ih =>
    intro st
    simp only [Prog.bind, Prog.run]
    cases st.c.markAsOutput l with
    | error e => rfl
    | ok c' => exact ih _
  | fail e => intro st; simp [Prog.bind, Prog.run]

theorem tyOk_iff {ty : GateType} {n : Nat} : tyOk ty n = true ↔ ty ≠ INPUT ∧ arityOk ty n = true := by
  simp [tyOk]

/-- `gs` can be appended one by one to a circuit whose labels are `ls`: each label is new, each operand already there,
each type and arity accepted -/
def Appended : List Label → List Gate → Prop
  | _, [] => True
  | ls, g :: gs => g.label ∉ ls ∧ (∀ o ∈ g.ops, o ∈ ls) ∧ tyOk g.ty g.ops.length = true ∧ Appended (ls ++ [g.label]) gs

theorem Appended.tyOk : ∀ {gs : List Gate} {ls : List Label}, Appended ls gs → ∀ g ∈ gs, tyOk g.ty g.ops.length = true
  | [], _, _ => nofun
  | _ :: _, _, ⟨_, _, ok, h⟩ => List.forall_mem_cons.mpr ⟨ok, h.tyOk⟩

theorem run_path {α} {p : Prog α} : ∀ {st : GSt} {a : α} {st' : GSt}, p.run st = .ok (a, st') →
    ∃ gs, Path Drawn p a gs ∧ st'.c.gates = st.c.gates ++ gs ∧ Appended st.c.labels gs := by
  induction p with
  | pure a => intro st a' st' h; obtain ⟨rfl, rfl⟩ := run_pure h; exact ⟨[], .pure, by simp, trivial⟩
  | fresh r k ih =>
    intro st a st' h
    obtain ⟨l, _, hd, hk⟩ := run_fresh h
    obtain ⟨gs, h1, h2⟩ := ih l hk
    exact ⟨gs, .fresh l hd h1, h2⟩
  | add g ok k ih =>
    intro st a st' h
    obtain ⟨c', hc, hk⟩ := run_add h
    obtain ⟨hfresh, hops, hg, _⟩ := addGate_fields hc
    obtain ⟨gs, h1, h2, h3⟩ := ih hk
    have hl : c'.labels = st.c.labels ++ [g.label] := by unfold labels; rw [hg, labels_append]
    exact ⟨g :: gs, .add h1, by rw [h2, hg]; simp, hfresh, hops, ok, hl ▸ h3⟩
  | mark l k ih =>
    intro st a st' h
    obtain ⟨c', hc, hk⟩ := run_mark h
    obtain ⟨gs, h1, h2, h3⟩ := ih hk
    have hg := (markAsOutput_fields hc).1
    exact ⟨gs, .mark h1, by rw [h2, hg], by unfold labels at h3 ⊢; rw [hg] at h3; exact h3⟩
  | fail e => intro st a st' h; cases h

/-- a new gate gets the value its operands give it; they are older, so the extension agrees there -/
theorem appended_ext : ∀ {gs : List Gate} {ls : List Label}, Appended ls gs → ∀ v0 : Label → Bool,
    ∃ v, (∀ l ∈ ls, v l = v0 l) ∧ ∀ g ∈ gs, bfun g.ty (g.ops.map v) = some (v g.label) := by
  intro gs
  induction gs with
  | nil => intro ls _ v0; exact ⟨v0, fun _ _ => rfl, nofun⟩
  | cons g gs ih =>
    intro ls ⟨hfresh, hops, ok, hrest⟩ v0
    obtain ⟨x, hx⟩ := bfun_isSome_of_arityOk g.ty (g.ops.map v0) (by simpa using (tyOk_iff.mp ok).2)
    obtain ⟨v, h1, h2⟩ := ih hrest (updV v0 g.label x)
    have hv : ∀ l ∈ ls, v l = v0 l := by
      intro l hl
      have hne : l ≠ g.label := fun e => hfresh (e ▸ hl)
      rw [h1 l (List.mem_append_left _ hl)]
      simp [updV, hne]
    refine ⟨v, hv, List.forall_mem_cons.mpr ⟨?_, h2⟩⟩
    have hmap : g.ops.map v = g.ops.map v0 := List.map_congr_left fun o ho => hv o (hops o ho)
    rw [hmap, hx, h1 g.label (by simp)]
    simp [updV]

theorem IsValB.ext_appended {c c' : Circuit} {gs : List Gate} (hcl : ∀ x ∈ c.gates, ∀ o ∈ x.ops, o ∈ c.labels)
    (hg : c'.gates = c.gates ++ gs) (ha : Appended c.labels gs) {b v : Label → Bool} (hv : IsValB c b v) :
    ∃ v', IsValB c' b v' ∧ ∀ l ∈ c.labels, v' l = v l := by
  obtain ⟨v', hag, hgs⟩ := appended_ext ha v
  refine ⟨v', fun y hy => ?_, hag⟩
  rw [hg] at hy
  rcases List.mem_append.mp hy with hy | hy
  · have hmap : y.ops.map v' = y.ops.map v := List.map_congr_left fun o ho => hag o (hcl y hy o ho)
    rw [hmap, hag _ (mem_labels_of_mem hy)]
    exact hv y hy
  · rw [if_neg (tyOk_iff.mp (ha.tyOk y hy)).1]
    exact hgs y hy

theorem run_along {α} {p : Prog α} {st : GSt} {a : α} {st' : GSt} (h : p.run st = .ok (a, st')) :
    Along Drawn (fun g => g ∈ st'.c.gates ∧ g.ty ≠ INPUT) p a := by
  obtain ⟨gs, h1, h2, h3⟩ := run_path h
  exact along_iff_path.mpr ⟨gs, h1, fun g hg => ⟨h2 ▸ List.mem_append_right _ hg, (tyOk_iff.mp (h3.tyOk g hg)).1⟩⟩

theorem run_sound {α} (p : Prog α) : ∀ {st : GSt} {a : α} {st' : GSt}, p.run st = .ok (a, st') →
    ∀ b v, IsValB st'.c b v → Sem p v a := by
  intro st a st' h b v hv
  refine sem_iff_along.mpr ((run_along h).mono (fun _ _ => trivial) ?_)
  intro g ⟨hm, hne⟩
  have := hv g hm
  rwa [if_neg hne] at this

/-- what a run may change (relation between the host and the result) -/
structure GenFrame (c c' : Circuit) : Prop where
  wfs : WFS c'
  inputs : c'.inputs = c.inputs
  blocks : c'.blocks = c.blocks
  gates : ∃ new, c'.gates = c.gates ++ new ∧ ∀ g ∈ new, g.ty ≠ INPUT ∧ arityOk g.ty g.ops.length = true
  outputs : ∃ m, c'.outputs = c.outputs ++ m
  ext : ∀ b v, IsValB c b v → ∃ v', IsValB c' b v' ∧ ∀ l ∈ c.labels, v' l = v l

theorem GenFrame.refl {c : Circuit} (hw : WFS c) : GenFrame c c :=
  ⟨hw, rfl, rfl, ⟨[], by simp, by simp⟩, ⟨[], by simp⟩, fun _ v hv => ⟨v, hv, fun _ _ => rfl⟩⟩

theorem GenFrame.trans {a b c : Circuit} (h1 : GenFrame a b) (h2 : GenFrame b c) : GenFrame a c := by
  obtain ⟨n1, g1, k1⟩ := h1.gates
  obtain ⟨n2, g2, k2⟩ := h2.gates
  obtain ⟨m1, o1⟩ := h1.outputs
  obtain ⟨m2, o2⟩ := h2.outputs
  refine ⟨h2.wfs, h2.inputs.trans h1.inputs, h2.blocks.trans h1.blocks, ⟨n1 ++ n2, by rw [g2, g1]; simp, ?_⟩,
    ⟨m1 ++ m2, by rw [o2, o1]; simp⟩, ?_⟩
  · intro g hg
    rcases List.mem_append.mp hg with h | h
    · exact k1 g h
    · exact k2 g h
  · intro bb v hv
    obtain ⟨v1, hv1, e1⟩ := h1.ext bb v hv
    obtain ⟨v2, hv2, e2⟩ := h2.ext bb v1 hv1
    refine ⟨v2, hv2, fun l hl => ?_⟩
    have : l ∈ b.labels := by
      unfold labels at hl ⊢; rw [g1]; simp only [List.map_append, List.mem_append]; exact Or.inl hl
    rw [e2 l this, e1 l hl]

theorem GenFrame.of_addGate {c c' : Circuit} {g : Gate} (hw : WFS c) (ok : tyOk g.ty g.ops.length = true)
    (hadd : c.addGate g = .ok c') : GenFrame c c' := by
  obtain ⟨hne, har⟩ := tyOk_iff.mp ok
  obtain ⟨hf, ho', hg, hi, ho, hb, _⟩ := addGate_fields hadd
  exact ⟨addGate_wfs hw (fun e => absurd e hne) hadd, by rw [hi]; simp [hne], hb,
    ⟨[g], hg, by intro x hx; simp at hx; subst hx; exact ⟨hne, har⟩⟩, ⟨[], by simp [ho]⟩,
    fun b v hv => IsValB.ext_appended hw.closed hg ⟨hf, ho', ok, trivial⟩ hv⟩

theorem GenFrame.mem_gates {c c' : Circuit} (h : GenFrame c c') {g : Gate} (hg : g ∈ c.gates) : g ∈ c'.gates := by
  obtain ⟨new, e, -⟩ := h.gates
  rw [e]
  exact List.mem_append_left _ hg

theorem GenFrame.mem_labels {c c' : Circuit} (h : GenFrame c c') {l : Label} (hl : l ∈ c.labels) : l ∈ c'.labels := by
  obtain ⟨g, hg, rfl⟩ := List.mem_map.mp hl
  exact mem_labels_of_mem (h.mem_gates hg)

theorem run_frame {α} (p : Prog α) : ∀ {st : GSt} {a : α} {st' : GSt}, p.run st = .ok (a, st') →
    WFS st.c → GenFrame st.c st'.c := by
  induction p with
  | pure a => intro st a' st' h hw; rw [(run_pure h).2]; exact .refl hw
  | fresh r k ih => intro st a st' h hw; obtain ⟨l, _, _, hk⟩ := run_fresh h; exact (ih l hk hw :)
  | add g ok k ih =>
    intro st a st' h hw
    obtain ⟨c', hc, hk⟩ := run_add h
    have step := GenFrame.of_addGate hw ok hc
    exact step.trans (ih hk step.wfs)
  | mark l k ih =>
    intro st a st' h hw
    obtain ⟨c', hc, hk⟩ := run_mark h
    have hw' : WFS c' := markAsOutput_wfs hw hc
    obtain ⟨hg, hi, ho, hb, _⟩ := markAsOutput_fields hc
    have step : GenFrame st.c c' :=
      ⟨hw', hi, hb, ⟨[], by simp [hg], by simp⟩, ⟨[l], ho⟩,
        fun b v hv => ⟨v, by intro x hx; exact hv x (hg ▸ hx), fun _ _ => rfl⟩⟩
    exact step.trans (ih hk hw')
  | fail e => intro st a st' h; cases h

theorem run_total {α} {p : Prog α} {st st' : GSt} {a : α} (h : p.run st = .ok (a, st')) (hw : WFS st.c)
    {b v : Label → Bool} (hv : IsValB st.c b v) :
    ∃ v', IsValB st'.c b v' ∧ (∀ l ∈ st.c.labels, v' l = v l) ∧ Sem p v' a := by
  obtain ⟨v', hv', hag⟩ := (run_frame p h hw).ext b v hv
  exact ⟨v', hv', hag, run_sound p h b v' hv'⟩

/-- `Sem` with two readings more along the same path of `p`: every label drawn satisfies `P`, the label of every gate
added satisfies `H` (for a run: `Drawn`, and "is a gate of the circuit the run leaves").  An abbreviation, so that the
rules of `Along` (`along_bind`, `along_pure`) rewrite it as it stands. -/
abbrev SemF {α : Type} (P H : Label → Prop) (p : Prog α) (v : Label → Bool) (a : α) : Prop :=
  Along P (fun g => bfun g.ty (g.ops.map v) = some (v g.label) ∧ H g.label) p a

theorem semF_sem {α : Type} {P H : Label → Prop} {p : Prog α} {v} {a : α} (h : SemF P H p v a) : Sem p v a :=
  sem_iff_along.mpr (h.mono (fun _ _ => trivial) fun _ hg => hg.1)

/-- what is known of the label `add_gate_from_tt` returned along a `SemF P H` path -/
abbrev Got (P H : Label → Prop) (l : Label) : Prop := P l ∧ H l

theorem semF_emitTT {P H : Label → Prop} {v : Label → Bool} {x y : Label} {t : TT} {l : Label}
    (h : SemF P H (emitTT x y t) v l) : Got P H l := by
  unfold emitTT at h
  split at h
  · cases h with
    | fresh l' hp hk => exact absurd hk along_fail
  · unfold emit at h
    cases h with
    | fresh l' hp hk =>
      cases hk with
      | add hg hk2 =>
        have := along_pure.mp hk2
        subst this; exact ⟨hp, hg.2⟩

theorem run_totalF {α} {p : Prog α} {st st' : GSt} {a : α} (h : p.run st = .ok (a, st')) (hw : WFS st.c)
    {b v : Label → Bool} (hv : IsValB st.c b v) :
    ∃ v', IsValB st'.c b v' ∧ (∀ l ∈ st.c.labels, v' l = v l) ∧ SemF Drawn (· ∈ st'.c.labels) p v' a := by
  obtain ⟨v', hv', hag⟩ := (run_frame p h hw).ext b v hv
  refine ⟨v', hv', hag, (run_along h).mono (fun _ hl => hl) ?_⟩
  intro g ⟨hm, hne⟩
  have := hv' g hm
  rw [if_neg hne] at this
  exact ⟨this, mem_labels_of_mem hm⟩

theorem run_semF_ext {α} {p : Prog α} : ∀ {st : GSt} {a : α} {st' : GSt}, p.run st = .ok (a, st') →
    ∀ v0 : Label → Bool, ∃ v, (∀ l ∈ st.c.labels, v l = v0 l) ∧ SemF Drawn (· ∈ st'.c.labels) p v a := by
  intro st a st' h v0
  obtain ⟨gs, h1, h2, h3⟩ := run_path h
  obtain ⟨v, hv, hg⟩ := appended_ext h3 v0
  exact ⟨v, hv, along_iff_path.mpr ⟨gs, h1, fun g hm =>
    ⟨hg g hm, mem_labels_of_mem (h2 ▸ List.mem_append_right _ hm)⟩⟩⟩

theorem revIf_revIf (l : List Label) (be : Bool) :
    revIf (revIf l be) be = l := by
  cases be <;> simp [revIf]

theorem revIf_length (l : List Label) (be : Bool) : (revIf l be).length = l.length := by
  cases be <;> simp [revIf]

theorem revIf_ne_nil {l : List Label} {b : Bool} (h : l ≠ []) : revIf l b ≠ [] :=
  fun e => h (List.eq_nil_of_length_eq_zero ((revIf_length l b).symm.trans (congrArg List.length e)))

theorem mem_revIf {l : List Label} {be : Bool} {x : Label} : x ∈ revIf l be ↔ x ∈ l := by
  cases be <;> simp [revIf]

theorem sem_revIf_bind {p : Prog (List Label)} {v : Label → Bool} {out : List Label} {be : Bool}
    (h : Sem (do let r ← p; pure (revIf r be)) v out) : Sem p v (revIf out be) := by
  simp only [sem_bind, sem_pure] at h
  obtain ⟨r, hr, rfl⟩ := h
  rwa [revIf_revIf]

/-- a program without `mark` nodes leaves the outputs alone -/
inductive NoMark {α : Type} : Prog α → Prop
  | pure (a : α) : NoMark (.pure a)
  | fresh (r k) : (∀ l, NoMark (k l)) → NoMark (.fresh r k)
  | add (g ok k) : NoMark k → NoMark (.add g ok k)
  | fail (e) : NoMark (.fail e)

theorem run_noMark {α} {p : Prog α} (hp : NoMark p) : ∀ {st : GSt} {a : α} {st' : GSt}, p.run st = .ok (a, st') →
    st'.c.outputs = st.c.outputs := by
  induction hp with
  | pure a => intro st a' st' h; rw [(run_pure h).2]
  | fresh r k _ ih => intro st a st' h; obtain ⟨l, _, _, hk⟩ := run_fresh h; exact (ih l hk :)
  | add g ok k _ ih =>
    intro st a st' h
    obtain ⟨c', hc, hk⟩ := run_add h
    rw [ih hk, (addGate_fields hc).outputs]
  | fail e => intro st a st' h; cases h

theorem noMark_bind {α β} {p : Prog α} {f : α → Prog β} (hp : NoMark p) (hf : ∀ a, NoMark (f a)) : NoMark (p >>= f) := by
  show NoMark (p.bind f)
  induction hp with
  | pure a => exact hf a
  | fresh r k _ ih => exact .fresh _ _ ih
  | add g ok k _ ih => exact .add _ _ _ ih
  | fail e => exact .fail e

theorem progFold_map {σ : Type} (g : Nat → Nat) (f : σ → Nat → Prog σ) : ∀ (l : List Nat) (s : σ),
    progFold (l.map g) s f = progFold l s (fun s i => f s (g i)) := by
  intro l
  induction l with
  | nil => intro s; rfl
  | cons x r ih => intro s; simp only [List.map_cons, progFold]; congr 1; funext s'; exact ih s'

theorem along_progFold_range' {σ : Type} {F : Label → Prop} {G : Gate → Prop} {f : σ → Nat → Prog σ} (P : Nat → σ → Prop) :
    ∀ (len a : Nat) (s out : σ), P a s →
    (∀ i s s', a ≤ i → i < a + len → P i s → Along F G (f s i) s' → P (i + 1) s') →
    Along F G (progFold (List.range' a len) s f) out → P (a + len) out := by
  intro len
  induction len with
  | zero => intro a s out h0 _ h; simp only [List.range'_zero, progFold, along_pure] at h; subst h; exact h0
  | succ len ih =>
    intro a s out h0 hstep h
    simp only [List.range'_succ, progFold, along_bind] at h
    obtain ⟨s1, h1, h2⟩ := h
    have := ih (a + 1) s1 out (hstep a s s1 (Nat.le_refl _) (by omega) h0 h1)
      (fun i s s' hi1 hi2 hp hs => hstep i s s' (by omega) (by omega) hp hs) h2
    rw [show a + (len + 1) = a + 1 + len by omega]; exact this

theorem sem_progFold_range' {σ : Type} {v : Label → Bool} {f : σ → Nat → Prog σ} (P : Nat → σ → Prop)
    (len a : Nat) (s out : σ) (h0 : P a s)
    (hstep : ∀ i s s', a ≤ i → i < a + len → P i s → Sem (f s i) v s' → P (i + 1) s')
    (h : Sem (progFold (List.range' a len) s f) v out) : P (a + len) out :=
  along_progFold_range' P len a s out h0 (fun i s s' h1 h2 hp hs => hstep i s s' h1 h2 hp (sem_iff_along.mpr hs))
    (sem_iff_along.mp h)

theorem sem_progFold_desc {σ : Type} {v : Label → Bool} {f : σ → Nat → Prog σ} (P : Nat → σ → Prop) :
    ∀ (len a : Nat) (s out : σ), P (a + len) s →
    (∀ i s s', a ≤ i → i < a + len → P (i + 1) s → Sem (f s i) v s' → P i s') →
    Sem (progFold (List.range' a len).reverse s f) v out → P a out := by
  intro len
  induction len with
  | zero => intro a s out h0 _ h; simp only [List.range'_zero, List.reverse_nil, progFold, sem_pure] at h; subst h; exact h0
  | succ len ih =>
    intro a s out h0 hstep h
    rw [List.range'_concat, List.reverse_append] at h
    simp only [List.reverse_cons, List.reverse_nil, List.nil_append, List.cons_append, Nat.one_mul, progFold, sem_bind] at h
    obtain ⟨s1, h1, h2⟩ := h
    exact ih a s1 out (hstep (a + len) s s1 (by omega) (by omega) h0 h1)
      (fun i s s' hi1 hi2 hp hs => hstep i s s' hi1 (by omega) hp hs) h2

end Cirbo
