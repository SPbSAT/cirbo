import Cirbo.Proofs.GenShape
import Cirbo.Proofs.GenMul
/-!
# The width of `add_mul` (DEFAULT): profile of the partial products and the carries' arithmetic
-/
namespace Cirbo

theorem shape_ppRow {bi : Label} : ∀ (a acc out : List Label) (k : Nat), Cost (ppRow bi a acc) out k →
    out.length = acc.length + a.length := by
  intro a
  induction a with
  | nil => intro acc out k h; simp only [ppRow] at h; obtain ⟨rfl, _⟩ := cost_pure.mp h; simp
  | cons aj r ih =>
    intro acc out k h
    simp only [ppRow, cost_bind] at h
    obtain ⟨g, k1, k2, _, hrec, _⟩ := h
    have := ih _ _ _ hrec
    simp only [List.length_append, List.length_cons, List.length_nil] at this ⊢; omega

theorem shape_ppRows {a : List Label} : ∀ (b : List Label) (acc out : List (List Label)) (k : Nat),
    Cost (ppRows a b acc) out k →
    ∃ rows, out = acc ++ rows ∧ rows.length = b.length ∧ ∀ r ∈ rows, r.length = a.length := by
  intro b
  induction b with
  | nil => intro acc out k h; simp only [ppRows] at h; obtain ⟨rfl, _⟩ := cost_pure.mp h; exact ⟨[], by simp, rfl, by simp⟩
  | cons bi r ih =>
    intro acc out k h
    simp only [ppRows, cost_bind] at h
    obtain ⟨row, k1, k2, hrow, hrec, _⟩ := h
    have hl := shape_ppRow _ _ _ _ hrow
    simp only [List.length_nil, Nat.zero_add] at hl
    obtain ⟨rows, e, hn, hall⟩ := ih _ _ _ hrec
    refine ⟨row :: rows, by rw [e]; simp, by simp [hn], ?_⟩
    intro x hx
    rcases List.mem_cons.mp hx with rfl | hx
    · exact hl
    · exact hall x hx

/-! The profile is a trapezoid: positive exactly on the levels `0 … R + C - 2`, ending in a single
bit, with steps of at most one. -/

theorem ppProf_last {R C l : Nat} (hR : 1 ≤ R) (hC : 1 ≤ C) (h : l + 2 = R + C) : ppProf R C l = 1 := by
  unfold ppProf; omega

theorem ppProf_le_succ (R C l : Nat) : ppProf R C l ≤ ppProf R C (l + 1) + 1 := by
  unfold ppProf; omega

/-- above level 1 between 1 and `ppProf (L - 1)` bits are carried in, so every level up to `R + C - 1` is output -/
theorem levelsCount_top (R C : Nat) (hR : 2 ≤ R) (hC : 2 ≤ C) :
    ∀ (d L w f : Nat), L + d = R + C - 1 → 2 ≤ L → 1 ≤ w → w ≤ ppProf R C (L - 1) → d + 2 ≤ f →
      levelsCount (ppProf R C) f L w = d + 1 := by
  intro d
  induction d with
  | zero =>
    intro L w f hL h2 h1 hle hf
    obtain ⟨f2, rfl⟩ : ∃ f2, f = f2 + 2 := ⟨f - 2, by omega⟩
    have hcL : ppProf R C L = 0 := ppProf_eq_zero (by omega)
    have hcL1 : ppProf R C (L + 1) = 0 := ppProf_eq_zero (by omega)
    have hprev : ppProf R C (L - 1) = 1 := ppProf_last (by omega) (by omega) (by omega)
    rw [levelsCount_succ, if_neg (by omega), levelsCount_succ, if_pos (by omega)]
  | succ d ih =>
    intro L w f hL h2 h1 hle hf
    obtain ⟨f1, rfl⟩ : ∃ f1, f = f1 + 1 := ⟨f - 1, by omega⟩
    have hcL : 1 ≤ ppProf R C L := ppProf_pos (by omega) (by omega) (by omega)
    have hP6 := ppProf_le_succ R C (L - 1)
    rw [Nat.sub_add_cancel (by omega)] at hP6
    rw [levelsCount_succ, if_neg (by omega), ih (L + 1) _ f1 (by omega) (by omega) (by omega)
      (by rw [Nat.add_sub_cancel]; omega) (by omega)]
    omega

theorem levelsCount_pp (R C f : Nat) (hR : 2 ≤ R) (hC : 2 ≤ C) (hf : R + C + 1 ≤ f) :
    levelsCount (ppProf R C) f 0 0 = R + C := by
  obtain ⟨f2, rfl⟩ : ∃ f2, f = f2 + 2 := ⟨f - 2, by omega⟩
  have h0 : ppProf R C 0 = 1 := by unfold ppProf; omega
  have h1 : ppProf R C (0 + 1) = 2 := by unfold ppProf; omega
  rw [levelsCount_succ, if_neg (by omega), levelsCount_succ, if_neg (by omega), h0, h1,
    levelsCount_top R C hR hC (R + C - 3) (0 + 1 + 1) 1 f2 (by omega) (by omega) (Nat.le_refl 1)
      (by rw [show 0 + 1 + 1 - 1 = 0 + 1 from rfl, h1]; omega) (by omega)]
  omega

/-- every level holds one bit, nothing is carried -/
theorem levelsCount_pp_one (R C : Nat) (h1 : R = 1 ∨ C = 1) (hR : 1 ≤ R) (hC : 1 ≤ C) :
    ∀ (d L f : Nat), L + d = R + C - 1 → d + 1 ≤ f → levelsCount (ppProf R C) f L 0 = d := by
  intro d
  induction d with
  | zero =>
    intro L f hL hf
    obtain ⟨f1, rfl⟩ : ∃ f1, f = f1 + 1 := ⟨f - 1, by omega⟩
    rw [levelsCount_succ, if_pos (by rw [ppProf_eq_zero (by omega)])]
  | succ d ih =>
    intro L f hL hf
    obtain ⟨f1, rfl⟩ : ∃ f1, f = f1 + 1 := ⟨f - 1, by omega⟩
    have : ppProf R C L = 1 := by unfold ppProf; omega
    rw [levelsCount_succ, if_neg (by omega), this, ih (L + 1) f1 (by omega) (by omega), Nat.add_comm]

theorem shape_addSumWeighted {ins r : List (Nat × Label)} {k : Nat}
    (h : Cost (addSumWeighted ins (.enum .xaig)) r k)
    (hc : NoHoles (cntL (fun (x : Nat × Label) => x.1) ins))
    (hb : levelsCount (cntL (fun (x : Nat × Label) => x.1) ins) (maxLevel ins + ins.length + 1 + 1) 0 0
            ≤ maxLevel ins + ins.length + 1) :
    r.length = levelsCount (cntL (fun (x : Nat × Label) => x.1) ins) (maxLevel ins + ins.length + 1 + 1) 0 0 := by
  unfold addSumWeighted at h
  simp only [BasisArg.resolve] at h
  split at h
  · exact absurd h cost_fail
  · obtain ⟨s1, _, _⟩ := sortBy_facts ins
    have hperm := sortBy_perm ltSingle ins
    have sh : Shape (cntL (fun (x : Nat × Label) => x.1) ins) 0 0 (sortBy ltSingle ins) [] :=
      ⟨s1, (fun _ _ => Nat.zero_le _), (fun _ hp => by cases hp),
       (by rw [cntL_perm _ hperm]; rfl), (fun k' _ => cntL_perm _ hperm k')⟩
    have := shape_weightedLoop hc _ _ _ _ _ _ _ _ _ h sh (by omega)
    simpa using this

theorem shape_addMul {a b out : List Label} {be : Bool} {k : Nat} (h : Cost (addMul a b be) out k)
    (ha : 1 ≤ a.length) (hb : 1 ≤ b.length) :
    out.length = if a.length = 1 ∨ b.length = 1 then a.length + b.length - 1 else a.length + b.length := by
  unfold addMul at h
  simp only [cost_bind, cost_pure] at h
  obtain ⟨rows0, k1, _, hrows, ⟨o, k2, _, hsum, ⟨rfl, rfl⟩, rfl⟩, rfl⟩ := h
  obtain ⟨rows, e, hR, hall⟩ := shape_ppRows _ _ _ _ hrows
  simp only [List.nil_append] at e
  rw [e] at hsum
  rw [revIf_length, List.length_map]
  rw [revIf_length] at hR hall
  have hprof : cntL (fun (x : Nat × Label) => x.1) (ppWeighted rows) = ppProf b.length a.length := by
    funext l; rw [cntL_ppWeighted hall l, hR]
  -- the top level is present, so the sentinel is far enough
  have htop : 0 < cntL (fun (x : Nat × Label) => x.1) (ppWeighted rows) (a.length + b.length - 2) := by
    rw [hprof]; exact ppProf_pos hb ha (by omega)
  obtain ⟨x, hxm, hxl⟩ := exists_mem_of_cntL_pos _ _ _ htop
  have hmax := maxLevel_ge (ppWeighted rows) x hxm
  have hlen : 0 < (ppWeighted rows).length := List.length_pos_of_mem hxm
  have hlenEq := shape_addSumWeighted hsum (by rw [hprof]; exact ppProf_no_holes _ _ hb ha)
  by_cases h1 : a.length = 1 ∨ b.length = 1
  · rw [if_pos h1]
    have hcount := levelsCount_pp_one b.length a.length h1.symm hb ha (a.length + b.length - 1) 0
      (maxLevel (ppWeighted rows) + (ppWeighted rows).length + 1 + 1) (by omega) (by omega)
    rw [hprof] at hlenEq
    rw [hlenEq (by rw [hcount]; omega), hcount]
  · rw [if_neg h1]
    have h2a : 2 ≤ a.length := by omega
    have h2b : 2 ≤ b.length := by omega
    have hcount := levelsCount_pp b.length a.length (maxLevel (ppWeighted rows) + (ppWeighted rows).length + 1 + 1)
      h2b h2a (by omega)
    rw [hprof] at hlenEq
    rw [hlenEq (by rw [hcount]; omega), hcount]; omega

end Cirbo
