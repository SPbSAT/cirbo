import Cirbo.Proofs.FuncSym
/-! # `canonicalIndex` is the big-endian value, the enumeration of all inputs is binary counting; `TruthTable`'s
index-based queries (C12) -/
namespace Cirbo
namespace FRep

theorem canonicalIndex_foldl (l : List Bool) (acc : Nat) :
    l.foldl (fun acc b => 2 * acc + (if b then 1 else 0)) acc = acc * 2 ^ l.length + canonicalIndex l := by
  unfold canonicalIndex
  induction l generalizing acc with
  | nil => simp
  | cons b r ih =>
    simp only [List.foldl_cons, List.length_cons]
    rw [ih, ih (2 * 0 + _), Nat.pow_succ, Nat.add_mul, Nat.add_mul, Nat.mul_zero, Nat.zero_mul, Nat.zero_add,
      Nat.add_assoc, Nat.mul_comm 2 acc, Nat.mul_assoc, Nat.mul_comm 2]

theorem canonicalIndex_append (a b : List Bool) :
    canonicalIndex (a ++ b) = canonicalIndex a * 2 ^ b.length + canonicalIndex b := by
  unfold canonicalIndex
  rw [List.foldl_append]
  exact canonicalIndex_foldl b _

theorem canonicalIndex_cons (b : Bool) (r : List Bool) :
    canonicalIndex (b :: r) = (if b then 1 else 0) * 2 ^ r.length + canonicalIndex r := by
  simpa [canonicalIndex] using canonicalIndex_append [b] r

theorem canonicalIndex_lt (l : List Bool) : canonicalIndex l < 2 ^ l.length := by
  induction l with
  | nil => simp [canonicalIndex]
  | cons b r ih =>
    rw [canonicalIndex_cons, List.length_cons, Nat.pow_succ]
    cases b <;> simp <;> omega

theorem canonicalIndex_replicate_false (n : Nat) : canonicalIndex (List.replicate n false) = 0 := by
  induction n with
  | zero => rfl
  | succ n ih => simp [List.replicate_succ, canonicalIndex_cons, ih]

theorem canonicalIndex_drop (s : List Bool) (size : Nat) (h : size ≤ s.length) :
    canonicalIndex (s.drop (s.length - size)) = canonicalIndex s % 2 ^ size := by
  have hl : (s.drop (s.length - size)).length = size := by rw [List.length_drop]; omega
  have hlt := canonicalIndex_lt (s.drop (s.length - size))
  have := canonicalIndex_append (s.take (s.length - size)) (s.drop (s.length - size))
  rw [List.take_append_drop, hl] at this
  rw [hl] at hlt
  rw [this, Nat.mul_comm, Nat.mul_add_mod, Nat.mod_eq_of_lt hlt]

/-- the input vector number `k` of `n` inputs: the binary digits of `k`, most significant first -/
def bitsBE (n k : Nat) : List Bool := (List.range n).map (fun i => k.testBit (n - i - 1))

theorem bitsBE_succ (n k : Nat) : bitsBE (n + 1) k = k.testBit n :: bitsBE n k := by
  simp [bitsBE, List.range_succ_eq_map, Function.comp_def]

theorem bitsBE_add_two_pow (n k : Nat) : bitsBE n (2 ^ n + k) = bitsBE n k :=
  List.map_congr_left fun i hi => Nat.testBit_two_pow_add_gt (by have := List.mem_range.mp hi; omega) k

theorem allInputs_eq : ∀ n, allInputs n = (List.range (2 ^ n)).map (bitsBE n)
  | 0 => rfl
  | n + 1 => by
    rw [allInputs, allInputs_eq n, Nat.pow_succ, Nat.mul_two, List.range_add, List.map_append,
      List.map_map, List.map_map, List.map_map]
    congr 1 <;> refine List.map_congr_left fun k hk => ?_
    · simp [bitsBE_succ, Nat.testBit_lt_two_pow (List.mem_range.mp hk)]
    · simp [bitsBE_succ, bitsBE_add_two_pow, Nat.testBit_two_pow_add_eq,
        Nat.testBit_lt_two_pow (List.mem_range.mp hk)]

theorem allInputs_length : ∀ n, (allInputs n).length = 2 ^ n := by
  intro n; simp [allInputs_eq]

theorem allInputs_get (n k : Nat) (hk : k < 2 ^ n) : (allInputs n)[k]? = some (bitsBE n k) := by
  simp [allInputs_eq, hk]

theorem bitsBE_length (n k : Nat) : (bitsBE n k).length = n := by simp [bitsBE]

theorem bitsBE_getD (n k i : Nat) (hi : i < n) : (bitsBE n k).getD i false = getBitValue k i n := by
  simp [bitsBE, getBitValue, hi]

/-- `input_to_canonical_index` is the position in the enumeration (the column `TruthTable` reads) -/
theorem bitsBE_canonicalIndex : ∀ x : List Bool, bitsBE x.length (canonicalIndex x) = x
  | [] => rfl
  | b :: r => by
    have hlt := canonicalIndex_lt r
    rw [List.length_cons, bitsBE_succ, canonicalIndex_cons]
    cases b
    · simp [Nat.testBit_lt_two_pow hlt, bitsBE_canonicalIndex r]
    · simp [Nat.testBit_two_pow_add_eq, Nat.testBit_lt_two_pow hlt, bitsBE_add_two_pow, bitsBE_canonicalIndex r]

theorem exists_index (n : Nat) (x : List Bool) (hx : x.length = n) : ∃ k, k < 2 ^ n ∧ bitsBE n k = x :=
  hx ▸ ⟨canonicalIndex x, canonicalIndex_lt x, bitsBE_canonicalIndex x⟩

theorem equalInputT_iff (F : FRep) (o i : Nat) (hi : i < F.n) (negate : Bool) :
    F.equalInputT o i negate = true ↔ ∀ x, x.length = F.n → F.evAt x o = xor negate (x.getD i false) := by
  have hrow : ∀ v k, (F.row o)[k]? = some v ↔ k < 2 ^ F.n ∧ F.evAt (bitsBE F.n k) o = v := by
    intro v k
    simp [row, allInputs_eq, List.getElem?_eq_some_iff, and_assoc]
  simp only [equalInputT, List.all_eq_true, Prod.forall, List.mem_zipIdx_iff_getElem?, hrow, beq_iff_eq]
  constructor
  · intro h x hx
    obtain ⟨k, hk, rfl⟩ := exists_index F.n x hx
    rw [h _ k ⟨hk, rfl⟩, bitsBE_getD _ _ _ hi]
  · rintro h _ k ⟨hk, rfl⟩
    rw [h _ (bitsBE_length _ _), bitsBE_getD _ _ _ hi]

end FRep
end Cirbo
