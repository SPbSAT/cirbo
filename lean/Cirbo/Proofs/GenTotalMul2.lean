import Cirbo.Proofs.GenTotalMul1
import Cirbo.Proofs.GenTotalArith
import Cirbo.Proofs.GenKara
import Cirbo.Proofs.GenDadda
/-!
# Totality of the Karatsuba and Dadda multipliers and of `add_square` (`multiplication.py`, `square.py`)

Two shape facts are obtained by a *value* argument (`Yields.shapeV`): with all operand bits 1 the product
`(2^n-1)(2^m-1) ≥ 2^(n+m-1)` needs the top bit, hence the weighted sum of `last_step_sum_with_new_powers_sum` has
`≥ 2n` result bits (`weightedRows_len`) and the top Dadda column is not empty (`daddaStages_top`).
-/
namespace Cirbo

theorem yields_padZeros (a0 : Label) : ∀ (k : Nat) (b : List Label),
    Yields (a0 :: b) (padZeros a0 k b) id (fun r => r.length = b.length + k)
  | 0, _ => .ret (by lmem) rfl
  | k + 1, b => Yields.emitTT_bind (by decide) (by lmem) (by lmem) fun z =>
    (yields_padZeros a0 k (b ++ [z])).mono (by lmem) fun r h => by
      rw [h, List.length_append, List.length_singleton]; omega

/-- contract of a base multiplier, used below the recursion threshold -/
def m2_Base (base : List Label → List Label → Prog (List Label)) : Prop :=
  ∀ (a b : List Label) (st : GSt) (P K : List Label), Inv st P → Kn st K → (∀ l ∈ a, l ∈ K) → (∀ l ∈ b, l ∈ K) →
    a.length = b.length → 1 ≤ a.length →
    Ok (base a b) st (GPost P K id (fun r => r.length = if a.length = 1 then 1 else 2 * a.length))

theorem m2_Base.yields {base} (hb : m2_Base base) {a b : List Label} (hab : a.length = b.length) (h1 : 1 ≤ a.length) :
    Yields (a ++ b) (base a b) id (fun r => r.length = if a.length = 1 then 1 else 2 * a.length) :=
  fun st P K hinv hk hI => hb a b st P K hinv hk (fun l h => hI l (List.mem_append_left _ h))
    (fun l h => hI l (List.mem_append_right _ h)) hab h1

theorem m2_Base.of_yields {base} (h : ∀ a b : List Label, a.length = b.length → 1 ≤ a.length →
    Yields (a ++ b) (base a b) id (fun r => r.length = if a.length = 1 then 1 else 2 * a.length)) : m2_Base base :=
  fun a b st P K hinv hk ha hb hab h1 => h a b hab h1 st P K hinv hk (by lmem)

/-- contract of `add_sub_two_numbers` (`yields_addSubTwoNumbers`) -/
def m2_HSub : Prop :=
  ∀ (a b : List Label) (st : GSt) (P K : List Label), Inv st P → Kn st K → (∀ l ∈ a, l ∈ K) → (∀ l ∈ b, l ∈ K) →
    a ≠ [] → b ≠ [] → Ok (addSubTwoNumbers a b false) st (GPost P K id (fun r => r.length = a.length))

def KaraIH (base : List Label → List Label → Prog (List Label)) (fuel : Nat) : Prop :=
  ∀ a b : List Label, 1 ≤ max a.length b.length → max a.length b.length < fuel →
    Yields (a ++ b) (karaCore base fuel a b) id
      (fun r => r.length = a.length + b.length - (if a.length == 1 || b.length == 1 then 1 else 0))

theorem yields_karaSub {base} (hb : m2_Base base) {fuel : Nat} (ih : KaraIH base fuel) {w : Nat} {p q : List Label}
    (lp : p.length = w) (lq : q.length = w) (h2 : 2 ≤ w) (hf : w < fuel) :
    Yields (p ++ q) (if smallSize w then base p q else karaCore base fuel p q) id (fun r => r.length = 2 * w) := by
  split
  · refine (hb.yields (lp.trans lq.symm) (by omega)).shape fun r h => ?_
    rw [h, if_neg (by omega), lp]
  · refine (ih p q (by omega) (by omega)).shape fun r h => ?_
    have e : (w == 1) = false := by simp only [beq_eq_false_iff_ne]; omega
    simp only [h, lp, lq, e, Bool.or_self, Bool.false_eq_true, if_false]
    omega

/-- `(big − (ac + bd))·2^mid + bd + ac·2^(2·mid)`, cut to `outSize` bits -/
theorem yields_karaJoin {mid outSize h : Nat} {ac bd big : List Label}
    (lac : ac.length = 2 * h) (lbd : bd.length = 2 * mid) (lbig : big.length = 2 * (h + 1)) (hmid : 1 ≤ mid)
    (hle : mid ≤ h) (hos : outSize ≤ 2 * (mid + h)) :
    Yields (ac ++ bd ++ big) (do
      let acSumBd ← addSumTwoNumbers ac bd false
      let resMid ← addSubTwoNumbers big acSumBd false
      let res ← addSumTwoNumbersWithShift mid bd resMid false
      let fin ← addSumTwoNumbersWithShift (2 * mid) res ac false
      pure (fin.take outSize)) id (fun r => r.length = outSize) := by
  refine (yields_addSumTwoNumbers false (by omega) (by omega)).bind (by lmem) fun sum lsum => ?_
  rw [lac, lbd, Nat.max_eq_left (Nat.mul_le_mul_left 2 hle)] at lsum
  refine (yields_addSubTwoNumbers false (by omega) (by omega)).bind (J := _ ++ sum) (by lmem) fun resMid lrm => ?_
  rw [lbig] at lrm
  refine (yields_addSumTwoNumbersWithShift (shift := mid) (a := bd) (b := resMid) false
    (fun _ => by omega) (fun _ => by omega)).bind (by lmem) fun res ⟨_, lres⟩ => ?_
  have lres : res.length = 2 * (h + 1) + mid + 1 := by
    rw [lres (by omega), lbd, lrm, Nat.max_eq_right (by omega)]
  clear lsum
  refine (yields_addSumTwoNumbersWithShift (shift := 2 * mid) (a := res) (b := ac) false
    (fun _ => by omega) (fun _ => by omega)).bind (by lmem) fun fin ⟨_, lfin⟩ => ?_
  refine .ret (fun l h => List.mem_append_right _ (List.mem_of_mem_take h)) ?_
  rw [List.length_take, lfin (by omega), lres, lac]; omega

/-- a fuel above the wider operand suffices: every recursive call is on operands of width `⌈n/2⌉ + 1 < n`, as `n ≥ 18`
there -/
theorem yields_karaCore {base} (hb : m2_Base base) : ∀ (fuel : Nat), KaraIH base fuel
  | fuel + 1, a, b, h1, hf => by
    have ih := yields_karaCore hb fuel
    have hos := kara_outSize_le a.length b.length
    unfold karaCore
    generalize a.length + b.length - (if a.length == 1 || b.length == 1 then 1 else 0) = outSize at hos ⊢
    -- the longer operand first; from here on only its width matters
    generalize hla : (if a.length < b.length then (b, a) else (a, b)) = lalb
    obtain ⟨la, lb⟩ := lalb
    have hsw : lb.length ≤ la.length ∧ max a.length b.length = la.length ∧ ∀ l ∈ la ++ lb, l ∈ a ++ b := by
      split at hla <;> cases hla
      · exact ⟨by omega, by omega, by lmem⟩
      · exact ⟨by omega, by omega, by lmem⟩
    obtain ⟨hle, hmax, hsub⟩ := hsw
    rw [hmax] at hos h1 hf
    clear hla hmax
    dsimp only
    refine Yields.sub ?_ hsub
    clear hsub
    refine Yields.bind (I := la ++ lb) (lab := id) (S := fun r => r.length = la.length) ?_ (fun _ => id) fun lb' hl' => ?_
    · -- `while n != len(b): b.append(XOR(a[0], a[0]))`
      split
      · rename_i he
        exact .ret (by lmem) (by simpa using he : la.length = lb.length).symm
      · rename_i hne'
        have hne' : la.length ≠ lb.length := by simpa using hne'
        split
        · exact (yields_padZeros _ _ lb).mono (by lmem) fun r h => by omega
        · exact absurd (Nat.le_zero.mp hle).symm hne'
    clear hle
    split
    · refine (hb.yields hl'.symm h1).bind (by lmem) fun r hr => ?_
      refine .ret (fun l h => List.mem_append_right _ (List.mem_of_mem_take h)) ?_
      rw [List.length_take, hr]; omega
    · rename_i hsm
      have h18 := not_small (by simpa using hsm)
      rw [if_neg (by omega)] at hos
      -- `la` splits into `mid` low and `h` high bits, `mid ≤ h ≤ mid + 1`; all widths below are linear in these two
      generalize hmid : la.length / 2 = mid
      obtain ⟨h, hn, hm1, hm2, hff, hd⟩ : ∃ h, la.length = mid + h ∧ mid ≤ h ∧ 2 ≤ mid ∧ h + 1 < fuel ∧
          la.length - mid = h := ⟨la.length - mid, by omega⟩
      rw [hd]
      rw [hn] at hos hl'
      clear hsm h18 hmid hf h1 hd
      have la1 : (la.drop mid).length = h := by rw [List.length_drop, hn, Nat.add_sub_cancel_left]
      have la0 : (la.take mid).length = mid := by rw [List.length_take, hn]; exact Nat.min_eq_left (Nat.le_add_right _ _)
      have lb1 : (lb'.drop mid).length = h := by rw [List.length_drop, hl', Nat.add_sub_cancel_left]
      have lb0 : (lb'.take mid).length = mid := by rw [List.length_take, hl']; exact Nat.min_eq_left (Nat.le_add_right _ _)
      clear hn hl'
      have d1 : ∀ l ∈ la.drop mid, l ∈ la := fun _ => List.mem_of_mem_drop
      have d0 : ∀ l ∈ la.take mid, l ∈ la := fun _ => List.mem_of_mem_take
      have e1 : ∀ l ∈ lb'.drop mid, l ∈ lb' := fun _ => List.mem_of_mem_drop
      have e0 : ∀ l ∈ lb'.take mid, l ∈ lb' := fun _ => List.mem_of_mem_take
      refine (yields_karaSub hb ih la1 lb1 (by omega) (by omega)).bind (by lmem) fun ac lac => ?_
      refine (yields_karaSub hb ih la0 lb0 hm2 (by omega)).bind (by lmem) fun bd lbd => ?_
      refine (yields_addSumTwoNumbers false (by omega) (by omega)).bind (by lmem) fun aSumB lsa => ?_
      refine (yields_addSumTwoNumbers false (by omega) (by omega)).bind (by lmem) fun cSumD lsc => ?_
      rw [la1, la0, Nat.max_eq_left hm1] at lsa
      rw [lb1, lb0, Nat.max_eq_left hm1] at lsc
      refine (yields_karaSub hb ih rfl (lsc.trans lsa.symm) (lsa ▸ Nat.le_succ_of_le (Nat.le_trans hm2 hm1))
        (lsa ▸ hff)).bind (by lmem) fun big lbig => ?_
      rw [lsa] at lbig
      exact (yields_karaJoin lac lbd lbig (by omega) hm1 hos).sub (by lmem)

theorem ones_prod_ge {n m : Nat} (hn : 2 ≤ n) (hm : 2 ≤ m) : 2 ^ (n + m - 1) + (2 ^ n - 1) ≤ (2 ^ n - 1) * 2 ^ m := by
  obtain ⟨n', rfl⟩ : ∃ n', n = n' + 1 := ⟨n - 1, by omega⟩
  have hA : 2 ^ 1 ≤ 2 ^ n' := Nat.pow_le_pow_right (by omega) (by omega)
  have hB : 2 ^ 2 ≤ 2 ^ m := Nat.pow_le_pow_right (by omega) hm
  rw [show n' + 1 + m - 1 = n' + m by omega, Nat.pow_add, Nat.pow_succ, Nat.sub_mul, Nat.one_mul, Nat.mul_right_comm]
  generalize 2 ^ n' = A at *
  generalize 2 ^ m = B at *
  -- with `x = A·B`: `2·B ≤ x` and `4·A ≤ x` give `x + 2·A - 1 ≤ 2·x - B`
  have h1 : 2 ^ 1 * B ≤ A * B := Nat.mul_le_mul_right B hA
  have h2 : A * 2 ^ 2 ≤ A * B := Nat.mul_le_mul_left A hB
  omega

/-- the product of two all-ones numbers of `n` and `m` bits, reduced modulo `2^(n+m)`, still has the top bit -/
theorem onesProduct_top_bit {n m x y r K : Nat} (hn : 2 ≤ n) (hm : 2 ≤ m) (hx : x + 1 = 2 ^ n) (hy : y + 1 = 2 ^ m)
    (hlt : x * y < 2 ^ (n + m)) (hr : x * y = r + 2 ^ (n + m) * K) : 2 ^ (n + m - 1) ≤ r := by
  have hprod := ones_prod_ge hn hm
  have hmul : x * (y + 1) = x * y + x := Nat.mul_succ _ _
  rw [hy] at hmul
  rw [show 2 ^ n - 1 = x by omega, hmul] at hprod
  cases K with
  | zero => omega
  | succ K =>
    have : 2 ^ (n + m) ≤ 2 ^ (n + m) * (K + 1) := Nat.le_mul_of_pos_right _ (by omega)
    omega

/-- the levels of the weighted sum are `0, 1, …` without gaps, and under the valuation "every operand bit is 1" its value
`(2^n-1)^2` needs `2n` bits -/
theorem weightedRows_len {rows : List (List Label)} {res : List (Nat × Label)} {n : Nat} {v : Label → Bool} (hn : 2 ≤ n)
    (hlen : rows.length = n) (hrows : ∀ r ∈ rows, r.length = n) (hv : ∀ l ∈ rows.flatten, v l = true)
    (hw : Sem (addSumWeighted (ppWeighted rows) (.enum .xaig)) v res) : n + n ≤ res.length := by
  have hlt := valLE_lt v (res.map (·.2))
  rw [sem_weightedRows (by omega) hrows hw, List.length_map] at hlt
  have hval := rowsVal_true v n rows (fun r hr => ⟨hrows r hr, fun l hl => hv l (List.mem_flatten.mpr ⟨r, hr, hl⟩)⟩)
  rw [hlen] at hval
  have hprod := ones_prod_ge hn hn
  rcases Nat.lt_or_ge res.length (n + n) with hlt2 | hge
  · exfalso
    have : 2 ^ res.length ≤ 2 ^ (n + n - 1) := Nat.pow_le_pow_right (by omega) (by omega)
    omega
  · exact hge

/-- a one-bit operand, or equal widths `≥ 2`: for different widths `≥ 2` the code raises `IndexError` (it indexes the
`m × n` matrix as `n × m`) -/
theorem yields_lastStepCore {a0 b0 : List Label}
    (hsh : a0.length = 1 ∨ b0.length = 1 ∨ (a0.length = b0.length ∧ 2 ≤ a0.length)) :
    Yields (a0 ++ b0) (lastStepCore a0 b0) id (fun r => r.length =
      if a0.length = 1 then b0.length else if b0.length = 1 then a0.length else a0.length + b0.length) := by
  unfold lastStepCore
  refine yields_ppShort fun hn1 hm1 rows h1 h2 => ?_
  have hab : a0.length = b0.length ∧ 2 ≤ a0.length := (hsh.resolve_left hn1).resolve_left hm1
  have hne : (a0.length != b0.length) = false := by simp [hab.1]
  simp only [hne, Bool.false_eq_true, if_false]
  have hw : Yields rows.flatten (addSumWeighted (ppWeighted rows) (.enum .xaig)) (fun r => r.map (·.2))
      (fun res => a0.length + a0.length ≤ res.length) :=
    Yields.shapeV (S := fun _ => True) ((yields_addSumWeighted (b := .xaig) rfl
      (ppWeighted_ne (by omega) (fun r hr => by rw [h2 r hr]; omega))).sub fun l hl =>
        let ⟨_, hx, e⟩ := List.mem_map.mp hl; e ▸ mem_ppWeighted hx)
      fun res _ hv => let ⟨_, hv, hw⟩ := hv fun _ => true; weightedRows_len hab.2 (by rw [h1, hab.1]) h2 hv hw
  refine hw.bind (fun _ => id) fun res hlen => ?_
  rw [if_neg (by omega)]
  refine .ret (fun l h => ?_) (by rw [List.length_map, List.length_take]; omega)
  obtain ⟨x, hx, rfl⟩ := List.mem_map.mp h
  exact List.mem_append_right _ (List.mem_map.mpr ⟨x, List.mem_of_mem_take hx, rfl⟩)

theorem karaBase_len {n m len : Nat} (hab : n = m)
    (h : len = if n = 1 then m else if m = 1 then n else n + m) : len = if n = 1 then 1 else 2 * n := by
  subst hab
  rw [h]
  split
  · assumption
  · rw [Nat.two_mul]

theorem karaBase_lastStep : m2_Base lastStepCore := .of_yields fun _ _ hab _ =>
  (yields_lastStepCore (by omega)).shape fun _ h => karaBase_len hab h

theorem karaBase_mulPow2M1 : m2_Base mulPow2M1Core := .of_yields fun _ _ hab h1 =>
  (yields_mulPow2M1Core h1 (hab ▸ h1)).shape fun _ h => karaBase_len hab h

/-- `add_mul_karatsuba` (`base = add_mul_pow2_m1`) and `add_mul_karatsuba_with_efficient_sum`
(`base = last_step_sum_with_new_powers_sum`); an empty operand is padded with constant-false bits -/
theorem yields_karaTop {base} (hb : m2_Base base) {a b : List Label} (be : Bool) (h1 : 1 ≤ max a.length b.length) :
    Yields (a ++ b) (do let r ← karaCore base (a.length + b.length + 2) (revIf a be) (revIf b be); pure (revIf r be)) id
      (fun r => r.length = a.length + b.length - (if a.length == 1 || b.length == 1 then 1 else 0)) := by
  refine (yields_karaCore hb _ (revIf a be) (revIf b be) (by rw [revIf_length, revIf_length]; exact h1)
    (by rw [revIf_length, revIf_length]; omega)).bind (by lmem [mem_revIf]) fun r hr => .ret (by lmem [mem_revIf]) ?_
  rw [revIf_length, hr, revIf_length, revIf_length]

def m2_Keeps (c r : List (List Label)) : Prop := r.length = c.length ∧ ∀ k, c.getD k [] ≠ [] → r.getD k [] ≠ []

theorem m2_Keeps.refl (c : List (List Label)) : m2_Keeps c c := ⟨rfl, fun _ h => h⟩
theorem m2_Keeps.trans {a b c : List (List Label)} (h1 : m2_Keeps a b) (h2 : m2_Keeps b c) : m2_Keeps a c :=
  ⟨h2.1.trans h1.1, fun k h => h2.2 k (h1.2 k h)⟩

/-- `c[i] = new`, and the carry `g2` appended to column `i + 1` when there is one -/
theorem daddaStep_shape (c : List (List Label)) (i width : Nat) (hi : i < c.length) (new : List Label) (g2 : Label)
    (hne : new ≠ []) {c' : List (List Label)}
    (hc' : c' = if i + 1 < width then colAppend (c.set i new) (i + 1) g2 else c.set i new) :
    m2_Keeps c c' ∧ ∀ l ∈ c'.flatten, l ∈ c.flatten ∨ l ∈ new ∨ l = g2 := by
  have hget : ∀ k, c'.getD k [] =
      (if k = i then new else c.getD k []) ++ (if i + 1 < width ∧ k = i + 1 ∧ i + 1 < c.length then [g2] else []) := by
    intro k
    rw [hc']
    by_cases hw : i + 1 < width
    · simp only [hw, if_true, true_and]
      rw [colAppend_getD, List.length_set, List.getD_set]
      simp only [hi, and_true]
      by_cases h : k = i + 1 ∧ i + 1 < c.length
      · rw [if_pos h, if_pos h]
      · rw [if_neg h, if_neg h]; simp
    · simp only [hw, if_false, false_and, List.append_nil]
      rw [List.getD_set]; simp only [hi, and_true]
  refine ⟨⟨?_, ?_⟩, ?_⟩
  · rw [hc']
    split
    · rw [colAppend_length, List.length_set]
    · rw [List.length_set]
  · intro k hk
    rw [hget k]
    by_cases h : k = i
    · rw [if_pos h]; intro e; exact hne (List.append_eq_nil_iff.mp e).1
    · rw [if_neg h]; intro e; exact hk (List.append_eq_nil_iff.mp e).1
  · intro l hl
    obtain ⟨k, hk⟩ := List.mem_flatten_getD.mp hl
    rw [hget k] at hk
    rcases List.mem_append.mp hk with h | h
    · by_cases e : k = i
      · rw [if_pos e] at h; exact Or.inr (Or.inl h)
      · rw [if_neg e] at h; exact Or.inl (List.mem_flatten_getD.mpr ⟨k, h⟩)
    · split at h
      · simp only [List.mem_singleton] at h; exact Or.inr (Or.inr h)
      · cases h

/-- `while len(c[i]) >= di`: for `di ≥ 2` the popped bits exist (two for `len = di`, three for `len > di`).  The model stops
silently when the fuel is used up: any fuel; that the caller's fuel brings the column below `di` is `sem_daddaColumn`. -/
theorem yields_daddaColumn {di i width : Nat} (hdi : 2 ≤ di) : ∀ (fuel : Nat) (c : List (List Label)), i < c.length →
    Yields c.flatten (daddaColumn di i width fuel c) (fun r => r.flatten) (m2_Keeps c)
  | 0, c, _ => .ret (fun _ => id) (m2_Keeps.refl c)
  | fuel + 1, c, hi => by
    -- the loop goes on with the counter's sum bit `g1` in column `i` and its carry `g2` in column `i + 1`
    have hnext : ∀ {x : Label} {pre rest r : List Label}, c.getD i [] = x :: pre ++ rest → r.length = 2 →
        Yields (c.flatten ++ r) (pair2 r >>= fun (g : Label × Label) => daddaColumn di i width fuel
          (if i + 1 < width then colAppend (c.set i (rest ++ [g.1])) (i + 1) g.2 else c.set i (rest ++ [g.1])))
          (fun r => r.flatten) (m2_Keeps c) := by
      intro x pre rest r hcl hr
      refine .pair2_bind hr ?_
      rintro g1 g2 rfl
      obtain ⟨q1, q3⟩ := daddaStep_shape c i width hi (rest ++ [g1]) g2 (by simp) rfl
      refine (yields_daddaColumn hdi fuel _ (by rw [q1.1]; exact hi)).mono (fun l hl => ?_) fun out h2 => m2_Keeps.trans q1 h2
      rcases q3 l hl with h | h | h
      · exact List.mem_append_left _ h
      · rcases List.mem_append.mp h with h | h
        · exact List.mem_append_left _ (List.mem_flatten_getD.mpr ⟨i, by rw [hcl]; simp [h]⟩)
        · rw [List.mem_singleton.mp h]; simp
      · rw [h]; simp
    have hcol : ∀ l ∈ c.getD i [], l ∈ c.flatten := fun l hl => List.mem_flatten_getD.mpr ⟨i, hl⟩
    unfold daddaColumn
    dsimp only
    split
    · rename_i hge
      split
      · rename_i heq
        match hcl : c.getD i [], hge, heq with
        | [], hge, heq | [_], hge, heq => simp only [List.length_nil, List.length_cons, beq_iff_eq] at hge heq; omega
        | x :: y :: rest, _, _ =>
          rw [hcl] at hcol
          exact (yields_addSum2 x y).bind (by lmem) fun r hr => hnext (pre := [y]) hcl hr
      · rename_i heq
        match hcl : c.getD i [], hge, heq with
        | [], hge, heq | [_], hge, heq | [_, _], hge, heq =>
          simp only [List.length_nil, List.length_cons, beq_iff_eq] at hge heq; omega
        | x :: y :: z :: rest, _, _ =>
          rw [hcl] at hcol
          exact (yields_addSum3 x y z).bind (by lmem) fun r hr => hnext (pre := [y, z]) hcl hr
    · exact .ret (fun _ => id) (m2_Keeps.refl c)

/-- the invariant rule for `progFold` on column matrices (`ok_progFold_rest` at `σ = List (List Label)`) -/
def m2_HProgFold : Prop :=
  ∀ (f : List (List Label) → Nat → Prog (List (List Label))) (J : List Nat → List (List Label) → GSt → Prop)
    (xs : List Nat) (s : List (List Label)) (st : GSt),
    (∀ i r s st, (∃ pre, pre ++ i :: r = xs) → J (i :: r) s st → Ok (f s i) st (J r)) → J xs s st →
    Ok (progFold xs s f) st (J [])

/-- `for i in range(1, n + m)` -/
theorem yields_daddaStage {di width : Nat} (hdi : 2 ≤ di) {c : List (List Label)} (hw : c.length = width) :
    Yields c.flatten (daddaStage di width c) (fun r => r.flatten) (m2_Keeps c) := by
  unfold daddaStage
  refine Yields.sub (I := [] ++ c.flatten)
    (Yields.progFold (fun r => r.flatten) (m2_Keeps c) _ (fun i hi cc h1 => ?_) c (m2_Keeps.refl c)) (by lmem)
  have hi := (List.mem_range.mp (List.mem_of_mem_drop hi))
  exact (yields_daddaColumn hdi _ cc (by rw [h1.1, hw]; exact hi)).mono (by lmem) fun _ h2 => m2_Keeps.trans h1 h2

theorem daddaStart_le : ∀ (fuel di k B : Nat), di ≤ B → k ≤ B → daddaStart fuel di k ≤ B := by
  intro fuel
  induction fuel with
  | zero => intro di k B h _; simpa [daddaStart] using h
  | succ fuel ih =>
    intro di k B h hk
    unfold daddaStart
    split
    · exact ih _ _ _ (by omega) hk
    · exact h

/-- `while di != 1`: the thresholds decrease strictly (`di → (2 di + 2) / 3 < di` for `di ≥ 3`, `2 → 1`), so a fuel `≥ di`
is never exhausted -/
theorem yields_daddaStages {width : Nat} : ∀ (fuel di : Nat) (c : List (List Label)), c.length = width → 1 ≤ di → di ≤ fuel →
    Yields c.flatten (daddaStages width fuel di c) (fun r => r.flatten) (m2_Keeps c)
  | 0, _, _, _, h1, hf => by omega
  | fuel + 1, di, c, hw, h1, hf => by
    unfold daddaStages
    split
    · exact .ret (fun _ => id) (m2_Keeps.refl c)
    · rename_i hd1
      have hd2 : 2 ≤ di := by
        have : di ≠ 1 := by simpa using hd1
        omega
      refine (yields_daddaStage hd2 hw).bind (fun _ => id) fun c1 h1' => ?_
      refine (yields_daddaStages fuel _ c1 (h1'.1.trans hw) ?_ ?_).mono (by lmem) fun _ h2 => m2_Keeps.trans h1' h2
      · split <;> omega
      · split
        · omega
        · rename_i h2
          have : di ≠ 2 := by simpa using h2
          omega

theorem mem_colAppend {c : List (List Label)} {i : Nat} {x l : Label} (h : l ∈ (colAppend c i x).flatten) :
    l ∈ c.flatten ∨ l = x := by
  obtain ⟨k, hk⟩ := List.mem_flatten_getD.mp h
  rw [colAppend_getD] at hk
  split at hk
  · rcases List.mem_append.mp hk with h | h
    · exact Or.inl (List.mem_flatten_getD.mpr ⟨k, h⟩)
    · simp only [List.mem_singleton] at h; exact Or.inr h
  · exact Or.inl (List.mem_flatten_getD.mpr ⟨k, hk⟩)

/-- `c[i + j].append(AND(a[j], b[i]))` -/
theorem yields_ppColumns {a : List Label} {I : List Label} (ha : ∀ l ∈ a, l ∈ I) :
    ∀ (bz : List (Label × Nat)) (c : List (List Label)), (∀ x ∈ bz, x.1 ∈ I) →
    YieldsL (I ++ c.flatten) (ppColumns a bz c) (fun r => r.flatten)
  | [], _, _ => .ret (by lmem) trivial
  | (bi, i) :: r, c, hbz => by
    unfold ppColumns
    refine (Yields.foldl (fun cc (aj : Label × Nat) => do
        let g ← emitTT aj.1 bi t0001
        pure (colAppend cc (i + aj.2) g)) (fun r => r.flatten) (fun _ => True) a.zipIdx (fun x hx cc _ => ?_) c trivial).bind
      (fun _ => id) fun c1 _ => (yields_ppColumns ha r c1 fun x hx => hbz x (by simp [hx])).sub (by lmem)
    refine (Yields.emitTT (by decide) (List.mem_append_left _ (ha _ (List.mem_of_getElem?
      (List.mem_zipIdx_iff_getElem?.mp hx)))) (List.mem_append_left _ (hbz (bi, i) (by simp)))).bind (fun _ => id)
      fun g _ => .ret (fun l hl => ?_) trivial
    rcases mem_colAppend hl with h | h
    · exact List.mem_append_left _ (List.mem_append_right _ h)
    · rw [h]; simp

/-- the stages keep the value of the matrix modulo `2^(n+m)` and leave at most one bit per column; with every operand bit
1 the value `(2^n-1)(2^m-1) ≥ 2^(n+m-1)` does not fit below the top column -/
theorem daddaStages_top {A B : List Label} {v : Label → Bool} (hn : 2 ≤ A.length) (hm : 2 ≤ B.length)
    (hvA : ∀ l ∈ A, v l = true) (hvB : ∀ l ∈ B, v l = true) {fuel di : Nat} (hdi : 2 ≤ di) {c' : List (List Label)}
    (hsem : Sem (ppColumns A B.zipIdx (List.replicate (A.length + B.length) []) >>=
      fun c => daddaStages (A.length + B.length) fuel di c) v c') :
    c'.getD (A.length + B.length - 1) [] ≠ [] := by
  rw [sem_bind] at hsem
  obtain ⟨c, hc, hst⟩ := hsem
  obtain ⟨l2, hs1, k2⟩ := sem_daddaReduced (by omega) hc hst
  have hsingle : ∀ col ∈ c', col.length ≤ 1 := by
    intro col hcol
    obtain ⟨k, hk, e⟩ := List.exists_getD_of_mem hcol
    rw [← e]; exact hs1 k
  intro hempty
  have hne : c' ≠ [] := by intro e; rw [e] at l2; simp at l2; omega
  have hb := colsVal_bound_last v c' hsingle hne (by rw [l2]; exact hempty)
  rw [l2] at hb
  rw [Nat.mod_eq_of_lt (Nat.lt_of_lt_of_le hb (Nat.pow_le_pow_right (by omega) (Nat.sub_le _ _)))] at k2
  have := onesProduct_top_bit hn hm (valLE_true v A hvA) (valLE_true v B hvB) (valLE_mul_lt v A B) (K := 0)
    k2.symm
  omega

/-- the fuel `n + m + 4` of the stage loop suffices (the starting threshold is below it: `daddaStart_le`), and every column of the final matrix is
non-empty (`c[i].popleft()`): those below the top one start non-empty (`sem_daddaInit`) and stay so -/
theorem yields_addMulDadda {a b : List Label} (be : Bool) (hn : 1 ≤ a.length) (hm : 1 ≤ b.length) :
    Yields (a ++ b) (addMulDadda a b be) id (fun r => r.length =
      if (a.length == 1 || b.length == 1) then a.length + b.length - 1 else a.length + b.length) := by
  unfold addMulDadda
  dsimp only
  have hA : ∀ l ∈ revIf a be, l ∈ a := by lmem [mem_revIf]
  have hB : ∀ l ∈ revIf b be, l ∈ b := by lmem [mem_revIf]
  rw [← revIf_length a be] at hn
  rw [← revIf_length b be] at hm
  rw [← revIf_length a be, ← revIf_length b be]
  generalize revIf a be = A at *
  generalize revIf b be = B at *
  have hPP : Yields (A ++ B) (ppColumns A B.zipIdx (List.replicate (A.length + B.length) [])) (fun r => r.flatten)
      (fun c => c.length = A.length + B.length ∧ ∀ k, k + 1 < A.length + B.length → c.getD k [] ≠ []) := by
    refine ((yields_ppColumns (I := A ++ B) (by lmem) B.zipIdx _ fun x hx => List.mem_append_right _
      (List.mem_of_getElem? (List.mem_zipIdx_iff_getElem?.mp hx))).sub (by simp)).shapeR fun c _ hr => ?_
    obtain ⟨_, s⟩ := hr.sem
    obtain ⟨cl, _, ch⟩ := sem_daddaInit s
    exact ⟨cl, fun k hk e => by have := ch k; rw [e, List.length_nil, ppProf] at this; omega⟩
  have hret : ∀ {c : List (List Label)}, (∀ col ∈ c, col ≠ []) →
      Yields c.flatten (heads c >>= fun h => pure (revIf h be)) id (fun r => r.length = c.length) := fun hne =>
    (yields_heads hne).bind (fun _ => id) fun h hl => .ret (by lmem [mem_revIf]) (by rw [revIf_length, hl])
  split
  · refine (hPP.sub (by lmem)).bind (fun _ => id) fun c ⟨cl, cne⟩ => ?_
    refine (hret fun col hcol => ?_).mono (fun l h => List.mem_append_right _ (List.mem_flatten.mpr
      ((List.mem_flatten.mp h).imp fun col hc => ⟨List.mem_of_mem_take hc.1, hc.2⟩))) fun r h => by
        rw [h, List.length_take, cl]; omega
    obtain ⟨k, hk, e⟩ := List.exists_getD_of_mem hcol
    rw [List.length_take] at hk
    rw [List.getD_take_lt c _ k (by omega)] at e
    rw [← e]; exact cne k (by omega)
  · rename_i hsp
    have hn2 : 2 ≤ A.length ∧ 2 ≤ B.length := by
      simp only [Bool.or_eq_true, beq_iff_eq, not_or] at hsp; omega
    have hdi2 := daddaStart_ge 2 (min A.length B.length) (A.length + B.length) 2 (Nat.le_refl 2)
    have hdiB := daddaStart_le (A.length + B.length) 2 (min A.length B.length) (A.length + B.length + 4)
      (by omega) (by omega)
    generalize daddaStart (A.length + B.length) 2 (min A.length B.length) = di at hdi2 hdiB ⊢
    have hcomp : Yields (A ++ B) (ppColumns A B.zipIdx (List.replicate (A.length + B.length) []) >>=
        fun c => daddaStages (A.length + B.length) (A.length + B.length + 4) di c) (fun r => r.flatten)
        (fun c' => c'.length = A.length + B.length ∧ ∀ col ∈ c', col ≠ []) := by
      refine Yields.shapeV (S := fun c' => c'.length = A.length + B.length ∧
          ∀ k, k + 1 < A.length + B.length → c'.getD k [] ≠ [])
        (hPP.bind (fun _ => id) fun c ⟨cl, cne⟩ => (yields_daddaStages _ di c cl (by omega) hdiB).mono (by lmem)
          fun c' h2 => ⟨h2.1.trans cl, fun k hk => h2.2 k (cne k hk)⟩) fun c' ⟨cl, cne⟩ hv => ⟨cl, fun col hcol => ?_⟩
      obtain ⟨v, hv, hsem⟩ := hv fun _ => true
      obtain ⟨k, hk', e⟩ := List.exists_getD_of_mem hcol
      rw [← e]
      by_cases hk2 : k + 1 < A.length + B.length
      · exact cne k hk2
      · rw [show k = A.length + B.length - 1 by omega]
        exact daddaStages_top hn2.1 hn2.2 (fun l hl => hv l (List.mem_append_left _ hl))
          (fun l hl => hv l (List.mem_append_right _ hl)) hdi2 hsem
    exact (hcomp.bind (by lmem) fun c' ⟨cl, cne⟩ => ((hret cne).sub (by lmem)).shape fun r h => h.trans cl).assoc

/-! The contracts in the language of `Ok`.  Three of them carry `m2_HSub`, `m2_HProgFold`, which their proofs do not use;
`m2_hSub`, `m2_hProgFold` show that both hold. -/

theorem m2_ok_headsK {c : List (List Label)} {st : GSt} {P K : List Label} (hinv : Inv st P) (hk : Kn st K)
    (hc : ∀ l ∈ c.flatten, l ∈ K) (hne : ∀ col ∈ c, col ≠ []) :
    Ok (heads c) st (GPost P K id (fun r => r.length = c.length)) :=
  yields_heads hne st P K hinv hk hc

theorem m2_ok_karaCore' {base} (hb : m2_Base base) (hsub : m2_HSub) {fuel : Nat} {a b : List Label} {st : GSt}
    {P K : List Label} (hinv : Inv st P) (hk : Kn st K) (ha : ∀ l ∈ a, l ∈ K) (hbK : ∀ l ∈ b, l ∈ K)
    (h1 : 1 ≤ max a.length b.length) (hf : max a.length b.length < fuel) :
    Ok (karaCore base fuel a b) st (GPost P K id (fun r => r.length =
      a.length + b.length - (if a.length == 1 || b.length == 1 then 1 else 0))) :=
  yields_karaCore hb fuel a b h1 hf st P K hinv hk (by lmem)

/-- with the fuel its caller passes (`len(c[i]) + 1`) the column loop ends because `len(c[i]) < di` -/
theorem m2_ok_daddaColumn_done {di i width : Nat} (hdi : 2 ≤ di) {fuel : Nat} {c : List (List Label)} {st : GSt}
    {P K : List Label} (hinv : Inv st P) (hk : Kn st K) (hc : ∀ l ∈ c.flatten, l ∈ K) (hi : i < c.length)
    (hw : c.length = width) :
    Ok (daddaColumn di i width fuel c) st (GPost P K (fun r => r.flatten)
      (fun r => m2_Keeps c r ∧ ((c.getD i []).length < fuel → (r.getD i []).length < di))) :=
  ((yields_daddaColumn hdi fuel c hi).shapeR fun r h hr =>
    let ⟨_, s⟩ := hr.sem; ⟨h, (sem_daddaColumn fuel c r s hi hw).2.2.2⟩) st P K hinv hk hc

theorem m2_ok_daddaStage_done (hpf : m2_HProgFold) {di width : Nat} (hdi : 2 ≤ di) {c : List (List Label)} {st : GSt}
    {P K : List Label} (hinv : Inv st P) (hk : Kn st K) (hc : ∀ l ∈ c.flatten, l ∈ K) (hw : c.length = width) :
    Ok (daddaStage di width c) st (GPost P K (fun r => r.flatten)
      (fun r => m2_Keeps c r ∧ ∀ k, 1 ≤ k → k < width → (r.getD k []).length < di)) :=
  ((yields_daddaStage hdi hw).shapeR fun r h hr =>
    let ⟨_, s⟩ := hr.sem; ⟨h, (sem_daddaStage s hw).2.2.2⟩) st P K hinv hk hc

theorem m2_ok_daddaStages_done (hpf : m2_HProgFold) {width fuel di : Nat} {c : List (List Label)} {st : GSt}
    {P K : List Label} (hinv : Inv st P) (hk : Kn st K) (hc : ∀ l ∈ c.flatten, l ∈ K) (hw : c.length = width)
    (h2 : 2 ≤ di) (hf : di ≤ fuel) :
    Ok (daddaStages width fuel di c) st (GPost P K (fun r => r.flatten)
      (fun r => m2_Keeps c r ∧ ∀ k, 1 ≤ k → k < width → (r.getD k []).length < 2)) :=
  ((yields_daddaStages fuel di c hw (by omega) hf).shapeR fun r h hr =>
    let ⟨_, s⟩ := hr.sem; ⟨h, (sem_daddaStages fuel di c r s hw (by omega) (fun e => by omega)).2.2.2⟩) st P K hinv hk hc

theorem m2_hSub : m2_HSub := fun _ _ st P K hinv hk ha hb hna hnb =>
  yields_addSubTwoNumbers false (List.length_pos_iff.mpr hna) (List.length_pos_iff.mpr hnb) st P K hinv hk (by lmem)
theorem m2_hProgFold : m2_HProgFold := fun f J => ok_progFold_rest (f := f) J

/-- `fuel > width` is enough: every half is shorter -/
theorem yields_squareCore : ∀ (fuel : Nat) (x : List Label), 1 ≤ x.length → x.length < fuel →
    Yields x (squareCore fuel x) id (fun r => 1 ≤ r.length)
  | f + 1, x, hpos, hf => by
    unfold squareCore
    dsimp only
    split
    · refine (yields_squarePow2M1Core hpos).shape fun r h1 => ?_
      rw [h1]; split <;> omega
    · rename_i hc
      have hn : 48 ≤ x.length := by
        simp only [Bool.or_eq_true, decide_eq_true_eq, beq_iff_eq, not_or] at hc
        omega
      generalize hmid : x.length / 2 = mid at *
      have hat : ∀ l ∈ x.take mid, l ∈ x := fun l => List.mem_of_mem_take
      have hbt : ∀ l ∈ x.drop mid, l ∈ x := fun l => List.mem_of_mem_drop
      have hal : (x.take mid).length = mid := by rw [List.length_take]; omega
      have hbl : (x.drop mid).length = x.length - mid := List.length_drop
      refine (yields_squareCore f _ (by omega) (by omega)).bind hat fun aa haa => ?_
      refine (yields_squareCore f _ (by omega) (by omega)).bind (by lmem) fun bb hbb => ?_
      refine (yields_karaTop karaBase_mulPow2M1 (a := x.take mid) (b := x.drop mid) false (by omega)).bind (by lmem)
        fun ab hab => ?_
      have habne : 1 ≤ ab.length := by rw [hab]; split <;> omega
      refine (yields_addSumTwoNumbersWithShift (shift := mid + 1) (a := aa) (b := ab) false (fun _ => haa)
        (fun _ => habne)).bind (by lmem) fun res ⟨c1, c2⟩ => ?_
      refine (yields_addSumTwoNumbersWithShift (shift := 2 * mid) (a := res) (b := bb) false
        (fun _ => withShift_pos habne c1 c2) (fun _ => hbb)).bind (by lmem) fun fin ⟨d1, d2⟩ => ?_
      refine .ret (fun l h => List.mem_append_right _ (List.mem_of_mem_take h)) ?_
      have := withShift_pos hbb d1 d2
      rw [List.length_take]; omega

theorem yields_addSquare {x : List Label} (be : Bool) (hne : 1 ≤ x.length) :
    Yields x (addSquare x be) id (fun r => 1 ≤ r.length) := by
  unfold addSquare
  exact (yields_squareCore (x.length + 1) (revIf x be) ((revIf_length x be).symm ▸ hne) (by rw [revIf_length]; omega)).bind
    (by lmem [mem_revIf]) fun r h1 => .ret (by lmem [mem_revIf]) ((revIf_length r be).symm ▸ h1)

end Cirbo
