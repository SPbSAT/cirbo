import Cirbo.Proofs.ConeTable
import Cirbo.Proofs.FuncIdx
import Cirbo.Proofs.SynthCircuit
/-!
# C04: the assignment strings `_eval_dont_cares` stores, and the circuit exact synthesis returns for a table
-/
namespace Cirbo
namespace Cone
open GateType V3

theorem msbBits_eq (n r : Nat) : msbBits n r = FRep.bitsBE n r :=
  List.map_congr_left fun k _ => by rw [Nat.sub_right_comm]

/-- `itertools.product('01', repeat=n)` in order is the enumeration `allInputs n` of the truth tables -/
theorem inputsTT_eq (n : Nat) (occ : List (List Bool)) :
    inputsTT n occ = (allInputs n).filter (fun s => occ.contains s) := by
  unfold inputsTT
  rw [FRep.allInputs_eq]
  exact congrArg _ (List.map_congr_left fun r _ => msbBits_eq n r)

theorem mem_inputsTT {n : Nat} {occ : List (List Bool)} {s : List Bool} :
    s ∈ inputsTT n occ ↔ s ∈ occ ∧ s.length = n := by
  rw [inputsTT_eq, List.mem_filter, mem_allInputs, List.contains_iff_mem, and_comm]

theorem mem_inputsTT_iff {n : Nat} {occ : List (List Bool)} {s : List Bool} (hocc : ∀ t ∈ occ, t.length = n) :
    s ∈ inputsTT n occ ↔ s ∈ occ :=
  mem_inputsTT.trans (and_iff_left_of_imp (hocc s))

open Synth in
theorem inputBit_eq_testBit (sp : Spec) (i t : Nat) : inputBit sp i t = t.testBit (sp.n - 1 - i) := by
  unfold inputBit
  rw [Nat.testBit_eq_decide_div_mod_eq, Nat.shiftRight_eq_div_pow]
  by_cases h : t / 2 ^ (sp.n - 1 - i) % 2 = 1 <;> simp [h]

open Synth in
/-- C06 in the form the cone theorem needs (`Implements`) -/
theorem synthesised_implements {sp : Spec} {sol : Sol} {sub : Circuit} (hok : SolOk sp sol)
    (h : solToCircuit sp sol = .ok sub) (tab : List (List (Option Bool))) (hm : tab.length = sp.m)
    (htab : ∀ j t, j < sp.m → t < 2 ^ sp.n → sp.table j t = entry tab j t) : Implements sub sp.n tab := by
  obtain ⟨h1, h2, h3⟩ := solToCircuit_spec hok.preds h
  refine ⟨by rw [h1]; simp, by rw [h2, hm]; simp, ?_⟩
  intro bs vs t ht hvs hrow j hj x hx
  have hj' : j < sp.m := by rw [h2] at hj; simpa using hj
  obtain ⟨o1, o2⟩ := hok.outs j hj'
  have hb : ∀ i, i < sp.n → bs (toString i) = inputBit sp i t := by
    intro i hi
    have hi' : i < sub.inputs.length := by rw [h1]; simpa using hi
    have := hrow i hi'
    rw [inputBit_eq_testBit, ← this]
    congr 1
    simp [h1]
  have hval := h3 bs vs t hvs hb (sol.out j) o2
  unfold synthLabel at hval
  rw [if_neg (by omega)] at hval
  have hlab : sub.outputs[j] = "s" ++ toString (sol.out j) := by simp [h2]
  rw [hlab, hval]
  exact hok.agrees j hj' t ht x (by rw [htab j t hj' ht]; exact hx)

end Cone
end Cirbo
