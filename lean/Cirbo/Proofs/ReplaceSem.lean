import Cirbo.Proofs.ReplaceWfs
import Cirbo.Proofs.EvalCor
/-!
# `replace_subcircuit` with a replacement that agrees with the slice keeps the function (C19)
-/
namespace Cirbo
open GateType

/-- the valuation of the result: the old one, and on the added gates the replacement's -/
theorem rsResult_sem {c2 c3 c4 sub : Circuit} {S imV omV order : List Label} {added : List Gate}
    (hw : WFS c2) (hsu : WFU sub) (inv : RBInv c2 c3 S) (ainv : AInv c3 c4 sub imV added order)
    (hno : ∀ g ∈ S, g ∈ omV ∨ ∀ u ∈ c2.usersOf g, u ∈ S)
    (houts : ∀ o ∈ c2.outputs, o ∈ S → o ∈ omV)
    (hperm : order.Perm sub.labels)
    (himv : ∀ i ∈ imV, ∃ g ∈ sub.gates, g.label = i ∧ g.ty = INPUT)
    (hequiv : ∀ b1 v1 bs vs, IsValB c2 b1 v1 → IsValB sub bs vs → (∀ i ∈ imV, vs i = v1 i) →
      ∀ o ∈ omV, vs o = v1 o)
    {b v1 : Label → Bool} (hv : IsValB c2 b v1) :
    ∃ v', IsValB (rsResult c2 c4 S omV) b v' ∧ (rsResult c2 c4 S omV).outputs.map v' = c2.outputs.map v1 := by
  have hlab := inv.mem_labels
  have hnd4 : (c3.labels ++ added.map (·.label)).Nodup := by
    rw [← labels_append_gates ainv.gates]; exact ainv.nodup
  have hdisj : ∀ l, l ∈ c3.labels → l ∉ added.map (·.label) := by
    intro l h1 h2
    exact (List.nodup_append.mp hnd4).2.2 l h1 l h2 rfl
  obtain ⟨vs, hvs⟩ := valB_exists hsu v1
  have hvsI : ∀ i ∈ imV, vs i = v1 i := by
    intro i hi
    obtain ⟨g, hg, hgl, hty⟩ := himv i hi
    have := hvs g hg
    simp only [hty, if_true] at this
    rw [hgl] at this; exact this
  have hvsO : ∀ o ∈ omV, vs o = v1 o := hequiv b v1 v1 vs hv hvs hvsI
  obtain ⟨v', hA, hN⟩ : ∃ v' : Label → Bool, (∀ l ∈ added.map (·.label), v' l = vs l) ∧
      ∀ l, l ∉ added.map (·.label) → v' l = v1 l :=
    ⟨fun l => if l ∈ added.map (·.label) then vs l else v1 l, fun l h => if_pos h, fun l h => if_neg h⟩
  -- `v'` is `v1` on what is left of the old circuit (a slice gate that came back is a slice output) …
  have hold : ∀ l ∈ c2.labels, (l ∈ S → l ∈ omV) → v' l = v1 l := by
    intro l hl hS
    by_cases ha : l ∈ added.map (·.label)
    · rw [hA l ha]
      exact hvsO l (hS (Classical.byContradiction fun hn => hdisj l ((hlab l).mpr ⟨hl, hn⟩) ha))
    · exact hN l ha
  -- … and `vs` on the replacement (a gate of it that was not added is one of its inputs)
  have hnew : ∀ l ∈ sub.labels, v' l = vs l := by
    intro l hl
    by_cases ha : l ∈ added.map (·.label)
    · exact hA l ha
    · rw [hN l ha]
      cases hc : imV.contains l with
      | true => exact (hvsI l (by simpa using hc)).symm
      | false => exact absurd (ainv.cover l (hperm.mem_iff.mpr hl) hc) ha
  refine ⟨v', ?_, ?_⟩
  · intro g hg
    rcases (rsResult_mem_gates inv ainv g).mp hg with ⟨h1, h2⟩ | hg
    · have hops : g.ops.map v' = g.ops.map v1 := List.map_congr_left fun o ho =>
        hold o (hw.closed g h1 o ho) (slice_operand_is_output hw hno h1 h2 ho)
      rw [hold g.label (mem_labels_of_mem h1) (fun h => absurd h h2), hops]
      exact hv g h1
    · obtain ⟨hgs, _⟩ := ainv.fromSub g hg
      have hops : g.ops.map v' = g.ops.map vs := List.map_congr_left fun o ho => hnew o (hsu.closed g hgs o ho)
      have := hvs g hgs
      rw [if_neg (ainv.noInput g hg)] at this ⊢
      rw [hA _ (List.mem_map_of_mem hg), hops]
      exact this
  · rw [rsResult_outputs]
    exact List.map_congr_left fun o ho => hold o (hw.outputsOK o ho) (houts o ho)

/-- on every valuation of the circuit the replacement, fed the values at the slice inputs, produces the values at the
slice outputs: asked only on value combinations that occur, so replacements that differ on don't-cares qualify -/
def SliceAgrees (c sub : Circuit) (im om : List (Label × Label)) : Prop :=
  ∀ b v bs vs, IsValB c b v → IsValB sub bs vs → (∀ p ∈ im, vs p.2 = v p.1) → ∀ p ∈ om, vs p.2 = v p.1

theorem replaceSubcircuit_sem {c sub c' : Circuit} {im om : List (Label × Label)} {ctr ctr' : Nat}
    (hw : WFS c) (hsu : WFU sub) (hik : (im.map (·.1)).Nodup) (hok : (om.map (·.1)).Nodup)
    (hag : SliceAgrees c sub im om) (hnoin : ∀ p ∈ om, p.1 ∉ c.inputs)
    (h : c.replaceSubcircuit sub im om ctr = .ok (c', ctr')) :
    WFS c' ∧ Refines c c' := by
  obtain ⟨c1, c2, c3, c4, gs, order, added, rfl, F⟩ := replaceSubcircuit_facts hw hsu.toWFG
    (fun g hg ht => (hsu.inputsOK _).mpr ⟨g, hg, rfl, ht⟩) hik hok h
  refine ⟨F.wfs, ?_⟩
  obtain ⟨f, σ, h1, h2, h3, h4, _, h6, h7⟩ := renFold_sem (im ++ om) c c1 hw F.keysND F.keysIn F.ren
  have hg21 : c2.gates = c1.gates := by rw [F.block]
  have hval21 : ∀ b v, IsValB c2 b v ↔ IsValB c1 b v := by
    intro b v; unfold IsValB; rw [hg21]
  have hequiv : ∀ b1 v1 bs vs, IsValB c2 b1 v1 → IsValB sub bs vs → (∀ i ∈ im.map (·.2), vs i = v1 i) →
      ∀ o ∈ om.map (·.2), vs o = v1 o := by
    intro b1 v1 bs vs hv1 hvs hin o ho
    obtain ⟨p, hp, rfl⟩ := List.mem_map.mp ho
    have hv := h3 b1 v1 ((hval21 b1 v1).mp hv1)
    have := hag (b1 ∘ σ) (v1 ∘ σ) bs vs hv hvs (by
      intro q hq
      simp only [Function.comp, h4 q (List.mem_append_left _ hq)]
      exact hin q.2 (List.mem_map_of_mem hq)) p hp
    simpa only [Function.comp, h4 p (List.mem_append_right _ hp)] using this
  have hin1 : c2.inputs = c1.inputs := by rw [F.block]
  have hkeep : ∀ i ∈ c2.inputs, gs.contains i = false := by
    intro i hi
    cases hc : gs.contains i with
    | false => rfl
    | true =>
      exfalso
      have hig : i ∈ gs := by simpa using hc
      rcases F.sliceNI i hig with h5 | ⟨og, hog, hty⟩
      · obtain ⟨p, hp, hpi⟩ := List.mem_map.mp h5
        rw [hin1, h6] at hi
        obtain ⟨l, hl, hli⟩ := List.mem_map.mp hi
        have hl' : l ∈ c.labels := hw.input_label hl
        have hpk : p.1 ∈ c.labels := F.keysIn p.1 (List.mem_map_of_mem (List.mem_append_right _ hp))
        have : l = p.1 := h7 l p.1 hl' hpk (by rw [hli, h4 p (List.mem_append_right _ hp), hpi])
        exact hnoin p hp (this ▸ hl)
      · rw [hin1] at hi
        obtain ⟨g, hg, hgl, hgt⟩ := (F.wfs1.inputsOK i).mp hi
        have := find_label F.wfs1.nodup hg
        rw [hgl, hog] at this
        exact hty ((Option.some.inj this) ▸ hgt)
  have hin' : (rsResult c2 c4 gs (om.map (·.2))).inputs = c1.inputs := by
    rw [rsResult_inputs, F.ainv.inputs, F.inv.inputs, ← hin1]
    apply List.filter_eq_self.mpr
    intro i hi
    have := hkeep i hi
    simp only [List.contains_eq_mem, decide_eq_false_iff_not] at this
    simpa using this
  refine ⟨f, by rw [hin', h2], ?_⟩
  intro b v hv
  obtain ⟨a1, a2⟩ := h1 b v hv
  obtain ⟨v', b1, b2⟩ := rsResult_sem F.wfs2 hsu F.inv F.ainv F.noUsers F.outs F.perm F.imvIn hequiv
    ((hval21 _ _).mpr a1)
  refine ⟨v', b1, ?_⟩
  rw [b2, ← a2, F.block]

/-! ## C04: the splice loop of `minimize_subcircuits`, abstractly -/

/-- the arguments of one call of `replace_subcircuit` in the loop -/
structure Step where
  sub : Circuit
  im : List (Label × Label)
  om : List (Label × Label)
  uuid : Nat

/-- an accepted improvement: the replacement agrees with the slice it replaces (`SliceAgrees`); the clause on the block
labels of the replacement is not used by the proofs -/
def Step.ok (c : Circuit) (s : Step) : Prop :=
  WFU s.sub ∧ (∀ b ∈ s.sub.blocks, (∀ l ∈ b.gates, l ∈ s.sub.labels) ∧ (∀ l ∈ b.inputs, l ∈ s.sub.labels)) ∧
  (s.im.map (·.1)).Nodup ∧ (s.om.map (·.1)).Nodup ∧ SliceAgrees c s.sub s.im s.om ∧ (∀ p ∈ s.om, p.1 ∉ c.inputs)

inductive Steps : Circuit → List Step → Circuit → Prop
  | nil {c} : Steps c [] c
  | cons {c c1 c' : Circuit} {s : Step} {rest : List Step} {k : Nat} :
      s.ok c → c.replaceSubcircuit s.sub s.im s.om s.uuid = .ok (c1, k) → Steps c1 rest c' → Steps c (s :: rest) c'

end Cirbo
