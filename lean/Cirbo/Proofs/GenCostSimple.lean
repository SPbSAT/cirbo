import Cirbo.Proofs.GenCost
import Cirbo.Proofs.GenQueue
/-!
# Shape and gate counts of the "simple" scheme (full adders and half adders only)
-/
namespace Cirbo

/-- number of binary digits of `n` (`0` for `0`): the number of result bits of a bit counter on `n` operands -/
def sa_bitlen (n : Nat) : Nat := if n = 0 then 0 else Nat.log2 n + 1

theorem sa_bitlen_zero : sa_bitlen 0 = 0 := rfl

theorem sa_bitlen_half {n : Nat} (h : 1 ≤ n) : sa_bitlen n = sa_bitlen (n / 2) + 1 := by
  unfold sa_bitlen
  rw [if_neg (by omega), Nat.log2_def]
  by_cases h2 : 2 ≤ n
  · rw [if_pos h2, if_neg (by omega)]
  · rw [if_neg h2, if_pos (by omega)]

theorem sa_bitlen_pos {n : Nat} (h : 1 ≤ n) : 1 ≤ sa_bitlen n := by rw [sa_bitlen_half h]; omega

theorem sa_bitlen_two : sa_bitlen 2 = 2 := by decide

theorem sa_bitlen_three : sa_bitlen 3 = 2 := by decide

theorem two_le_sa_bitlen {n : Nat} (h : 2 ≤ n) : 2 ≤ sa_bitlen n := by
  rw [sa_bitlen_half (by omega)]
  have := sa_bitlen_pos (n := n / 2) (by omega)
  omega

/-- what the blocks cost is the last clause, so that the shape can be used of blocks of which no cost is known -/
theorem shape_reduce3With {σ : Type} {blk3 : List Label → Prog (List Label)} {push : Label → σ → σ} :
    ∀ (fuel : Nat) (nowR : List Label) (s : σ) (n' : List Label) (s' : σ) (k : Nat),
      Cost (reduce3With blk3 push fuel nowR s) (n', s') k →
      ∃ ys, s' = pushAll push ys s ∧ n'.length + 2 * ys.length = nowR.length ∧ (nowR ≠ [] → n' ≠ []) ∧
        (nowR.length ≤ 2 * fuel + 2 → n'.length ≤ 2) ∧ ∀ c3, BlockCost blk3 c3 → k = c3 * ys.length := by
  intro fuel
  induction fuel with
  | zero =>
    intro nowR s n' s' k h
    unfold reduce3With at h
    obtain ⟨e, rfl⟩ := cost_pure.mp h
    cases e
    exact ⟨[], rfl, rfl, id, id, fun _ _ => rfl⟩
  | succ f ih =>
    intro nowR s n' s' k h
    rcases nowR with _ | ⟨a, _ | ⟨b, _ | ⟨c, rest⟩⟩⟩
    case cons.cons.cons =>
      simp only [reduce3With, cost_bind] at h
      obtain ⟨r, m1, m2, hblk, ⟨p, m3, m4, hp2, hrec, rfl⟩, rfl⟩ := h
      obtain ⟨ys, rfl, hl, hne, h2, hk⟩ := ih _ _ _ _ _ hrec
      refine ⟨p.2 :: ys, rfl, ?_, fun _ => hne (List.cons_ne_nil _ _), fun hf => h2 ?_, fun c3 hb => ?_⟩
      · simp only [List.length_cons] at hl ⊢; omega
      · simp only [List.length_cons] at hf ⊢; omega
      · rw [hk c3 hb, hb _ _ _ hblk, costs_pair2 _ _ _ hp2, List.length_cons, Nat.mul_add, Nat.mul_one]; omega
    all_goals
      obtain ⟨e, rfl⟩ := cost_pure.mp h
      cases e
      exact ⟨[], rfl, rfl, id, fun _ => by simp, fun _ _ => rfl⟩

theorem shape_reduce3 {blk3 : List Label → Prog (List Label)} {fuel : Nat} {nowR next n' nx' : List Label} {k : Nat}
    (h : Cost (reduce3 blk3 fuel nowR next) (n', nx') k) :
    ∃ ys, nx' = next ++ ys ∧ n'.length + 2 * ys.length = nowR.length ∧ (nowR ≠ [] → n' ≠ []) ∧
      (nowR.length ≤ 2 * fuel + 2 → n'.length ≤ 2) ∧ ∀ c3, BlockCost blk3 c3 → k = c3 * ys.length := by
  rw [reduce3_eq] at h
  obtain ⟨ys, e, r⟩ := shape_reduce3With _ _ _ _ _ _ h
  exact ⟨ys, e.trans (pushAll_snoc ys next), r⟩

theorem shape_reduce2 {blk2 : List Label → Prog (List Label)} {nowR next n' nx' : List Label} {k : Nat}
    (h : Cost (reduce2 blk2 nowR next) (n', nx') k) :
    (2 ≤ nowR.length ∧ n'.length + 1 = nowR.length ∧ (∃ y, nx' = next ++ [y]) ∧ ∀ c2, BlockCost blk2 c2 → k = c2) ∨
    (nowR.length ≤ 1 ∧ n' = nowR ∧ nx' = next ∧ k = 0) := by
  rcases nowR with _ | ⟨a, _ | ⟨b, rest⟩⟩
  case cons.cons =>
    simp only [reduce2, cost_bind, cost_pure] at h
    obtain ⟨r, m1, m2, hblk, ⟨p, m3, m4, hp2, ⟨e, rfl⟩, rfl⟩, rfl⟩ := h
    cases e
    exact Or.inl ⟨Nat.le_add_left 2 _, rfl, ⟨_, rfl⟩, fun c2 hb => by rw [hb _ _ _ hblk, costs_pair2 _ _ _ hp2]; rfl⟩
  all_goals
    obtain ⟨e, rfl⟩ := cost_pure.mp h
    cases e
    exact Or.inr ⟨by simp, rfl, rfl, rfl⟩

/-- one level (full adders, at most one half adder, read the last bit), from its three steps -/
theorem shape_simpleLevel {blk3 blk2 : List Label → Prog (List Label)} {nowR next n1 nx1 n2 nx2 : List Label} {r : Label}
    {k1 k2 k3 : Nat} (h3 : Cost (reduce3 blk3 nowR.length nowR next) (n1, nx1) k1)
    (h2 : Cost (reduce2 blk2 n1 nx1) (n2, nx2) k2) (hf : Cost (firstOfRev n2) r k3) :
    n2.length = 1 ∧ k3 = 0 ∧ ∃ j e, e ≤ 1 ∧ 2 * j + e + 1 = nowR.length ∧ nx2.length = next.length + j + e ∧
      ∀ c3 c2, BlockCost blk3 c3 → BlockCost blk2 c2 → k1 + k2 = c3 * j + c2 * e := by
  obtain ⟨ys, rfl, a1, _, a4, a5⟩ := shape_reduce3 h3
  obtain ⟨hk3, hn2⟩ := cost_firstOfRev hf
  have h2' := List.length_pos_iff.mpr hn2
  have a4 := a4 (by omega)
  rcases shape_reduce2 h2 with ⟨b1, b2, ⟨y, rfl⟩, b4⟩ | ⟨b1, rfl, rfl, rfl⟩
  · refine ⟨by omega, hk3, ys.length, 1, Nat.le_refl 1, by omega, ?_, fun c3 c2 hb3 hb2 => by
      rw [a5 c3 hb3, b4 c2 hb2, Nat.mul_one]⟩
    simp only [List.length_append, List.length_singleton]
  · exact ⟨by omega, hk3, ys.length, 0, Nat.zero_le 1, by omega, by simp only [List.length_append]; omega,
      fun c3 c2 hb3 _ => by rw [a5 c3 hb3, Nat.mul_zero]⟩

/-- every level halves the number of bits and gives one result bit; every full adder and every level uses up one
bit, at most one half adder per level -/
theorem shape_levelsSimple {blk3 blk2 : List Label → Prog (List Label)} :
    ∀ (fuel : Nat) (nowR res r : List Label) (k : Nat), Cost (levelsSimple blk3 blk2 fuel nowR res) r k →
      r.length = res.length + sa_bitlen nowR.length ∧
      ∃ J3 J2, J3 + sa_bitlen nowR.length ≤ nowR.length ∧ J2 ≤ sa_bitlen nowR.length ∧
        ∀ c3 c2, BlockCost blk3 c3 → BlockCost blk2 c2 → k = c3 * J3 + c2 * J2 := by
  intro fuel
  induction fuel with
  | zero => intro nowR res r k h; unfold levelsSimple at h; exact absurd h cost_fail
  | succ f ih =>
    intro nowR res r k h
    unfold levelsSimple at h
    split at h
    · rename_i he
      obtain ⟨rfl, rfl⟩ := cost_pure.mp h
      rw [List.isEmpty_iff.mp he]
      exact ⟨rfl, 0, 0, Nat.le_refl _, Nat.le_refl _, fun _ _ _ _ => rfl⟩
    · simp only [cost_bind] at h
      obtain ⟨⟨s1, nx1⟩, k1, _, h1, ⟨⟨s2, nx2⟩, k2, _, h2, ⟨x, k3, k4, h3, h4, rfl⟩, rfl⟩, rfl⟩ := h
      obtain ⟨_, rfl, j, e, he, hje, hnx, hk⟩ := shape_simpleLevel h1 h2 h3
      obtain ⟨hrl, J3, J2, hJ3, hJ2, hk4⟩ := ih _ _ _ _ h4
      simp only [List.length_reverse, List.length_nil, Nat.zero_add] at hJ3 hJ2 hrl hnx
      have hhalf : nx2.length = nowR.length / 2 := by omega
      rw [hhalf] at hJ3 hJ2 hrl
      rw [sa_bitlen_half (n := nowR.length) (by omega)]
      simp only [List.length_append, List.length_singleton] at hrl
      refine ⟨by omega, J3 + j, J2 + e, by omega, by omega, fun c3 c2 hb3 hb2 => ?_⟩
      have := hk c3 c2 hb3 hb2
      rw [hk4 c3 c2 hb3 hb2, Nat.mul_add, Nat.mul_add]; omega

/-- `add_sum_n_bits_easy` on `n` operands with `m` result bits: at most `5n - 3m` gates (documented: `5n`) -/
theorem cost_addSumNBitsEasy {ins r : List Label} {be : Bool} {k : Nat}
    (h : Cost (addSumNBitsEasy ins be) r k) : k + 3 * r.length ≤ 5 * ins.length := by
  unfold addSumNBitsEasy at h
  simp only [cost_bind, cost_pure] at h
  obtain ⟨res, k1, k2, h1, ⟨rfl, rfl⟩, rfl⟩ := h
  obtain ⟨hl, J3, J2, hJ3, hJ2, hk⟩ := shape_levelsSimple _ _ _ _ _ h1
  have := hk 5 2 costs_addSum3 costs_addSum2
  simp only [List.length_reverse, revIf_length, List.length_nil, Nat.zero_add] at hJ3 hJ2 hl
  rw [revIf_length]; omega

/-- at most `7n - 4m` gates (documented: `7n - 3m`) -/
theorem cost_addSumNBitsAig {ins r : List Label} {k : Nat}
    (h : Cost (addSumNBitsAig ins) r k) : r.length = sa_bitlen ins.length ∧ k + 4 * r.length ≤ 7 * ins.length := by
  unfold addSumNBitsAig at h
  obtain ⟨hl, J3, J2, hJ3, hJ2, hk⟩ := shape_levelsSimple _ _ _ _ _ h
  have := hk 7 3 costs_addSum3Aig costs_addSum2Aig
  simp only [List.length_reverse, List.length_nil, Nat.zero_add] at hJ3 hJ2 hl
  exact ⟨hl, by omega⟩

end Cirbo
