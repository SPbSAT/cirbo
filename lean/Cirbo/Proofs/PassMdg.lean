import Cirbo.Proofs.PassOrder
/-!
MergeDuplicateGates rebuilds the circuit while keeping a table from signatures to the first gate emitted with each: `SInv`
relates the gates emitted to the table.
-/
namespace Cirbo
open GateType Circuit

theorem insertSorted_perm (x : Label) (l : List Label) : (insertSorted x l).Perm (x :: l) := by
  induction l with
  | nil => exact .refl _
  | cons y r ih =>
    unfold insertSorted
    split
    · exact .refl _
    · exact (ih.cons y).trans (.swap x y r)

theorem sortLabels_perm (l : List Label) : (sortLabels l).Perm l := by
  induction l with
  | nil => exact .refl _
  | cons x r ih => exact (insertSorted_perm x _).trans (ih.cons x)

theorem signature_sem {ty1 ty2 : GateType} {o1 o2 : List Label} (h : signature ty1 o1 = signature ty2 o2)
    (v : Label → Bool) : ty1 = ty2 ∧ bfun ty1 (o1.map v) = bfun ty2 (o2.map v) := by
  simp only [signature, Prod.mk.injEq] at h
  obtain ⟨rfl, h2⟩ := h
  refine ⟨rfl, ?_⟩
  split at h2
  · exact bfun_perm ty1 ‹_› (((sortLabels_perm o1).symm.trans (h2 ▸ sortLabels_perm o2)).map v)
  · rw [h2]

theorem mapR_eq_mapM {α β} (f : α → R β) : ∀ l : List α, mapR f l = l.mapM f
  | [] => rfl
  | x :: t => by
    rw [List.mapM_cons, mapR, mapR_eq_mapM f t]
    cases f x with
    | error e => rfl
    | ok y => cases t.mapM f <;> rfl

theorem mapR_all2 {α β} {f : α → R β} {l : List α} {ys : List β} (h : mapR f l = .ok ys) :
    All2 (fun x y => f x = .ok y) l ys :=
  mapM_all2 f l ys (mapR_eq_mapM f l ▸ h)

theorem mapR_total {α β} (f : α → R β) (l : List α) (h : ∀ x ∈ l, ∃ y, f x = .ok y) : ∃ ys, mapR f l = .ok ys :=
  mapR_eq_mapM f l ▸ mapM_total f l h

abbrev Sig := GateType × List Label
abbrev Sigs := List (Sig × Label)

/-- `o` is the registered representative of its own signature (vacuous for inputs and non-gates) -/
def Canon (gs : List Gate) (sigs : Sigs) (o : Label) : Prop :=
  ∀ go ∈ gs, go.label = o → go.ty ≠ INPUT → sigs.lookup (signature go.ty go.ops) = some o

/-- the invariant of the loop, on the gates emitted so far and the table of signatures -/
structure SInv (gs : List Gate) (sigs : Sigs) : Prop where
  nd : (gs.map (·.label)).Nodup
  reg : ∀ g ∈ gs, g.ty ≠ INPUT → ∃ d, sigs.lookup (signature g.ty g.ops) = some d
  back : ∀ sig d, sigs.lookup sig = some d → ∃ g ∈ gs, g.label = d ∧ g.ty ≠ INPUT ∧ signature g.ty g.ops = sig
  canon : ∀ g ∈ gs, ∀ o ∈ g.ops, o ∈ gs.map (·.label) ∧ Canon gs sigs o

theorem SInv.empty : SInv Circuit.empty.gates ([] : Sigs) :=
  ⟨.nil, fun _ h => (nomatch h), fun _ _ h => (nomatch h), fun _ h => (nomatch h)⟩

theorem mdgNewName_ok {st : MdgSt} {o d : Label} :
    mdgNewName st o = .ok d ↔ ∃ go, st.n.find? o = some go ∧ (st.sigs.lookup (signature go.ty go.ops)).getD o = d := by
  unfold mdgNewName
  cases st.n.find? o with
  | none => simp
  | some go =>
    simp only [Option.some.injEq, exists_eq_left']
    generalize List.lookup _ st.sigs = x
    cases x <;> simp

theorem mdgNewName_spec {st : MdgSt} (inv : SInv st.n.gates st.sigs) {o d : Label} (h : mdgNewName st o = .ok d) :
    d ∈ st.n.labels ∧ Canon st.n.gates st.sigs d ∧ ∀ b v, IsValB st.n b v → v d = v o := by
  obtain ⟨go, hf, rfl⟩ := mdgNewName_ok.mp h
  obtain ⟨hgo, rfl⟩ := find_some_mem hf
  cases hl : st.sigs.lookup (signature go.ty go.ops) with
  | none =>
    refine ⟨mem_labels_of_mem hgo, fun g' hg' hgl' hty => ?_, fun _ _ _ => rfl⟩
    obtain rfl := nodup_map_inj _ _ inv.nd g' hg' go hgo hgl'
    obtain ⟨d, hd⟩ := inv.reg g' hg' hty
    rw [hd] at hl; cases hl
  | some d =>
    obtain ⟨gd, hgd, rfl, hne, hsig⟩ := inv.back _ _ hl
    refine ⟨mem_labels_of_mem hgd, fun g' hg' hgl' _ => ?_, fun b v hv => ?_⟩
    · obtain rfl := nodup_map_inj _ _ inv.nd g' hg' gd hgd hgl'
      rw [hsig]; exact hl
    · obtain ⟨hty, hb⟩ := signature_sem hsig v
      have h1 := hv gd hgd
      have h2 := hv go hgo
      rw [if_neg hne, hb] at h1
      rw [if_neg (hty ▸ hne), h1] at h2
      exact Option.some.inj h2

/-- `_signature_to_duplicate.setdefault(sig, l)`, skipped for an input -/
def mdgSigs (sigs : Sigs) (ty : GateType) (ops : List Label) (l : Label) : Sigs :=
  if ty = INPUT then sigs
  else if (sigs.lookup (signature ty ops)).isSome then sigs else sigs ++ [(signature ty ops, l)]

theorem mdgSigs_lookup (sigs : Sigs) (ty : GateType) (ops : List Label) (l : Label) (k : Sig) :
    (mdgSigs sigs ty ops l).lookup k =
      (sigs.lookup k).or (if ty ≠ INPUT ∧ k = signature ty ops then some l else none) := by
  unfold mdgSigs
  by_cases ht : ty = INPUT
  · simp [ht]
  · rw [if_neg ht]
    split
    · cases hk : sigs.lookup k with
      | some d => simp
      | none =>
        have : k ≠ signature ty ops := by rintro rfl; simp [hk] at *
        simp [this]
    · by_cases hk : k = signature ty ops
      · simp [ht, hk, List.lookup_append]
      · have : (k == signature ty ops) = false := by simpa using hk
        simp [hk, List.lookup_append, List.lookup_cons, this]

theorem SInv.add {gs : List Gate} {sigs : Sigs} (inv : SInv gs sigs) {l : Label} {ty : GateType} {ops : List Label}
    (hnew : l ∉ gs.map (·.label)) (hops : ∀ d ∈ ops, d ∈ gs.map (·.label) ∧ Canon gs sigs d) :
    SInv (gs ++ [⟨l, ty, ops⟩]) (mdgSigs sigs ty ops l) := by
  have hkeep : ∀ k v, sigs.lookup k = some v → (mdgSigs sigs ty ops l).lookup k = some v := by
    intro k v hk; rw [mdgSigs_lookup, hk]; rfl
  have hmono : ∀ d ∈ gs.map (·.label), Canon gs sigs d → Canon (gs ++ [⟨l, ty, ops⟩]) (mdgSigs sigs ty ops l) d := by
    intro d hd hc go hgo hgol hgot
    rcases List.mem_append.mp hgo with hgo | hgo
    · exact hkeep _ _ (hc go hgo hgol hgot)
    · obtain rfl := List.mem_singleton.mp hgo
      exact absurd ((show l = d from hgol) ▸ hd) hnew
  have hmem : ∀ d ∈ gs.map (·.label), d ∈ (gs ++ [(⟨l, ty, ops⟩ : Gate)]).map (·.label) := by
    intro d hd; rw [List.map_append]; exact List.mem_append_left _ hd
  refine ⟨?_, ?_, ?_, ?_⟩
  · rw [List.map_append]
    refine List.nodup_append.mpr ⟨inv.nd, by simp, fun a ha b hb e => hnew ?_⟩
    exact (e.trans (List.mem_singleton.mp hb) : a = l) ▸ ha
  · intro x hx hxt
    rcases List.mem_append.mp hx with hx | hx
    · obtain ⟨d, hd⟩ := inv.reg x hx hxt
      exact ⟨d, hkeep _ _ hd⟩
    · obtain rfl := List.mem_singleton.mp hx
      rw [mdgSigs_lookup]
      cases sigs.lookup (signature ty ops) <;> simp [show ty ≠ INPUT from hxt]
  · intro sig d hs
    rw [mdgSigs_lookup] at hs
    cases hl : sigs.lookup sig with
    | some d' =>
      rw [hl] at hs
      obtain rfl : d' = d := Option.some.inj hs
      obtain ⟨gd, hgd, r⟩ := inv.back sig d' hl
      exact ⟨gd, List.mem_append_left _ hgd, r⟩
    | none =>
      rw [hl] at hs
      split at hs
      · rename_i hk
        cases hs
        exact ⟨⟨l, ty, ops⟩, by simp, rfl, hk.1, hk.2.symm⟩
      · cases hs
  · intro x hx o ho
    obtain ⟨h1, h2⟩ : o ∈ gs.map (·.label) ∧ Canon gs sigs o := by
      rcases List.mem_append.mp hx with hx | hx
      · exact inv.canon x hx o ho
      · obtain rfl := List.mem_singleton.mp hx
        exact hops o ho
    exact ⟨hmem o h1, hmono o h1 h2⟩

theorem mdgNames_run {st : MdgSt} (inv : SInv st.n.gates st.sigs) {ls : List Label} (h : ∀ o ∈ ls, o ∈ st.n.labels) :
    ∃ ds, mapR (mdgNewName st) ls = .ok ds ∧ ds.length = ls.length ∧
      (∀ d ∈ ds, d ∈ st.n.labels ∧ Canon st.n.gates st.sigs d) ∧ ∀ b v, IsValB st.n b v → ds.map v = ls.map v := by
  obtain ⟨ds, hds⟩ := mapR_total (mdgNewName st) ls fun o ho => by
    obtain ⟨go, hgo, rfl⟩ := gate_of_label (h o ho)
    exact ⟨_, mdgNewName_ok.mpr ⟨go, find_label inv.nd hgo, rfl⟩⟩
  have a := mapR_all2 hds
  refine ⟨ds, hds, (all2_length a).symm, fun d hd => ?_,
    fun b v hv => (all2_map_eq a fun o _ d ho => ((mdgNewName_spec inv ho).2.2 b v hv).symm).symm⟩
  obtain ⟨o, _, ho⟩ := all2_mem_right a d hd
  exact ⟨(mdgNewName_spec inv ho).1, (mdgNewName_spec inv ho).2.1⟩

theorem mdgStep_emit {c : Circuit} {st : MdgSt} {g : Gate} {ops : List Label} {n' : Circuit}
    (hf : c.find? g.label = some g) (hops : if g.ty = INPUT then ops = [] else mapR (mdgNewName st) g.ops = .ok ops)
    (ha : st.n.addGate ⟨g.label, g.ty, ops⟩ = .ok n') :
    mdgStep c (.ok st) g.label = .ok ⟨n', mdgSigs st.sigs g.ty ops g.label⟩ := by
  unfold mdgStep mdgSigs
  by_cases ht : g.ty = INPUT
  · rw [if_pos ht] at hops; subst hops
    rw [ht] at ha
    simp [hf, ht, addInputs, ha]
  · rw [if_neg ht] at hops
    simp [hf, ht, hops, ha]

theorem mdg_run {c : Circuit} (hw : WFS c) : ∃ c', PassRun mdg c c' ∧
    ∃ sigs, SInv c'.gates sigs ∧ ∀ o ∈ c'.outputs, Canon c'.gates sigs o := by
  obtain ⟨log, hlog⟩ := traverse_outputs_ok hw true
  obtain ⟨hLnd, hLmem, hLord⟩ := full_order hw hlog
  obtain ⟨st, hst, hlab, hr, inv⟩ := rebuild_run (step := mdgStep c) (cir := (·.n)) (J := fun st => SInv st.n.gates st.sigs) (s0 := ⟨Circuit.empty, []⟩)
    hw hLnd (fun l hl => (hLmem l).mp hl) hLord (fun st g inv hr hf _ ho => by
      obtain ⟨ops, hops, hlen, hcan, hval⟩ : ∃ ops, (if g.ty = INPUT then ops = [] else mapR (mdgNewName st) g.ops = .ok ops) ∧
          ops.length = g.ops.length ∧ (∀ d ∈ ops, d ∈ st.n.labels ∧ Canon st.n.gates st.sigs d) ∧
          ∀ b v, IsValB st.n b v → ops.map v = g.ops.map v := by
        by_cases ht : g.ty = INPUT
        · have := hw.inputOps g (find_some_mem hf).1 ht
          exact ⟨[], by rw [if_pos ht], by rw [this], fun _ h => (nomatch h), fun _ _ _ => by rw [this]⟩
        · simp only [if_neg ht]
          exact mdgNames_run inv ho
      exact ⟨ops, fun d hd => (hcan d hd).1, hlen, fun b v hv => hval b v (hr.val b v hv), fun n' ha =>
        ⟨_, mdgStep_emit hf hops ha, rfl, (addGate_fields ha).gates ▸ inv.add (addGate_fields ha).fresh hcan⟩⟩)
    rfl .empty
  obtain ⟨n2, hn2⟩ := setInputs_returns_of_shape hw (hlab ▸ hLnd) (fun l => hlab ▸ hLmem l) hr.shape
  have hg2 : n2.gates = st.n.gates := setInputs_gates hn2
  obtain ⟨outs, houts, hlen, hcan, hval⟩ := mdgNames_run (st := ⟨n2, st.sigs⟩) (hg2 ▸ inv) (ls := c.outputs) fun o ho =>
    show o ∈ n2.labels by
      rw [Circuit.labels, hg2]
      exact (show o ∈ st.n.labels from hlab ▸ (hLmem o).mpr (hw.outputsOK o ho))
  obtain ⟨c', hc', hgc, hoc, hp, sh, hin⟩ := hr.finish_ok hn2 (outs := outs)
    (fun o ho => by have := (hcan o ho).1; rwa [Circuit.labels, hg2] at this) hlen
    (fun b v hv => hval b v fun g hg => hr.val b v hv g (hg2 ▸ hg))
  refine ⟨c', ⟨by simp only [mdg, hlog, hst, hn2, houts, hc'], hp, sh, hin⟩, st.sigs, hgc ▸ inv, fun o ho => ?_⟩
  rw [hgc, ← hg2]
  exact (hcan o (hoc ▸ ho)).2

theorem mdg_spec {c c' : Circuit} (hw : WFS c) (h : mdg c = .ok c') : PassRun mdg c c' :=
  let ⟨_, r, _⟩ := mdg_run hw; r.of_ok h

theorem mdg_total {c : Circuit} (hw : WFS c) : ∃ c', mdg c = .ok c' :=
  let ⟨c', r, _⟩ := mdg_run hw; ⟨c', r.ok⟩

end Cirbo
