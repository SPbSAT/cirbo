import Cirbo.Proofs.ConnRun
/-!
# `connect_circuit`: the loop, walked once

The renaming the loop builds does not depend on the state (`connRen`); `ConnInv` says what the state is after a
prefix `done` of the topological order, in either direction.
-/
namespace Cirbo
open GateType Circuit

/-- a connector goes to the base gate it is paired with, any other label of `other` to its prefixed copy -/
def connRen (m : Dict Label) (pre : String) (l : Label) : Label := (Dict.get? m l).getD (pre ++ l)

/-- what the loop writes for the gate `g` of `other` -/
def Gate.ren (φ : Label → Label) (g : Gate) : Gate := ⟨φ g.label, g.ty, g.ops.map φ⟩

theorem connRen_mapped {m : Dict Label} {pre : String} {l x : Label} (h : Dict.get? m l = some x) :
    connRen m pre l = x := by simp [connRen, h]

theorem connRen_copy {m : Dict Label} {pre : String} {l : Label} (h : Dict.contains m l = false) :
    connRen m pre l = pre ++ l := by
  cases h' : Dict.get? m l <;> simp_all [connRen, Dict.contains]

/-- the state of the loop after the prefix `done` of `other`'s topological order: the dictionary is `connRen` on `done`
and the connectors; the gate under `k` is *placed* — its renamed copy appended, or standing where the base input it
feeds stood — when `Dict.contains m k = true → right = true`; nothing else changes. `forBlock`: the gate list kept
for the new block -/
structure ConnInv (c other : Circuit) (m : Dict Label) (pre : String) (right : Bool) (done : List Label)
    (st : ConnSt) : Prop where
  o2n : ∀ l, Dict.get? st.o2n l = if l ∈ done ∨ Dict.contains m l = true then some (connRen m pre l) else none
  placed : ∀ k ∈ done, ∀ g, other.find? k = some g → (Dict.contains m k = true → right = true) →
    g.ren (connRen m pre) ∈ st.c.gates
  origin : ∀ x ∈ st.c.gates, x ∈ c.gates ∨ ∃ k ∈ done, ∃ g, other.find? k = some g ∧
    (Dict.contains m k = true → right = true) ∧ x = g.ren (connRen m pre)
  kept : ∀ x ∈ c.gates, (right = true → ∀ k ∈ done, Dict.get? m k ≠ some x.label) → x ∈ st.c.gates
  appends : right = false → ∃ extra, st.c.gates = c.gates ++ extra
  labels : st.c.labels = c.labels ++ (done.filter (fun l => !Dict.contains m l)).map (fun l => pre ++ l)
  fresh : ∀ k ∈ done, Dict.contains m k = false → pre ++ k ∉ c.labels
  outputs : st.c.outputs = c.outputs
  blocks : st.c.blocks = c.blocks
  forBlockNodup : st.forBlock.Nodup
  forBlock : ∀ x, x ∈ st.forBlock ↔ ∃ k ∈ done, ∃ g, other.find? k = some g ∧ g.ty ≠ INPUT ∧
    (Dict.contains m k = true → right = true) ∧ x = connRen m pre k
  -- an implication: only the theorems on `WFS` ask anything of the base
  users : WFS c → done.Nodup →
    (right = true → ∀ k x, Dict.get? m k = some x → (⟨x, INPUT, []⟩ : Gate) ∈ c.gates) → UsersOK st.c

theorem ConnInv.start (c other : Circuit) (m : Dict Label) (pre : String) (right : Bool) :
    ConnInv c other m pre right [] ⟨c, m, []⟩ := by
  refine ⟨fun l => ?_, nofun, fun x hx => Or.inl hx, fun x hx _ => hx, fun _ => ⟨[], by simp⟩, by simp, nofun, rfl, rfl,
    List.nodup_nil, fun x => by simp, fun hw _ _ => users_count_of_wfs hw⟩
  cases h : Dict.get? m l <;> simp [Dict.contains, h, connRen]

theorem ConnInv.nodup {c other : Circuit} {m : Dict Label} {pre : String} {right : Bool} {done : List Label} {st : ConnSt}
    (hi : ConnInv c other m pre right done st) (hnd : done.Nodup) (hc : c.labels.Nodup) : st.c.labels.Nodup := by
  rw [hi.labels, List.nodup_append]
  refine ⟨hc, (hnd.sublist List.filter_sublist).map _ fun _ _ hab e => hab ((String.append_right_inj pre).mp e), ?_⟩
  rintro a ha b hb rfl
  obtain ⟨k, hk, rfl⟩ := List.mem_map.mp hb
  obtain ⟨hk1, hk2⟩ := List.mem_filter.mp hk
  exact hi.fresh k hk1 (by simpa using hk2) ha

theorem ConnInv.step {c other : Circuit} {m : Dict Label} {pre : String} {right : Bool}
    (hvals : ∀ k x, Dict.get? m k = some x → x ∈ c.labels)
    (hinj : right = true → ∀ k1 k2 x, Dict.get? m k1 = some x → Dict.get? m k2 = some x → k1 = k2)
    {done : List Label} {st st' : ConnSt} {cur : Label} (hcur : cur ∉ done)
    (hops : ∀ g, other.find? cur = some g → ∀ o ∈ g.ops, o ∈ done)
    (hi : ConnInv c other m pre right done st) (hs : connStep other m pre right (.ok st) cur = .ok st') :
    ConnInv c other m pre right (done ++ [cur]) st' := by
  -- operands were renamed earlier, so the operand list written now is the renamed one
  have hren : ∀ {o2n : Dict Label} {g : Gate} {ops : List Label}, other.find? cur = some g →
      (∀ o ∈ done, Dict.get? o2n o = Dict.get? st.o2n o) → mapLabels o2n g.ops = .ok ops →
      ops = g.ops.map (connRen m pre) := fun hf ho hm => mapLabels_ren hm fun o hoo => by
    rw [ho o (hops _ hf o hoo), hi.o2n o, if_pos (Or.inl (hops _ hf o hoo))]
  have hsub : ∀ l ∈ c.labels, l ∈ st.c.labels := fun l hl => by rw [hi.labels]; exact List.mem_append_left _ hl
  -- a connector's entry is there from the start
  have hkeep : Dict.contains m cur = true → ∀ l, Dict.get? st.o2n l =
      if l ∈ done ++ [cur] ∨ Dict.contains m l = true then some (connRen m pre l) else none := fun hc l => by
    rw [hi.o2n l]
    by_cases e : l = cur
    · simp [e, hc]
    · simp [e]
  have hold : ∀ {P : Label → Prop}, (∃ k ∈ done, P k) → ∃ k ∈ done ++ [cur], P k :=
    fun ⟨k, hk, h⟩ => ⟨k, List.mem_append_left _ hk, h⟩
  have husr := fun hw (hn : (done ++ [cur]).Nodup) => hi.users hw (List.nodup_append.mp hn).1
  obtain ⟨g, hf, ⟨hc, ops, c1, hm, ha, rfl⟩ | ⟨hc, hr, rfl⟩ | ⟨hc, hr, lbl, ops, hgo, hm, rfl⟩⟩ := connStep_ok_iff.mp hs
  · obtain ⟨_, hgl⟩ := find_some_mem hf
    obtain rfl := hren hf (fun o ho => by rw [Dict.get?_set, if_neg (fun e : o = cur => hcur (e ▸ ho))]) hm
    have eG : (⟨pre ++ cur, g.ty, g.ops.map (connRen m pre)⟩ : Gate) = g.ren (connRen m pre) := by
      rw [Gate.ren, hgl, connRen_copy hc]
    rw [eG] at ha
    obtain ⟨hfr, _, hg1, _, ho1, hb1, hu1⟩ := addGate_fields ha
    have hGl : (g.ren (connRen m pre)).label = pre ++ cur := by rw [← eG]
    refine ⟨fun l => ?_, fun k hk g' hf' hr => ?_, fun x hx => ?_, fun x hx hk => ?_, fun hr => ?_, ?_, fun k hk hck => ?_,
      ho1.trans hi.outputs, hb1.trans hi.blocks, nodup_recordGate hi.forBlockNodup, fun x => ?_,
      fun hw hn hp => (husr hw hn hp).append hg1 hu1⟩
    · simp only
      rw [Dict.get?_set, hi.o2n l]
      by_cases e : l = cur
      · simp [e, connRen_copy hc]
      · simp [e]
    · rw [hg1]
      rcases List.mem_append.mp hk with hk | hk
      · exact List.mem_append_left _ (hi.placed k hk g' hf' hr)
      · cases List.mem_singleton.mp hk
        cases hf.symm.trans hf'
        simp
    · rw [hg1] at hx
      rcases List.mem_append.mp hx with hx | hx
      · exact (hi.origin x hx).imp id hold
      · exact Or.inr ⟨cur, by simp, g, hf, by simp [hc], List.mem_singleton.mp hx⟩
    · rw [hg1]
      exact List.mem_append_left _ (hi.kept x hx fun hr k hk' => hk hr k (List.mem_append_left _ hk'))
    · obtain ⟨extra, e⟩ := hi.appends hr
      exact ⟨extra ++ [g.ren (connRen m pre)], by rw [hg1, e, List.append_assoc]⟩
    · rw [addGate_labels ha, hi.labels, List.filter_append, hGl]
      simp [hc]
    · rcases List.mem_append.mp hk with hk | hk
      · exact hi.fresh k hk hck
      · cases List.mem_singleton.mp hk
        exact fun h => hfr (hGl ▸ hsub _ h)
    · rw [mem_recordGate, hi.forBlock, exists_mem_snoc]
      simp [hf, hc, connRen_copy hc]
  · refine ⟨hkeep hc, fun k hk g' hf' hr' => ?_, fun x hx => (hi.origin x hx).imp id hold,
      fun x hx hk => hi.kept x hx fun hr k hk' => hk hr k (List.mem_append_left _ hk'), hi.appends, ?_, fun k hk hck => ?_,
      hi.outputs, hi.blocks, hi.forBlockNodup, fun x => ?_, husr⟩
    · rcases List.mem_append.mp hk with hk | hk
      · exact hi.placed k hk g' hf' hr'
      · cases List.mem_singleton.mp hk
        cases hr.symm.trans (hr' hc)
    · rw [hi.labels, List.filter_append]
      simp [hc]
    · rcases List.mem_append.mp hk with hk | hk
      · exact hi.fresh k hk hck
      · cases List.mem_singleton.mp hk
        cases hc.symm.trans hck
    · rw [hi.forBlock, exists_mem_snoc]
      simp [hf, hc, hr]
  · obtain ⟨_, hgl⟩ := find_some_mem hf
    obtain rfl := hren hf (fun _ _ => rfl) hm
    obtain ⟨x0, hm0⟩ := contains_iff_get?.mp hc
    have hφ : connRen m pre cur = x0 := connRen_mapped hm0
    obtain rfl : lbl = x0 := by
      rw [hi.o2n cur, if_pos (Or.inr hc), hφ] at hgo
      exact (Option.some.inj hgo).symm
    have eG : (⟨lbl, g.ty, g.ops.map (connRen m pre)⟩ : Gate) = g.ren (connRen m pre) := by
      rw [Gate.ren, hgl, hφ]
    rw [eG]
    have hGl : (g.ren (connRen m pre)).label = lbl := by rw [← eG]
    have hlc : lbl ∈ c.labels := hvals cur _ hm0
    obtain ⟨hgates, hlab, houts, hblks⟩ := rewire_fields (c := st.c) (g := g.ren (connRen m pre)) (hGl ▸ hsub _ hlc)
    refine ⟨hkeep hc, fun k hk g' hf' hr' => ?_, fun x hx => ?_, fun x hx hk => ?_, fun h => (nomatch hr.symm.trans h), ?_,
      fun k hk hck => ?_, houts.trans hi.outputs, hblks.trans hi.blocks, nodup_recordGate hi.forBlockNodup, fun x => ?_,
      fun hw hn hp => ?_⟩
    · rw [hgates]
      rcases List.mem_append.mp hk with hk | hk
      · refine mem_map_replG_of_ne (hi.placed k hk g' hf' hr') fun e => ?_
        -- an earlier gate stands elsewhere: a copy under a fresh label, a connector at another base input
        rw [hGl] at e
        have hk' : (g'.ren (connRen m pre)).label = connRen m pre k := by rw [Gate.ren, (find_some_mem hf').2]
        rw [hk'] at e
        cases hck : Dict.contains m k with
        | false => exact hi.fresh k hk hck (by rw [← connRen_copy hck, e]; exact hlc)
        | true =>
          obtain ⟨y, hy⟩ := contains_iff_get?.mp hck
          rw [connRen_mapped hy] at e
          exact hcur (hinj hr k cur lbl (e ▸ hy) hm0 ▸ hk)
      · cases List.mem_singleton.mp hk
        cases hf.symm.trans hf'
        exact mem_replG_self (by rw [hGl]; exact hsub _ hlc)
    · rcases mem_map_replG_cases (hgates ▸ hx) with ⟨hx, _⟩ | rfl
      · exact (hi.origin x hx).imp id hold
      · exact Or.inr ⟨cur, by simp, g, hf, fun _ => hr, rfl⟩
    · rw [hgates]
      refine mem_map_replG_of_ne (hi.kept x hx fun hr k hk' => hk hr k (List.mem_append_left _ hk')) fun e => ?_
      exact hk hr cur (by simp) (by rw [e, hGl]; exact hm0)
    · rw [hlab, hi.labels, List.filter_append]
      simp [hc]
    · rcases List.mem_append.mp hk with hk | hk
      · exact hi.fresh k hk hck
      · cases List.mem_singleton.mp hk
        cases hc.symm.trans hck
    · rw [mem_recordGate, hi.forBlock, exists_mem_snoc]
      simp [hf, hc, hr, hφ]
    · -- the input fed now has not been fed before
      refine (husr hw hn hp).rewire (hi.nodup (List.nodup_append.mp hn).1 hw.nodup) ?_
      rw [hGl]
      exact hi.kept _ (hp hr cur lbl hm0) fun _ k hk hk' => hcur (hinj hr k cur lbl hk' hm0 ▸ hk)

variable {c other : Circuit} {m : Dict Label} {pre : String} {right : Bool} {done : List Label} {st : ConnSt}

theorem ConnInv.ren_eq (hi : ConnInv c other m pre right done st) {l x : Label} (h : Dict.get? st.o2n l = some x) :
    x = connRen m pre l := by
  rw [hi.o2n l] at h
  split at h
  · exact (Option.some.inj h).symm
  · cases h

theorem ConnInv.mapLabels (hi : ConnInv c other m pre right done st) {ls r : List Label} (h : mapLabels st.o2n ls = .ok r) :
    r = ls.map (connRen m pre) :=
  mapLabels_ren h fun l hl => by obtain ⟨x, hx⟩ := mapLabels_defined h hl; rw [hx, hi.ren_eq hx]

theorem ConnInv.ren_mem (hvals : ∀ k x, Dict.get? m k = some x → x ∈ c.labels) (hi : ConnInv c other m pre right done st)
    {l : Label} (h : l ∈ done ∨ Dict.contains m l = true) : connRen m pre l ∈ st.c.labels := by
  rw [hi.labels]
  cases hc : Dict.contains m l with
  | true =>
    obtain ⟨x, hx⟩ := contains_iff_get?.mp hc
    rw [connRen_mapped hx]
    exact List.mem_append_left _ (hvals l x hx)
  | false =>
    rw [connRen_copy hc]
    exact List.mem_append_right _ (List.mem_map.mpr ⟨l, List.mem_filter.mpr ⟨h.resolve_right (by simp [hc]), by simp [hc]⟩, rfl⟩)

theorem ConnInv.vals (hvals : ∀ k x, Dict.get? m k = some x → x ∈ c.labels) (hi : ConnInv c other m pre right done st)
    (l x : Label) (h : Dict.get? st.o2n l = some x) : x ∈ st.c.labels := by
  rw [hi.o2n l] at h
  split at h
  · rename_i hl
    exact Option.some.inj h ▸ hi.ren_mem hvals hl
  · cases h

theorem ConnInv.forBlock_mem (hvals : ∀ k x, Dict.get? m k = some x → x ∈ c.labels) (hi : ConnInv c other m pre right done st)
    (x : Label) (h : x ∈ st.forBlock) : x ∈ st.c.labels := by
  obtain ⟨k, hk, _, _, _, _, rfl⟩ := (hi.forBlock x).mp h
  exact hi.ren_mem hvals (Or.inl hk)

end Cirbo
