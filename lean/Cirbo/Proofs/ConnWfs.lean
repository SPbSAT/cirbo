import Cirbo.Proofs.MoreOps
/-!
# Every connection keeps `WFS`, either direction

The right direction is read off the loop invariant `ConnInv`, for the circuit with its input list recomputed (`fixIn`).
-/
namespace Cirbo
open GateType Circuit

def inputsOf (G : List Gate) : List Label := (G.filter (fun g => g.ty = INPUT)).map (·.label)

/-- the circuit with its input list recomputed from the gates: inside the loop of a right connection the stored
list still names inputs already replaced -/
def fixIn (c : Circuit) : Circuit := { c with inputs := inputsOf c.gates }

theorem mem_inputsOf {G : List Gate} {l : Label} : l ∈ inputsOf G ↔ ∃ g ∈ G, g.label = l ∧ g.ty = INPUT := by
  unfold inputsOf
  simp only [List.mem_map, List.mem_filter, decide_eq_true_eq]
  exact ⟨fun ⟨g, ⟨h1, h2⟩, h3⟩ => ⟨g, h1, h3, h2⟩, fun ⟨g, h1, h3, h2⟩ => ⟨g, ⟨h1, h2⟩, h3⟩⟩

theorem inputsOf_nodup {G : List Gate} (h : (G.map (·.label)).Nodup) : (inputsOf G).Nodup :=
  List.Nodup.sublist (List.Sublist.map _ List.filter_sublist) h

theorem wfs_fixIn {c : Circuit} (hw : WFS c) : WFS (fixIn c) :=
  hw.withInputs (inputsOf_nodup hw.nodup) fun l => mem_inputsOf.trans (hw.inputsOK l).symm

variable {c other : Circuit} {m : Dict Label} {pre : String}

/-- the gates of `other` rank as in `other` (a fed input as the connector that feeds it), the gates of the base
above them all -/
theorem ConnInv.wfs_right {order : List Label} {st : ConnSt} (hw : WFS c) (hwo : WFS other)
    (hvals : ∀ k x, Dict.get? m k = some x → x ∈ c.labels)
    (hinj : ∀ k1 k2 x, Dict.get? m k1 = some x → Dict.get? m k2 = some x → k1 = k2)
    (hpend : ∀ k x, Dict.get? m k = some x → (⟨x, INPUT, []⟩ : Gate) ∈ c.gates)
    (hperm : order.Perm other.labels) (hi : ConnInv c other m pre true order st) : WFS (fixIn st.c) := by
  have hnd' : st.c.labels.Nodup := hi.nodup (hperm.nodup_iff.mpr hwo.nodup) hw.nodup
  have hsub : ∀ l ∈ c.labels, l ∈ st.c.labels := fun l hl => by rw [hi.labels]; exact List.mem_append_left _ hl
  have hφmem : ∀ l ∈ other.labels, connRen m pre l ∈ st.c.labels := fun l hl =>
    hi.ren_mem hvals (Or.inl (hperm.mem_iff.mpr hl))
  have horig : ∀ x ∈ st.c.gates, x ∈ c.gates ∨ ∃ g ∈ other.gates, x = g.ren (connRen m pre) := fun x hx =>
    (hi.origin x hx).imp id fun ⟨_, _, g, hf, _, e⟩ => ⟨g, (find_some_mem hf).1, e⟩
  -- a copy has a label outside the base; a connector goes to a base input
  have hbase : ∀ k ∈ other.labels, connRen m pre k ∈ c.labels → Dict.get? m k = some (connRen m pre k) := by
    intro k hk hc
    cases hck : Dict.contains m k with
    | false => exact absurd (connRen_copy hck ▸ hc) (hi.fresh k (hperm.mem_iff.mpr hk) hck)
    | true => obtain ⟨x, hx⟩ := contains_iff_get?.mp hck; rw [connRen_mapped hx, hx]
  have hφinj : ∀ k1 ∈ other.labels, ∀ k2 ∈ other.labels, connRen m pre k1 = connRen m pre k2 → k1 = k2 := by
    intro k1 h1 k2 h2 e
    cases hc1 : Dict.contains m k1 with
    | true =>
      obtain ⟨x, hx⟩ := contains_iff_get?.mp hc1
      have := hbase k2 h2 (e ▸ connRen_mapped hx ▸ hvals k1 x hx)
      exact hinj k1 k2 _ (by rw [hx, ← e, connRen_mapped hx]) this
    | false =>
      cases hc2 : Dict.contains m k2 with
      | true =>
        obtain ⟨x, hx⟩ := contains_iff_get?.mp hc2
        have := hbase k1 h1 (e ▸ connRen_mapped hx ▸ hvals k2 x hx)
        rw [contains_iff_get?.mpr ⟨_, this⟩] at hc1; cases hc1
      | false => rw [connRen_copy hc1, connRen_copy hc2] at e; exact (String.append_right_inj pre).mp e
  obtain ⟨uL, uC⟩ := users_of_count hnd' (hi.users hw (hperm.nodup_iff.mpr hwo.nodup) fun _ => hpend)
  refine ⟨hnd', fun x hx o ho => ?_, ?_, inputsOf_nodup hnd', fun _ => mem_inputsOf,
    fun o ho => hsub o (hw.outputsOK o (hi.outputs ▸ ho)), uL, uC,
    fun b hb => (hw.blocksOK b (hi.blocks ▸ hb)).imp (fun h l hl => hsub l (h l hl)) (fun h l hl => hsub l (h l hl)),
    fun x hx ht => ?_⟩
  · rcases horig x hx with h1 | ⟨g, hg, rfl⟩
    · exact hsub o (hw.closed x h1 o ho)
    · obtain ⟨o0, ho0, rfl⟩ := List.mem_map.mp ho
      exact hφmem o0 (hwo.closed g hg o0 ho0)
  · obtain ⟨rO, hrO⟩ := hwo.rank
    obtain ⟨rc, hrc⟩ := hw.rank
    let R := (other.labels.map rO).sum + 1
    classical
    let r' : Label → Nat := fun y => if hh : ∃ k ∈ other.labels, connRen m pre k = y then rO (Classical.choose hh) else R + rc y
    have hr1 : ∀ k ∈ other.labels, r' (connRen m pre k) = rO k := fun k hk => by
      have hh : ∃ k' ∈ other.labels, connRen m pre k' = connRen m pre k := ⟨k, hk, rfl⟩
      simp only [r', dif_pos hh]
      rw [hφinj _ (Classical.choose_spec hh).1 k hk (Classical.choose_spec hh).2]
    have hlow : ∀ y, (∃ k ∈ other.labels, connRen m pre k = y) → r' y < R := by
      rintro y ⟨k, hk, rfl⟩
      have := le_sum_of_mem rO other.labels k hk
      rw [hr1 k hk]; omega
    refine ⟨r', fun x hx o ho => ?_⟩
    rcases horig x hx with h1 | ⟨g, hg, rfl⟩
    · have hxn : ¬ ∃ k ∈ other.labels, connRen m pre k = x.label := by
        rintro ⟨k, hk, e⟩
        -- a fed input has no operands
        have h2 := gate_unique hw.nodup (hpend k _ (hbase k hk (e ▸ mem_labels_of_mem h1))) h1 e
        rw [← h2] at ho; cases ho
      have hx' : r' x.label = R + rc x.label := by simp only [r', dif_neg hxn]
      by_cases hon : ∃ k ∈ other.labels, connRen m pre k = o
      · have := hlow o hon; omega
      · have ho' : r' o = R + rc o := by simp only [r', dif_neg hon]
        have := hrc x h1 o ho; omega
    · obtain ⟨o0, ho0, rfl⟩ := List.mem_map.mp ho
      show r' (connRen m pre o0) < r' (connRen m pre g.label)
      rw [hr1 _ (hwo.closed g hg o0 ho0), hr1 _ (mem_labels_of_mem hg)]
      exact hrO g hg o0 ho0
  · rcases horig x hx with h1 | ⟨g, hg, rfl⟩
    · exact hw.inputOps x h1 ht
    · show g.ops.map _ = []
      rw [hwo.inputOps g hg ht]; rfl

theorem fixIn_setOutputs {c c1 : Circuit} {o : List Label} (h : c.setOutputs o = .ok c1) :
    (fixIn c).setOutputs o = .ok (fixIn c1) := by
  unfold setOutputs at h ⊢
  have : (fixIn c).checkGatesExist o = c.checkGatesExist o := rfl
  rw [this]
  split at h
  · cases h
  · simp only [Except.ok.injEq] at h; subst h; rfl

theorem fixIn_setInputs (c : Circuit) (ins : List Label) : (fixIn c).setInputs ins = c.setInputs ins := by
  unfold setInputs
  have h1 : (fixIn c).checkGatesExist ins = c.checkGatesExist ins := rfl
  have h2 : ∀ (l acc : List Label), setInputs.go (fixIn c) l acc = setInputs.go c l acc := by
    intro l
    induction l with
    | nil => intro acc; rfl
    | cons i r ih =>
      intro acc
      unfold setInputs.go
      have : (fixIn c).find? i = c.find? i := rfl
      rw [this]
      split
      · rfl
      · split
        · rfl
        · exact ih _
  rw [h1, h2]
  rfl

theorem connLoop_wfs {c other : Circuit} {thisC otherC : List Label} {pre : String} {right : Bool}
    {order : List Label} {st : ConnSt} (hw : WFS c) (hwo : WFS other)
    (hex : ∀ l ∈ thisC, l ∈ c.labels) (hndt : right = true → thisC.Nodup)
    (hty : right = true → ∀ l ∈ thisC, (c.find? l).map (·.ty) = some INPUT)
    (hperm : order.Perm other.labels)
    (hfold : order.foldl (connStep other (connMapping thisC otherC) pre right)
      (.ok ⟨c, connMapping thisC otherC, []⟩) = .ok st)
    (hi : ConnInv c other (connMapping thisC otherC) pre right order st) : WFS (fixIn st.c) := by
  cases right with
  | false => exact wfs_fixIn (connLoop_left_wfs hwo.inputOps (st0 := ⟨c, _, []⟩) hw hfold)
  | true =>
    have hvals : ∀ k x, Dict.get? (connMapping thisC otherC) k = some x → x ∈ thisC :=
      fun k x hk => (List.of_mem_zip (connMapping_mem_zip hk)).2
    refine hi.wfs_right hw hwo (fun k x hk => hex x (hvals k x hk)) (fun _ _ _ => connMapping_inj (hndt rfl))
      (fun k x hk => ?_) hperm
    -- a fed input is an INPUT gate of the base, so it has no operands
    obtain ⟨g, hg, rfl, ht⟩ := gate_of_find_ty (hty rfl x (hvals k x hk))
    exact hw.inputGate_mem ((hw.inputsOK _).mpr ⟨g, hg, rfl, ht⟩)

theorem connect_wfs {c other c' : Circuit} {thisC otherC : List Label} {right : Bool} {name : Label} {addP : Bool}
    (hw : WFS c) (hwo : WFS other) (h : c.connectCircuit other thisC otherC right name addP = .ok c') : WFS c' := by
  obtain ⟨_, hex, _, _, hndt, _, hty, _⟩ := connectCircuit_ok_iff.mp h
  obtain ⟨order, st, hperm, _, hfold, hfin, hinv⟩ := connect_run hwo.toWFG h
  have hmvals : ∀ l x, Dict.get? (connMapping thisC otherC) l = some x → x ∈ c.labels :=
    fun l x hl => hex x (List.of_mem_zip (connMapping_mem_zip hl)).2
  -- `set_inputs` overwrites the input list, so the invariant of the loop state with its inputs recomputed is enough
  exact connFinish_wfs (fun h2 h5 => setInputs_wfs (setOutputs_wfs
      (connLoop_wfs hw hwo hex hndt (fun hr => by simpa [hr] using hty) hperm hfold hinv) (fixIn_setOutputs h2))
      (by rw [fixIn_setInputs]; exact h5)) (hinv.vals hmvals) (hinv.forBlock_mem hmvals) hfin

end Cirbo
