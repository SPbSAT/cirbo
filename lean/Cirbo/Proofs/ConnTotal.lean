import Cirbo.Proofs.ConnWfs
/-!
# `connect_circuit` returns

An iteration returns when the operands have been renamed and the copy's label is free; the tail returns from a state
that is well formed with its input list recomputed.
-/
namespace Cirbo
open GateType Circuit

theorem ConnInv.step_returns {c other : Circuit} {m : Dict Label} {pre : String} {right : Bool} {done : List Label}
    {st : ConnSt} {cur : Label} {g : Gate} (hvals : ∀ k x, Dict.get? m k = some x → x ∈ c.labels)
    (hi : ConnInv c other m pre right done st) (hcur : cur ∉ done)
    (hf : other.find? cur = some g) (hops : ∀ o ∈ g.ops, o ∈ done)
    (hfresh : Dict.contains m cur = false → pre ++ cur ∉ c.labels) :
    ∃ st', connStep other m pre right (.ok st) cur = .ok st' := by
  have hdef : ∀ o ∈ g.ops, Dict.get? st.o2n o = some (connRen m pre o) := fun o ho => by
    rw [hi.o2n o, if_pos (Or.inl (hops o ho))]
  cases hc : Dict.contains m cur with
  | true =>
    cases right with
    | false => exact ⟨st, connStep_ok_iff.mpr ⟨g, hf, Or.inr (Or.inl ⟨hc, rfl, rfl⟩)⟩⟩
    | true =>
      obtain ⟨ops, hm⟩ := mapLabels_ok_of_all st.o2n g.ops fun o ho => ⟨_, hdef o ho⟩
      exact ⟨_, connStep_ok_iff.mpr ⟨g, hf, Or.inr (Or.inr ⟨hc, rfl, _, ops, by rw [hi.o2n cur, if_pos (Or.inr hc)], hm, rfl⟩)⟩⟩
  | false =>
    have hne : ∀ o ∈ g.ops, o ≠ cur := fun o ho e => hcur (e ▸ hops o ho)
    obtain ⟨ops, hm⟩ := mapLabels_ok_of_all (Dict.set st.o2n cur (pre ++ cur)) g.ops fun o ho =>
      ⟨_, by rw [Dict.get?_set, if_neg (hne o ho)]; exact hdef o ho⟩
    obtain ⟨c1, ha, _⟩ := addGate_returns (n := st.c) (g := ⟨pre ++ cur, g.ty, ops⟩)
      (by
        -- not a base label, not the copy of an earlier gate
        rw [hi.labels, List.mem_append]
        rintro (h1 | h1)
        · exact hfresh hc h1
        · obtain ⟨x, hx, he⟩ := List.mem_map.mp h1
          exact hcur ((String.append_right_inj pre).mp he ▸ (List.mem_filter.mp hx).1))
      (fun o ho => by
        obtain ⟨l, hl, hg⟩ := mapLabels_values hm ho
        rw [Dict.get?_set, if_neg (hne l hl), hdef l hl] at hg
        exact Option.some.inj hg ▸ hi.ren_mem hvals (Or.inl (hops l hl)))
    exact ⟨_, connStep_ok_iff.mpr ⟨g, hf, Or.inl ⟨hc, ops, c1, hm, ha, rfl⟩⟩⟩

/-- hypotheses: the loop's final state — well formed with inputs recomputed, renaming defined on `other` with values
in the state, base labels and blocks kept, `other`'s unconnected inputs copied as the only new INPUT gates — then the
four of `c10_left_connection_returns` on copy labels and block names -/
theorem connFinish_returns {c other : Circuit} {st : ConnSt} {thisC otherC : List Label} {name : Label} {pre : String}
    (hw : WFS c) (hwo : WFS other) (hwst : WFS (fixIn st.c))
    (hvals : ∀ l x, Dict.get? st.o2n l = some x → x ∈ st.c.labels)
    (ho2n : ∀ l ∈ other.labels, ∃ x, Dict.get? st.o2n l = some x)
    (hcsub : ∀ l ∈ c.labels, l ∈ st.c.labels) (hblks : st.c.blocks = c.blocks)
    (hcopy : ∀ g ∈ other.gates, g.ty = INPUT → g.label ∉ otherC →
      Dict.get? st.o2n g.label = some (pre ++ g.label) ∧ ∃ ops', (⟨pre ++ g.label, INPUT, ops'⟩ : Gate) ∈ st.c.gates)
    (hsub : ∀ x ∈ st.c.gates, x.ty = INPUT → x.label ∈ c.inputs ∨
      ∃ g ∈ other.gates, g.ty = INPUT ∧ g.label ∉ otherC ∧ x.label = pre ++ g.label)
    (hfresh : ∀ g ∈ other.gates, g.label ∉ otherC → pre ++ g.label ∉ c.labels)
    (hbn : ∀ b ∈ other.blocks, c.blocks.any (fun x => x.name == pre ++ b.name) = false)
    (hbd : (other.blocks.map (·.name)).Nodup)
    (hbo : ∀ b ∈ other.blocks, ∀ l ∈ b.outputs, l ∈ other.labels) :
    ∃ c', connFinish c other st thisC otherC name pre = .ok c' := by
  have hoin : ∀ l ∈ other.inputs, ∃ g ∈ other.gates, g.label = l ∧ g.ty = INPUT := fun l hl => (hwo.inputsOK l).mp hl
  have hoinL : ∀ l ∈ other.inputs, l ∈ other.labels := fun _ => hwo.input_label
  have hcin : ∀ l ∈ c.inputs, l ∈ c.labels := fun _ => hw.input_label
  obtain ⟨outs2, ho2⟩ := mapLabels_ok_of_all st.o2n (other.outputs.filter (fun o => !otherC.contains o))
    (fun l hl => ho2n l (hwo.outputsOK l (List.mem_filter.mp hl).1))
  obtain ⟨c1, hso⟩ := setOutputs_returns (n := st.c) (outs := st.c.outputs.filter (fun o => !thisC.contains o) ++ outs2) (by
    intro o ho
    rcases List.mem_append.mp ho with ho | ho
    · exact hwst.outputsOK o (List.mem_filter.mp ho).1
    · obtain ⟨l, _, hg⟩ := mapLabels_values ho2 ho
      exact hvals l o hg)
  have hg1 := setOutputs_gates hso
  have hl1 : c1.labels = st.c.labels := by unfold Circuit.labels; rw [hg1]
  have hnd1 : c1.labels.Nodup := hl1 ▸ hwst.nodup
  obtain ⟨ins2, hi2⟩ := mapLabels_ok_of_all st.o2n (other.inputs.filter (fun i => !otherC.contains i))
    (fun l hl => ho2n l (hoinL l (List.mem_filter.mp hl).1))
  have hany : c.inputs.any (fun i => !c1.hasGate i) = false := by
    rw [List.any_eq_false]
    intro i hi
    simp [(hasGate_iff c1 i).mpr (hl1 ▸ hcsub i (hcin i hi))]
  have hunc : ∀ l ∈ other.inputs.filter (fun i => !otherC.contains i),
      ∃ g ∈ other.gates, g.label = l ∧ g.ty = INPUT ∧ l ∉ otherC := fun l hl => by
    obtain ⟨g, hg, hgl, hty⟩ := hoin l (List.mem_filter.mp hl).1
    exact ⟨g, hg, hgl, hty, by simpa using (List.mem_filter.mp hl).2⟩
  have hins2 : ins2 = (other.inputs.filter (fun i => !otherC.contains i)).map (fun l => pre ++ l) := by
    refine mapLabels_ren hi2 fun l hl => ?_
    obtain ⟨g, hg, rfl, hty, hnot⟩ := hunc l hl
    exact (hcopy g hg hty hnot).1
  obtain ⟨c2, hsi⟩ := setInputs_returns (n := c1) hnd1
    (ins := c.inputs.filter (fun i => ((c1.find? i).map (·.ty)) == some INPUT) ++ ins2) (by
      rw [List.nodup_append, hins2]
      refine ⟨hw.inputsNodup.sublist List.filter_sublist,
        (hwo.inputsNodup.sublist List.filter_sublist).map _ fun _ _ hab e => hab ((String.append_right_inj _).mp e), ?_⟩
      rintro a ha b hb rfl
      obtain ⟨l, hl, rfl⟩ := List.mem_map.mp hb
      obtain ⟨g, hg, rfl, _, hnot⟩ := hunc l hl
      exact hfresh g hg hnot (hcin _ (List.mem_filter.mp ha).1))
    (by
      intro i hi
      rcases List.mem_append.mp hi with hi | hi
      · exact gate_of_find_ty (beq_iff_eq.mp (List.mem_filter.mp hi).2)
      · rw [hins2] at hi
        obtain ⟨l, hl, rfl⟩ := List.mem_map.mp hi
        obtain ⟨g, hg, rfl, hty, hnot⟩ := hunc l hl
        obtain ⟨ops', e3⟩ := (hcopy g hg hty hnot).2
        exact ⟨_, hg1 ▸ e3, rfl, rfl⟩)
    (by
      intro x hx hty
      rcases hsub x (hg1 ▸ hx) hty with h1 | ⟨g, hg, hgt, hnot, hxl⟩
      · refine List.mem_append_left _ (List.mem_filter.mpr ⟨h1, ?_⟩)
        simp [find_label hnd1 hx, hty]
      · refine List.mem_append_right _ ?_
        rw [hins2, hxl]
        exact List.mem_map.mpr ⟨g.label, List.mem_filter.mpr ⟨(hwo.inputsOK _).mpr ⟨g, hg, rfl, hgt⟩, by simpa using hnot⟩, rfl⟩)
  have hb2 : c2.blocks = c.blocks := by rw [setInputs_blocks hsi, setOutputs_blocks hso, hblks]
  obtain ⟨c3, hbf⟩ := bfold_ok (o2n := st.o2n) (pre := pre) other.blocks c2
    (fun b hb => by rw [hb2]; exact hbn b hb) hbd
    (fun b hb l hl => ho2n l (hl.elim ((hwo.blocksOK b hb).2 l) fun hl => hl.elim ((hwo.blocksOK b hb).1 l) (hbo b hb l)))
  obtain ⟨bi, hbi⟩ := mapLabels_ok_of_all st.o2n other.inputs (fun l hl => ho2n l (hoinL l hl))
  obtain ⟨bo, hbo'⟩ := mapLabels_ok_of_all st.o2n other.outputs (fun l hl => ho2n l (hwo.outputsOK l hl))
  by_cases hn : name = ""
  · exact ⟨c3, connFinish_ok_iff.mpr ⟨outs2, c1, ins2, c2, c3, ho2, hso, hi2, hany, hsi, hbf, by simp [hn]⟩⟩
  · exact ⟨_, connFinish_ok_iff.mpr ⟨outs2, c1, ins2, c2, c3, ho2, hso, hi2, hany, hsi, hbf, by
      simp only [hn, if_false]; exact ⟨bi, bo, hbi, hbo', rfl⟩⟩⟩

theorem connect_total_setup {c other : Circuit} {thisC otherC : List Label} {pre : String} (hwo : WFS other)
    (hlen : thisC.length = otherC.length)
    (hfresh : ∀ g ∈ other.gates, g.label ∉ otherC → pre ++ g.label ∉ c.labels) :
    ∃ order, other.topSort true = .ok order ∧ order.Perm other.labels ∧ order.Nodup ∧
      (∀ p l q, order = p ++ l :: q → ∀ g ∈ other.gates, g.label = l → ∀ o ∈ g.ops, o ∈ p) ∧
      (∀ cur ∈ order, ∃ g, other.find? cur = some g) ∧
      (∀ cur g, other.find? cur = some g → Dict.contains (connMapping thisC otherC) cur = false →
        g ∈ other.gates ∧ g.label = cur ∧ cur ∉ otherC ∧ pre ++ cur ∉ c.labels) := by
  obtain ⟨order, hts, hperm, hord⟩ := topSort_inv_spec hwo.toWFG
  refine ⟨order, hts, hperm, hperm.nodup_iff.mpr hwo.nodup, hord, fun cur hcur => ?_, fun cur g hf hc => ?_⟩
  · obtain ⟨g, hg, hgl⟩ := gate_of_label (hperm.mem_iff.mp hcur)
    exact ⟨g, hgl ▸ find_label hwo.nodup hg⟩
  · obtain ⟨hgm, hgl⟩ := find_some_mem hf
    have hn : cur ∉ otherC := fun hm => by rw [connMapping_mem hlen hm] at hc; cases hc
    exact ⟨hgm, hgl, hn, hgl ▸ hfresh g hgm (hgl ▸ hn)⟩

/-- hypotheses: the checks of `connectCircuit_ok_iff`, then the four of `c10_left_connection_returns` on copy labels
and block names -/
theorem connect_total {c other : Circuit} {thisC otherC : List Label} {right : Bool} {name : Label} {addP : Bool}
    (hw : WFS c) (hwo : WFS other)
    (hblk : c.blocks.any (fun b => b.name == name) = false)
    (hthis : ∀ l ∈ thisC, l ∈ c.labels) (hothL : ∀ l ∈ otherC, l ∈ other.labels)
    (hndo : otherC.Nodup) (hndt : right = true → thisC.Nodup) (hlen : thisC.length = otherC.length)
    (hty : if right then ∀ l ∈ thisC, (c.find? l).map (·.ty) = some INPUT
       else ∀ l ∈ otherC, (other.find? l).map (·.ty) = some INPUT)
    (hfresh : ∀ g ∈ other.gates, g.label ∉ otherC → connPre name addP ++ g.label ∉ c.labels)
    (hbn : ∀ b ∈ other.blocks, c.blocks.any (fun x => x.name == connPre name addP ++ b.name) = false)
    (hbd : (other.blocks.map (·.name)).Nodup)
    (hbo : ∀ b ∈ other.blocks, ∀ l ∈ b.outputs, l ∈ other.labels) :
    ∃ c', c.connectCircuit other thisC otherC right name addP = .ok c' := by
  obtain ⟨order, hts, hperm, hndord, hord, hfind, hunm⟩ := connect_total_setup (thisC := thisC) hwo hlen hfresh
  have hmvals : ∀ l x, Dict.get? (connMapping thisC otherC) l = some x → x ∈ c.labels :=
    fun l x hl => hthis x (List.of_mem_zip (connMapping_mem_zip hl)).2
  have htyR : right = true → ∀ l ∈ thisC, (c.find? l).map (·.ty) = some INPUT := fun hr => by simpa [hr] using hty
  obtain ⟨st, hfold, hinv⟩ := connLoop_returns (right := right)
    (P := ConnInv c other (connMapping thisC otherC) (connPre name addP) right) (order := order)
    (fun done cur rest st e hi => by
      obtain ⟨hcur, hops⟩ := topo_prefix hndord hord e
      obtain ⟨g, hf⟩ := hfind cur (by simp [e])
      obtain ⟨st', hs⟩ := hi.step_returns hmvals hcur hf (hops g hf) (fun hc => (hunm cur g hf hc).2.2.2)
      exact ⟨st', hs, hi.step hmvals (fun hr _ _ _ => connMapping_inj (hndt hr)) hcur hops hs⟩)
    (ConnInv.start ..)
  obtain ⟨c', hfin⟩ := connFinish_returns (thisC := thisC) (otherC := otherC) (name := name) hw hwo
    (connLoop_wfs hw hwo hthis hndt htyR hperm hfold hinv) (hinv.vals hmvals)
    (fun l hl => ⟨_, by rw [hinv.o2n l, if_pos (Or.inl (hperm.mem_iff.mpr hl))]⟩)
    (fun l hl => by rw [hinv.labels]; exact List.mem_append_left _ hl) hinv.blocks
    (fun g hg hgt hn => by
      have hk := hperm.mem_iff.mpr (mem_labels_of_mem hg)
      have hc := connMapping_not_mem (thisC := thisC) hn
      have := hinv.placed _ hk g (find_label hwo.nodup hg) (fun h => by rw [hc] at h; cases h)
      rw [Gate.ren, connRen_copy hc, hgt] at this
      exact ⟨by rw [hinv.o2n, if_pos (Or.inl hk), connRen_copy hc], _, this⟩)
    (fun x hx hxt => by
      rcases hinv.origin x hx with h1 | ⟨k, _, g, hf, hdir, rfl⟩
      · exact Or.inl ((hw.inputsOK x.label).mpr ⟨x, h1, rfl, hxt⟩)
      · obtain ⟨hgm, hgl⟩ := find_some_mem hf
        cases hc : Dict.contains (connMapping thisC otherC) k with
        | true =>
          -- a connector placed by a right connection stands at a base input
          obtain ⟨y, hy⟩ := contains_iff_get?.mp hc
          refine Or.inl ((hw.inputsOK _).mpr (gate_of_find_ty ?_))
          rw [Gate.ren, hgl, connRen_mapped hy]
          exact htyR (hdir hc) y (List.of_mem_zip (connMapping_mem_zip hy)).2
        | false =>
          obtain ⟨_, _, hn, _⟩ := hunm k g hf hc
          exact Or.inr ⟨g, hgm, hxt, hgl ▸ hn, by rw [Gate.ren, hgl, connRen_copy hc]⟩)
    hfresh hbn hbd hbo
  exact ⟨c', connectCircuit_ok_iff.mpr ⟨hblk, hthis, hothL, hndo, hndt, hlen, hty, order, st, hts, hfold, hfin⟩⟩

/-! Five structures that state the loop's state with the renaming read off its dictionary `st.o2n`. No theorem is
stated with them: the loop's theorems use `ConnInv`, which says the same with the renaming `connRen`. -/

structure CInv (other : Circuit) (mapping : Dict Label) (pre : String) (done : List Label) (st : ConnSt) : Prop where
  added : ∀ cur ∈ done, ∀ g, other.find? cur = some g → Dict.contains mapping cur = false →
    Dict.get? st.o2n cur = some (pre ++ cur) ∧
    ∃ ops', All2 (fun l x => Dict.get? st.o2n l = some x) g.ops ops' ∧ (⟨pre ++ cur, g.ty, ops'⟩ : Gate) ∈ st.c.gates
  mapped : ∀ l x, Dict.get? mapping l = some x → Dict.get? st.o2n l = some x

structure CInvR (c other : Circuit) (mapping : Dict Label) (pre : String) (done : List Label) (st : ConnSt) : Prop where
  added : ∀ cur ∈ done, ∀ g, other.find? cur = some g → Dict.contains mapping cur = false →
    Dict.get? st.o2n cur = some (pre ++ cur) ∧ pre ++ cur ∉ c.labels ∧
    ∃ ops', All2 (fun l x => Dict.get? st.o2n l = some x) g.ops ops' ∧ (⟨pre ++ cur, g.ty, ops'⟩ : Gate) ∈ st.c.gates
  conn : ∀ cur ∈ done, ∀ g, other.find? cur = some g → ∀ lbl, Dict.get? mapping cur = some lbl →
    ∃ ops', All2 (fun l x => Dict.get? st.o2n l = some x) g.ops ops' ∧ (⟨lbl, g.ty, ops'⟩ : Gate) ∈ st.c.gates
  mapped : ∀ l x, Dict.get? mapping l = some x → Dict.get? st.o2n l = some x
  lab : ∀ l ∈ c.labels, l ∈ st.c.labels
  base : ∀ g ∈ c.gates, (∀ k, Dict.get? mapping k ≠ some g.label) → g ∈ st.c.gates
  outs : st.c.outputs = c.outputs
  blks : st.c.blocks = c.blocks

/-- what the next iteration of a left connection needs of the state to return -/
structure CTInv (c other : Circuit) (mapping : Dict Label) (pre : String) (done : List Label) (st : ConnSt) : Prop where
  lab : st.c.labels = c.labels ++ (done.filter (fun l => !Dict.contains mapping l)).map (fun l => pre ++ l)
  o2n : ∀ l ∈ done, ∃ x, Dict.get? st.o2n l = some x
  mapped : ∀ l x, Dict.get? mapping l = some x → Dict.get? st.o2n l = some x
  vals : ∀ l x, Dict.get? st.o2n l = some x → x ∈ st.c.labels
  sub : ∀ x ∈ st.c.gates, x ∈ c.gates ∨ ∃ cur ∈ done, ∃ g, other.find? cur = some g ∧
    Dict.contains mapping cur = false ∧ x.label = pre ++ cur ∧ x.ty = g.ty

/-- the same for a right connection, where only the INPUT gates are followed -/
structure CTInvR (c other : Circuit) (mapping : Dict Label) (pre : String) (done : List Label) (st : ConnSt) : Prop where
  lab : st.c.labels = c.labels ++ (done.filter (fun l => !Dict.contains mapping l)).map (fun l => pre ++ l)
  o2n : ∀ l ∈ done, ∃ x, Dict.get? st.o2n l = some x
  mapped : ∀ l x, Dict.get? mapping l = some x → Dict.get? st.o2n l = some x
  vals : ∀ l x, Dict.get? st.o2n l = some x → x ∈ st.c.labels
  sub : ∀ x ∈ st.c.gates, x.ty = INPUT → x.label ∈ c.inputs ∨ ∃ cur ∈ done, ∃ g, other.find? cur = some g ∧
    Dict.contains mapping cur = false ∧ x.label = pre ++ cur ∧ g.ty = INPUT

/-- a right connection after `done`, with a rank function that follows `other`'s rank `rO` along the renaming -/
structure RKInv (other : Circuit) (mapping : Dict Label) (rO : Label → Nat) (done : List Label) (st : ConnSt) : Prop where
  wfs : WFS (fixIn st.c)
  vals : ∀ l x, Dict.get? st.o2n l = some x → x ∈ st.c.labels
  forB : ∀ x ∈ st.forBlock, x ∈ st.c.labels
  mapped : ∀ l x, Dict.get? mapping l = some x → Dict.get? st.o2n l = some x
  rk : ∃ r' : Label → Nat, (∀ g ∈ st.c.gates, ∀ o ∈ g.ops, r' o < r' g.label) ∧
    (∀ x ∈ done, ∀ y, Dict.get? st.o2n x = some y → r' y = rO x) ∧
    (∀ k lbl, Dict.get? mapping k = some lbl → r' lbl = rO k)
  pend : ∀ k lbl, Dict.get? mapping k = some lbl → k ∉ done → (⟨lbl, INPUT, []⟩ : Gate) ∈ st.c.gates

end Cirbo
