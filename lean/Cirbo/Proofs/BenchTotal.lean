import Cirbo.Proofs.BenchWfs
/-!
# Totality and error range of `into_bench` (C14)

`bt_intoBench_cases` gives the outcome of the conversion of a well-formed circuit completely, each error with its
cause; the other statements are read off from it.
-/
namespace Cirbo
open GateType Circuit

/-- the helper labels that `into_bench` draws when it walks over `todo` with the counter at `k`
(one uuid per comparison gate and per constant, in storage order) -/
def bt_drawn : List Gate → Nat → List Label
  | [], _ => []
  | g :: r, k =>
    match bt_tag g.ty with
    | some t => convLabel t g k :: bt_drawn r (k + 1)
    | none => bt_drawn r k

def bt_tags : List String := ["LT", "LEQ", "GT", "GEQ", "ALWAYS_TRUE", "ALWAYS_FALSE"]

theorem bt_tag_mem {ty : GateType} {t : String} (h : bt_tag ty = some t) : t ∈ bt_tags := by
  cases ty <;> simp [bt_tag] at h <;> subst h <;> simp [bt_tags]

/-- a generated label determines the label of the gate it was generated for: no tag contains the letter
`f`, so the tag is what precedes the first `f` less one `_`, and the uuid part has the fixed width of 32
characters -/
theorem bt_convLabel_inj {t1 t2 : String} (h1 : t1 ∈ bt_tags) (h2 : t2 ∈ bt_tags) {g1 g2 : Gate} {k1 k2 : Nat}
    (h : convLabel t1 g1 k1 = convLabel t2 g2 k2) : g1.label = g2.label := by
  have cut : ∀ t ∈ bt_tags, ∀ r,
      (t.toList ++ ("_for_".toList ++ r)).takeWhile (· != 'f') = t.toList ++ ['_'] := by
    intro t ht r
    have hf : ∀ ch ∈ t.toList, ch ≠ 'f' := (by decide : ∀ t ∈ bt_tags, ∀ ch ∈ t.toList, ch ≠ 'f') t ht
    rw [List.takeWhile_append_of_pos (by simpa using hf)]
    simp
  have hl := congrArg String.toList h
  unfold convLabel at hl
  simp only [String.toList_append, List.append_assoc] at hl
  have hl := List.append_cancel_left hl
  have ht := congrArg (List.takeWhile (· != 'f')) hl
  rw [cut t1 h1, cut t2 h2] at ht
  rw [List.append_cancel_right ht] at hl
  have key := List.append_cancel_left (List.append_cancel_left hl)
  exact String.toList_inj.mp (List.append_inj' key (by simp [hex32])).1

theorem bt_drawn_cons (g : Gate) (r : List Gate) (k : Nat) :
    bt_drawn (g :: r) k = bt_drawn [g] k ++ bt_drawn r (k + (bt_drawn [g] k).length) := by
  simp only [bt_drawn]
  cases bt_tag g.ty <;> simp

theorem bt_drawn_mem : ∀ (todo : List Gate) (k : Nat) (l : Label), l ∈ bt_drawn todo k →
    ∃ g ∈ todo, ∃ t k', bt_tag g.ty = some t ∧ l = convLabel t g k' ∧ k ≤ k' ∧ k' < k + todo.length := by
  intro todo
  induction todo with
  | nil => intro k l h; cases h
  | cons g r ih =>
    intro k l h
    simp only [bt_drawn] at h
    cases ht : bt_tag g.ty with
    | none =>
      rw [ht] at h
      obtain ⟨g', hg', t, k', a, b, c1, c2⟩ := ih k l h
      exact ⟨g', List.mem_cons_of_mem _ hg', t, k', a, b, c1, by simp only [List.length_cons]; omega⟩
    | some t =>
      rw [ht] at h
      simp only [List.mem_cons] at h
      rcases h with rfl | h
      · exact ⟨g, List.mem_cons_self, t, k, ht, rfl, Nat.le_refl _, by simp only [List.length_cons]; omega⟩
      · obtain ⟨g', hg', t', k', a, b, c1, c2⟩ := ih (k + 1) l h
        exact ⟨g', List.mem_cons_of_mem _ hg', t', k', a, b, by omega, by simp only [List.length_cons]; omega⟩

theorem bt_drawn_nodup : ∀ (todo : List Gate) (k : Nat), (todo.map (·.label)).Nodup → (bt_drawn todo k).Nodup := by
  intro todo
  induction todo with
  | nil => intro k _; simp [bt_drawn]
  | cons g r ih =>
    intro k hnd
    simp only [List.map_cons, List.nodup_cons] at hnd
    simp only [bt_drawn]
    cases ht : bt_tag g.ty with
    | none => exact ih k hnd.2
    | some t =>
      simp only [List.nodup_cons]
      refine ⟨?_, ih (k + 1) hnd.2⟩
      intro hm
      obtain ⟨g', hg', t', k', a, b, _, _⟩ := bt_drawn_mem r (k + 1) _ hm
      have := bt_convLabel_inj (bt_tag_mem ht) (bt_tag_mem a) b
      exact hnd.1 (List.mem_map.mpr ⟨g', hg', this.symm⟩)

/-- The ways a conversion from `cur` with the uuid counter at `k` can end, each with its cause: `new` are the helper
labels it draws, `short` says that a comparison / L*R* gate lacks an operand, `noIn` that a constant meets a circuit
without inputs.  The same four cases describe one `convert_gate` call and the whole loop. -/
def ConvOutcome (cur : Circuit) (k : Nat) (new : List Label) (short noIn : Prop) (r : R (Circuit × Nat)) : Prop :=
  (∃ c1, r = .ok (c1, k + new.length) ∧ c1.inputs = cur.inputs ∧ c1.labels = cur.labels ++ new ∧
    ¬ short ∧ (∀ l ∈ new, l ∉ cur.labels) ∧ ¬ noIn) ∨
  (r = .error "GateDoesntExistError" ∧ noIn) ∨
  (r = .error "CircuitValidationError" ∧ ∃ l ∈ new, l ∈ cur.labels) ∨
  (r = .error "Py:IndexError" ∧ short)

theorem Carries.outcome {c : Circuit} {g : Gate} {k : Nat} {r : R (Circuit × Nat)} {p : Rw} (hc : Carries c g k r p)
    (hops : ∀ x ∈ p.H, ∀ o ∈ x.ops, o ∈ c.labels) {short noIn : Prop} (hs : ¬ short) (hi : ¬ noIn) :
    ConvOutcome c k (p.H.map (·.label)) short noIn r := by
  by_cases hA : ∀ l ∈ p.H.map (·.label), l ∉ c.labels
  · obtain ⟨c1, he, hR⟩ := hc.1 fun x hx => ⟨hA _ (List.mem_map_of_mem hx), hops x hx⟩
    exact .inl ⟨c1, by rw [he, List.length_map], hR.inputs, hR.labels, hs, hA, hi⟩
  · refine .inr (.inr (.inl ⟨hc.2 fun h => hA fun l hl => ?_, Classical.not_forall_not.mp fun h => hA fun l hl hm => h l ⟨hl, hm⟩⟩))
    obtain ⟨x, hx, rfl⟩ := List.mem_map.mp hl
    exact (h x hx).1

theorem bt_step_outcome {cur : Circuit} {g : Gate} {k : Nat}
    (hcl : ∀ o ∈ g.ops, o ∈ cur.labels) (hinp : ∀ f, cur.inputs[0]? = some f → f ∈ cur.labels) :
    ConvOutcome cur k (bt_drawn [g] k) (bt_isBin g.ty = true ∧ g.ops.length < 2)
      (bt_isConst g.ty = true ∧ cur.inputs = []) (cur.convertGate g k) := by
  have ht := convKind_bt g.ty
  have ho := convertGate_outcome cur g k
  unfold convPlan at ho
  cases hk : convKind g.ty <;> simp only [hk] at ht ho <;>
    simp only [bt_drawn, ht.1, ht.2.1, ht.2.2, Bool.false_eq_true, false_and, true_and]
  case keep => exact .inl ⟨cur, ho, rfl, (List.append_nil _).symm, not_false, nofun, not_false⟩
  case neg tag idx ty =>
    rcases hops : g.ops with _ | ⟨x, _ | ⟨y, rest⟩⟩ <;> simp only [hops] at ho
    · exact .inr (.inr (.inr ⟨ho, by simp⟩))
    · exact .inr (.inr (.inr ⟨ho, by simp⟩))
    · refine ho.outcome (fun z hz o ho' => ?_) (by simp) not_false
      rw [List.mem_singleton.mp hz] at ho'
      rw [List.mem_singleton.mp ho']
      split <;> exact hcl _ (by simp [hops])
  case drop idx ty =>
    rcases hops : g.ops with _ | ⟨x, _ | ⟨y, rest⟩⟩ <;> simp only [hops] at ho
    · exact .inr (.inr (.inr ⟨ho, by simp⟩))
    · exact .inr (.inr (.inr ⟨ho, by simp⟩))
    · exact ho.outcome nofun (by simp) not_false
  case const tag ty =>
    rcases hi : cur.inputs with _ | ⟨f, rest⟩ <;> simp only [hi] at ho
    · exact .inr (.inl ⟨ho, rfl⟩)
    · refine ho.outcome (fun z hz o ho' => ?_) not_false nofun
      rw [List.mem_singleton.mp hz] at ho'
      rw [List.mem_singleton.mp ho']
      exact hinp f (by rw [hi]; rfl)

theorem bt_fold_outcome : ∀ (todo : List Gate) (cur : Circuit) (k : Nat),
    (∀ g ∈ todo, ∀ o ∈ g.ops, o ∈ cur.labels) → (bt_drawn todo k).Nodup →
    (∀ f, cur.inputs[0]? = some f → f ∈ cur.labels) →
    ConvOutcome cur k (bt_drawn todo k) (∃ g ∈ todo, bt_isBin g.ty = true ∧ g.ops.length < 2)
      (∃ g ∈ todo, bt_isConst g.ty = true ∧ cur.inputs = []) (todo.foldl convStep (.ok (cur, k))) := by
  intro todo
  induction todo with
  | nil => intro cur k _ _ _; exact .inl ⟨cur, rfl, rfl, (List.append_nil _).symm, nofun, nofun, nofun⟩
  | cons g rest ih =>
    intro cur k hcl hnd hinp
    rw [List.foldl_cons, show convStep (.ok (cur, k)) g = cur.convertGate g k from rfl, bt_drawn_cons]
    rw [bt_drawn_cons] at hnd
    have hnd' := List.nodup_append.mp hnd
    rcases bt_step_outcome (k := k) (hcl g List.mem_cons_self) hinp with
      ⟨c1, hc1, hins, hlab, s1, s2, s3⟩ | ⟨he, x⟩ | ⟨he, l, hl, hm⟩ | ⟨he, x⟩
    · -- the step returns: the rest of the loop runs from `c1`, whose labels are those of `cur` and the drawn ones
      rw [hc1]
      have hsub : ∀ l ∈ cur.labels, l ∈ c1.labels := fun l hl => hlab ▸ List.mem_append_left _ hl
      rcases ih c1 (k + (bt_drawn [g] k).length)
        (fun g2 hg2 o ho => hsub o (hcl g2 (List.mem_cons_of_mem _ hg2) o ho)) hnd'.2.1
        (fun f hf => hsub f (hinp f (hins ▸ hf))) with
        ⟨c2, r1, i2, l2, r2, r3, r4⟩ | ⟨r1, g2, hg2, hc2, hi2⟩ | ⟨r1, l, hl, hm⟩ | ⟨r1, g2, hg2, hb2⟩
      · refine .inl ⟨c2, ?_, i2.trans hins, ?_, ?_, ?_, ?_⟩
        · rw [r1, List.length_append, Nat.add_assoc]
        · rw [l2, hlab, List.append_assoc]
        · rintro ⟨g2, hg2, hb⟩
          rcases List.mem_cons.mp hg2 with rfl | hg2
          · exact s1 hb
          · exact r2 ⟨g2, hg2, hb⟩
        · intro l hl
          rcases List.mem_append.mp hl with hl | hl
          · exact s2 l hl
          · exact fun hm => r3 l hl (hsub l hm)
        · rintro ⟨g2, hg2, hc, hi⟩
          rcases List.mem_cons.mp hg2 with rfl | hg2
          · exact s3 ⟨hc, hi⟩
          · exact r4 ⟨g2, hg2, hc, hins.trans hi⟩
      · exact .inr (.inl ⟨r1, g2, List.mem_cons_of_mem _ hg2, hc2, hins ▸ hi2⟩)
      · rw [hlab] at hm
        rcases List.mem_append.mp hm with hm | hm
        · exact .inr (.inr (.inl ⟨r1, l, List.mem_append_right _ hl, hm⟩))
        · exact absurd rfl (hnd'.2.2 l hm l hl)
      · exact .inr (.inr (.inr ⟨r1, g2, List.mem_cons_of_mem _ hg2, hb2⟩))
    · rw [he, foldlR_error convStep_error]
      exact .inr (.inl ⟨rfl, g, List.mem_cons_self, x⟩)
    · rw [he, foldlR_error convStep_error]
      exact .inr (.inr (.inl ⟨rfl, l, List.mem_append_left _ hl, hm⟩))
    · rw [he, foldlR_error convStep_error]
      exact .inr (.inr (.inr ⟨rfl, g, List.mem_cons_self, x⟩))

/-- `into_bench` on a well-formed circuit returns exactly when (1) there is an input or no constant gate, (2) every
comparison / L*R* gate has at least two operands, (3) none of the helper labels drawn by this run is already a gate
label; otherwise it raises
* `GateDoesntExistError` — then the circuit has no inputs and contains a constant gate (documented),
* `CircuitValidationError` — then a helper label drawn by this run is already a gate label,
* Python's `IndexError` — then a comparison / L*R* gate has fewer than two operands. -/
theorem bt_intoBench_cases {c : Circuit} (hw : WFS c) (ctr : Nat) :
    ConvOutcome c ctr (bt_drawn c.gates ctr) (∃ g ∈ c.gates, bt_isBin g.ty = true ∧ g.ops.length < 2)
      (∃ g ∈ c.gates, bt_isConst g.ty = true ∧ c.inputs = []) (c.intoBench ctr) := by
  refine bt_fold_outcome c.gates c ctr hw.closed
    (bt_drawn_nodup _ _ (by simpa [Circuit.labels] using hw.nodup)) fun f hf => hw.input_label (List.mem_of_getElem? hf)

theorem bt_isConst_iff (ty : GateType) : bt_isConst ty = true ↔ ty = ALWAYS_TRUE ∨ ty = ALWAYS_FALSE := by
  cases ty <;> simp [bt_isConst]

theorem bt_intoBench_ok_iff {c : Circuit} {ctr : Nat} (hw : WFS c) :
    (∃ c' ctr', c.intoBench ctr = .ok (c', ctr')) ↔
      ((c.inputs = [] → ∀ g ∈ c.gates, bt_isConst g.ty = false) ∧
       (∀ g ∈ c.gates, bt_isBin g.ty = true → 2 ≤ g.ops.length) ∧
       (∀ l ∈ bt_drawn c.gates ctr, l ∉ c.labels)) := by
  have raised : ∀ {e}, c.intoBench ctr = .error e → ¬ ∃ c' ctr', c.intoBench ctr = .ok (c', ctr') :=
    fun h ⟨_, _, h'⟩ => by rw [h] at h'; cases h'
  rcases bt_intoBench_cases hw ctr with
    ⟨c', r1, _, _, r2, r3, r4⟩ | ⟨r1, g, hg, hc, hi⟩ | ⟨r1, l, hl, hm⟩ | ⟨r1, g, hg, hb, hlt⟩
  · exact ⟨fun _ => ⟨fun hi g hg => Bool.eq_false_iff.mpr fun hc => r4 ⟨g, hg, hc, hi⟩,
      fun g hg hb => Nat.le_of_not_lt fun hlt => r2 ⟨g, hg, hb, hlt⟩, r3⟩, fun _ => ⟨c', _, r1⟩⟩
  · refine ⟨fun h => absurd h (raised r1), fun ⟨h1, _, _⟩ => ?_⟩
    rw [h1 hi g hg] at hc; cases hc
  · exact ⟨fun h => absurd h (raised r1), fun ⟨_, _, h3⟩ => absurd hm (h3 l hl)⟩
  · refine ⟨fun h => absurd h (raised r1), fun ⟨_, h2, _⟩ => ?_⟩
    have := h2 g hg hb; omega

/-- `hfr`: no gate is named like a helper gate this run creates (for the i-th gate that needs one,
`new_gate_<TYPE>_for_<label><uuid number ctr+i>`) -/
theorem bt_intoBench_total {c : Circuit} {ctr : Nat} (hw : WFS c) (hin : c.inputs ≠ [])
    (har : ∀ g ∈ c.gates, bt_isBin g.ty = true → 2 ≤ g.ops.length)
    (hfr : ∀ l ∈ bt_drawn c.gates ctr, l ∉ c.labels) :
    ∃ c' ctr', c.intoBench ctr = .ok (c', ctr') :=
  (bt_intoBench_ok_iff hw).mpr ⟨fun h => absurd h hin, har, hfr⟩

/-- the same without inputs, when there is no constant gate -/
theorem bt_intoBench_total_noConst {c : Circuit} {ctr : Nat} (hw : WFS c)
    (hnc : ∀ g ∈ c.gates, g.ty ≠ ALWAYS_TRUE ∧ g.ty ≠ ALWAYS_FALSE)
    (har : ∀ g ∈ c.gates, bt_isBin g.ty = true → 2 ≤ g.ops.length)
    (hfr : ∀ l ∈ bt_drawn c.gates ctr, l ∉ c.labels) :
    ∃ c' ctr', c.intoBench ctr = .ok (c', ctr') := by
  refine (bt_intoBench_ok_iff hw).mpr ⟨fun _ g hg => ?_, har, hfr⟩
  cases hc : bt_isConst g.ty with
  | false => rfl
  | true => exact ((bt_isConst_iff _).mp hc).elim (absurd · (hnc g hg).1) (absurd · (hnc g hg).2)

theorem bt_intoBench_error_range {c : Circuit} {ctr : Nat} {e : String} (hw : WFS c)
    (h : c.intoBench ctr = .error e) :
    (e = "GateDoesntExistError" ∧ c.inputs = [] ∧ ∃ g ∈ c.gates, g.ty = ALWAYS_TRUE ∨ g.ty = ALWAYS_FALSE) ∨
    (e = "CircuitValidationError" ∧ ∃ l ∈ bt_drawn c.gates ctr, l ∈ c.labels) ∨
    (e = "Py:IndexError" ∧ ∃ g ∈ c.gates, bt_isBin g.ty = true ∧ g.ops.length < 2) := by
  rcases bt_intoBench_cases hw ctr with ⟨c', r1, _⟩ | ⟨r1, g, hg, hc, hi⟩ | ⟨r1, r2⟩ | ⟨r1, r2⟩ <;>
    rw [r1] at h <;> cases h
  · exact Or.inl ⟨rfl, hi, g, hg, (bt_isConst_iff _).mp hc⟩
  · exact Or.inr (Or.inl ⟨rfl, r2⟩)
  · exact Or.inr (Or.inr ⟨rfl, r2⟩)

/-- under the arity and label conditions only the documented error is left -/
theorem bt_intoBench_error_documented {c : Circuit} {ctr : Nat} {e : String} (hw : WFS c)
    (har : ∀ g ∈ c.gates, bt_isBin g.ty = true → 2 ≤ g.ops.length)
    (hfr : ∀ l ∈ bt_drawn c.gates ctr, l ∉ c.labels)
    (h : c.intoBench ctr = .error e) :
    e = "GateDoesntExistError" ∧ c.inputs = [] ∧ ∃ g ∈ c.gates, g.ty = ALWAYS_TRUE ∨ g.ty = ALWAYS_FALSE := by
  rcases bt_intoBench_error_range hw h with r | ⟨_, l, hl, hm⟩ | ⟨_, g, hg, hb, hlt⟩
  · exact r
  · exact absurd hm (hfr l hl)
  · have := har g hg hb; omega

/-- the documented error; without the arity and label conditions an earlier gate of the storage order may raise first
(`bt_exNoIn2`) -/
theorem bt_intoBench_noInput_error {c : Circuit} {ctr : Nat} (hw : WFS c) (hin : c.inputs = [])
    (hconst : ∃ g ∈ c.gates, g.ty = ALWAYS_TRUE ∨ g.ty = ALWAYS_FALSE)
    (har : ∀ g ∈ c.gates, bt_isBin g.ty = true → 2 ≤ g.ops.length)
    (hfr : ∀ l ∈ bt_drawn c.gates ctr, l ∉ c.labels) :
    c.intoBench ctr = .error "GateDoesntExistError" := by
  cases h : c.intoBench ctr with
  | error e => rw [(bt_intoBench_error_documented hw har hfr h).1]
  | ok p =>
    obtain ⟨g, hg, hc⟩ := hconst
    have := ((bt_intoBench_ok_iff hw).mp ⟨p.1, p.2, h⟩).1 hin g hg
    rw [(bt_isConst_iff _).mpr hc] at this; cases this

theorem bt_arity_of_arityOk {c : Circuit}
    (har : ∀ g ∈ c.gates, g.ty ≠ INPUT → arityOk g.ty g.ops.length = true) :
    ∀ g ∈ c.gates, bt_isBin g.ty = true → 2 ≤ g.ops.length :=
  fun g hg hb => Nat.le_of_eq (bin_exact (har g hg) hb).symm

/-- a label condition that does not mention the order of the gates: no gate is named
`new_gate_<TYPE>_for_<label of a gate><32 hex digits of k>` for a counter value `k` this run can reach -/
theorem bt_fresh_of_simple {c : Circuit} {ctr : Nat}
    (h : ∀ g ∈ c.gates, ∀ t ∈ bt_tags, ∀ k, ctr ≤ k → k < ctr + c.gates.length → convLabel t g k ∉ c.labels) :
    ∀ l ∈ bt_drawn c.gates ctr, l ∉ c.labels := by
  intro l hl
  obtain ⟨g, hg, t, k', ht, rfl, h1, h2⟩ := bt_drawn_mem _ _ _ hl
  exact h g hg t (bt_tag_mem ht) k' h1 h2

theorem bt_intoBench_total_correct {c : Circuit} {ctr : Nat} (hw : WFS c) (hin : c.inputs ≠ [])
    (har : ∀ g ∈ c.gates, g.ty ≠ INPUT → arityOk g.ty g.ops.length = true)
    (hfr : ∀ l ∈ bt_drawn c.gates ctr, l ∉ c.labels) :
    ∃ c' ctr', c.intoBench ctr = .ok (c', ctr') ∧ WFS c' ∧
      ∀ b v, IsValB c b v → ∃ v', IsValB c' b v' ∧ (∀ l ∈ c.labels, v' l = v l) ∧ c'.inputs = c.inputs ∧
        c'.outputs = c.outputs ∧ NL c' ∧ (∀ g ∈ c'.gates, benchTy g.ty = true) := by
  obtain ⟨c', k', h⟩ := bt_intoBench_total hw hin (bt_arity_of_arityOk har) hfr
  refine ⟨c', k', h, intoBench_wfs_bin hw (fun g hg => bin_exact (har g hg)) h, ?_⟩
  exact fun b v hv => intoBench_sem (hw.nl (hw.arOK har)) hv h

/-- `LT` with one operand: accepted by `add_gate` (no arity check), hence well formed -/
def bt_exIdx : Circuit :=
  { gates := [⟨"x", INPUT, []⟩, ⟨"g", GateType.LT, ["x"]⟩], inputs := ["x"], outputs := ["g"],
    users := [("x", ["g"])], blocks := [] }

theorem bt_exIdx_wfs : WFS bt_exIdx :=
  runOps_wfs [.addInputs ["x"], .addGate ⟨"g", GateType.LT, ["x"]⟩, .setOutputs ["g"]] wfs_empty
    (by simp [MOp.valid]) (by rfl)

theorem bt_exIdx_error : bt_exIdx.intoBench 0 = .error "Py:IndexError" := by rfl

/-- accepted arities, two inputs, and a gate that carries the name of the helper gate for `g` with uuid
number 0 -/
def bt_exClash : Circuit :=
  { gates := [⟨"x", INPUT, []⟩, ⟨"y", INPUT, []⟩, ⟨"g", GateType.LT, ["x", "y"]⟩,
      ⟨"new_gate_LT_for_g00000000000000000000000000000000", AND, ["x", "y"]⟩],
    inputs := ["x", "y"], outputs := ["g"],
    users := [("x", ["g", "new_gate_LT_for_g00000000000000000000000000000000"]),
              ("y", ["g", "new_gate_LT_for_g00000000000000000000000000000000"])], blocks := [] }

theorem bt_exClash_wfs : WFS bt_exClash :=
  runOps_wfs [.addInputs ["x", "y"], .addGate ⟨"g", GateType.LT, ["x", "y"]⟩,
      .addGate ⟨"new_gate_LT_for_g00000000000000000000000000000000", AND, ["x", "y"]⟩, .setOutputs ["g"]]
    wfs_empty (by simp [MOp.valid]) (by rfl)

theorem bt_exClash_arity : ∀ g ∈ bt_exClash.gates, g.ty ≠ INPUT → arityOk g.ty g.ops.length = true := by decide

/-- with the uuid counter at 0 the drawn label exists already: `CircuitValidationError` -/
theorem bt_exClash_error : bt_exClash.intoBench 0 = .error "CircuitValidationError" := by rfl

/-- with the counter at 1 the hypotheses of `bt_intoBench_total_correct` hold (they are satisfiable) -/
theorem bt_exClash_ok : ∃ c' ctr', bt_exClash.intoBench 1 = .ok (c', ctr') :=
  bt_intoBench_total bt_exClash_wfs (by decide) (bt_arity_of_arityOk bt_exClash_arity) (by decide)

/-- the documented error: no inputs and a constant -/
def bt_exNoIn : Circuit :=
  { gates := [⟨"t", ALWAYS_TRUE, []⟩], inputs := [], outputs := ["t"], users := [], blocks := [] }

theorem bt_exNoIn_error : bt_exNoIn.intoBench 0 = .error "GateDoesntExistError" := by rfl

/-- without inputs, a non-constant gate earlier in the storage order can raise first (here `LT` without operands) -/
def bt_exNoIn2 : Circuit :=
  { gates := [⟨"a", GateType.LT, []⟩, ⟨"t", ALWAYS_TRUE, []⟩], inputs := [], outputs := ["t"], users := [],
    blocks := [] }

theorem bt_exNoIn2_error : bt_exNoIn2.intoBench 0 = .error "Py:IndexError" := by rfl

#print axioms bt_intoBench_total
#print axioms bt_intoBench_total_noConst
#print axioms bt_intoBench_noInput_error
#print axioms bt_intoBench_ok_iff
#print axioms bt_intoBench_error_range
#print axioms bt_intoBench_error_documented
#print axioms bt_intoBench_total_correct
#print axioms bt_exIdx_wfs
#print axioms bt_exClash_wfs
#print axioms bt_exClash_ok

end Cirbo
