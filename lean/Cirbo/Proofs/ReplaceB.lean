import Cirbo.Proofs.RemoveGate
import Cirbo.Proofs.ReplaceA
import Cirbo.Proofs.CycleCheck
/-!
# `replace_subcircuit` stage by stage: re-insertion, the circuit returned, and why it is well formed

`c1 … c6` are the circuits bound by the `let`s of the model's `replaceSubcircuit`: after the renames, with the temporary
block, slice removed, replacement's gates added, outputs restored, outside users written back (`rsResult`).
-/
namespace Cirbo
open GateType

def addStepR (sub : Circuit) (imV : List Label) : R Circuit → Label → R Circuit := fun acc l => match acc with
  | .error e => .error e
  | .ok cc => if imV.contains l then .ok cc else
    match sub.find? l with
    | none => .error "GateDoesntExistError"
    | some g => cc.addGate g

theorem addStepR_error (sub : Circuit) (imV : List Label) (e : String) (l : Label) :
    addStepR sub imV (.error e) l = .error e := rfl

/-- the state while the replacement's gates are added to what is left of the circuit -/
structure AInv (c3 cc sub : Circuit) (imV : List Label) (added : List Gate) (seen : List Label) : Prop where
  gates : cc.gates = c3.gates ++ added
  inputs : cc.inputs = c3.inputs
  outputs : cc.outputs = c3.outputs
  blocks : cc.blocks = c3.blocks
  users : ∀ l u, (cc.usersOf l).count u = (c3.usersOf l).count u + contrib added l u
  nodup : cc.labels.Nodup
  closed : ∀ g ∈ added, ∀ o ∈ g.ops, o ∈ cc.labels
  noInput : ∀ g ∈ added, g.ty ≠ INPUT
  fromSub : ∀ g ∈ added, g ∈ sub.gates ∧ imV.contains g.label = false
  cover : ∀ l ∈ seen, imV.contains l = false → l ∈ added.map (·.label)

theorem ainv_init {c3 : Circuit} (sub : Circuit) (imV : List Label) (hnd : c3.labels.Nodup) : AInv c3 c3 sub imV [] [] :=
  ⟨(by simp), rfl, rfl, rfl, (by intro l u; simp [contrib_nil]), hnd, (by intro g hg; cases hg),
   (by intro g hg; cases hg), (by intro g hg; cases hg), (by intro l hl; cases hl)⟩

theorem addStepR_stage (sub cc : Circuit) (imV : List Label) (l : Label) :
    Stage (fun _ => True) (addStepR sub imV (.ok cc) l) := by
  simp only [addStepR]
  split
  · trivial
  · split
    · exact re_Raised.gateDoesntExist
    · rename_i g _
      cases hs : cc.addGate g with
      | error e => exact addGate_err hs ▸ re_Raised.validation
      | ok c1 => trivial

theorem addFold_stage (sub : Circuit) (imV ls : List Label) (cc : Circuit) :
    Stage (fun _ => True) (ls.foldl (addStepR sub imV) (.ok cc)) :=
  Stage.foldl (addStepR_error sub imV) (I := fun _ _ => True) (fun _ l c _ => addStepR_stage sub c imV l) trivial

theorem addStepR_inv {c3 sub cc c1 : Circuit} {imV seen : List Label} {added : List Gate} {l : Label}
    (hsubI : ∀ g ∈ sub.gates, g.ty = INPUT → imV.contains g.label = true)
    (inv : AInv c3 cc sub imV added seen) (hs : addStepR sub imV (.ok cc) l = .ok c1) :
    ∃ added', AInv c3 c1 sub imV added' (seen ++ [l]) := by
  simp only [addStepR] at hs
  by_cases him : imV.contains l = true
  · simp only [him, if_true, Except.ok.injEq] at hs
    subst hs
    refine ⟨added, { inv with cover := ?_ }⟩
    intro x hx hxi
    rcases List.mem_append.mp hx with hx | hx
    · exact inv.cover x hx hxi
    · simp only [List.mem_singleton] at hx; subst hx; rw [him] at hxi; cases hxi
  · simp only [him, Bool.false_eq_true, if_false] at hs
    cases hf : sub.find? l with
    | none => simp [hf] at hs
    | some g =>
      simp only [hf] at hs
      obtain ⟨hgm, hgl⟩ := find_some_mem hf
      obtain ⟨hfresh, hops, fg, fi, fo, fb, fu⟩ := addGate_fields hs
      have hni : g.ty ≠ INPUT := by
        intro hty
        have := hsubI g hgm hty
        rw [hgl] at this; exact him this
      have hlab1 := addGate_labels hs
      have hnd1 := addGate_nodup inv.nodup hs
      have hsnoc : ∀ {P : Gate → Prop}, (∀ g' ∈ added, P g') → P g → ∀ g' ∈ added ++ [g], P g' :=
        fun h1 h2 => List.forall_mem_append.mpr ⟨h1, List.forall_mem_singleton.mpr h2⟩
      refine ⟨added ++ [g], ?_, ?_, ?_, ?_, ?_, ?_, ?_, ?_, ?_, ?_⟩
      · rw [fg, inv.gates, List.append_assoc]
      · rw [fi, inv.inputs]; simp [hni]
      · rw [fo, inv.outputs]
      · rw [fb, inv.blocks]
      · intro x u
        rw [fu x, List.count_append, inv.users x u, contrib_append, contrib_single, List.count_replicate]
        by_cases hu : g.label = u
        · simp [hu]; omega
        · have : (g.label == u) = false := by simp [hu]
          simp [hu, this]
      · exact hnd1
      · rw [hlab1]
        exact hsnoc (fun g' hg' o ho => List.mem_append_left _ (inv.closed g' hg' o ho))
          (fun o ho => List.mem_append_left _ (hops o ho))
      · exact hsnoc inv.noInput hni
      · exact hsnoc inv.fromSub ⟨hgm, by rw [hgl]; simpa using him⟩
      · intro x hx hxi
        rw [List.map_append]
        rcases List.mem_append.mp hx with hx | hx
        · exact List.mem_append_left _ (inv.cover x hx hxi)
        · simp only [List.mem_singleton] at hx; subst hx
          rw [← hgl]; simp

theorem addFold_inv {c3 sub c4 : Circuit} {imV order : List Label} (hnd : c3.labels.Nodup)
    (hsubI : ∀ g ∈ sub.gates, g.ty = INPUT → imV.contains g.label = true)
    (h : order.foldl (addStepR sub imV) (.ok c3) = .ok c4) : ∃ added, AInv c3 c4 sub imV added order :=
  foldlR_ok (I := fun seen cc => ∃ added, AInv c3 cc sub imV added seen) (addStepR_error sub imV)
    (fun _ _ _ _ ⟨_, inv⟩ hs => addStepR_inv hsubI inv hs) ⟨[], ainv_init sub imV hnd⟩ h

/-- what `replace_subcircuit` hands to the final cycle check: `c4` with the outputs of `c2` and, for every slice
output, its users outside the slice -/
def rsResult (c2 c4 : Circuit) (S omV : List Label) : Circuit :=
  (omV.foldl (collectOuter c2 S) []).foldl addUsersStep { c4 with outputs := c2.outputs }

theorem rsResult_gates (c2 c4 : Circuit) (S omV : List Label) : (rsResult c2 c4 S omV).gates = c4.gates :=
  (addUsersFold_fields _ _).1

theorem rsResult_inputs (c2 c4 : Circuit) (S omV : List Label) : (rsResult c2 c4 S omV).inputs = c4.inputs :=
  (addUsersFold_fields _ _).2.1

theorem rsResult_outputs (c2 c4 : Circuit) (S omV : List Label) : (rsResult c2 c4 S omV).outputs = c2.outputs :=
  (addUsersFold_fields _ _).2.2.1

theorem rsResult_blocks (c2 c4 : Circuit) (S omV : List Label) : (rsResult c2 c4 S omV).blocks = c4.blocks :=
  (addUsersFold_fields _ _).2.2.2

theorem rsResult_labels (c2 c4 : Circuit) (S omV : List Label) : (rsResult c2 c4 S omV).labels = c4.labels := by
  unfold Circuit.labels; rw [rsResult_gates]

theorem rsResult_users (c2 c4 : Circuit) (S : List Label) {omV : List Label} (hnd : omV.Nodup) (l : Label) :
    (rsResult c2 c4 S omV).usersOf l =
      c4.usersOf l ++ (if l ∈ omV then (c2.usersOf l).filter (fun u => !S.contains u) else []) := by
  obtain ⟨dnd, dget⟩ := collectOuter_spec c2 S omV [] hnd (by simp)
  rw [rsResult, addUsersFold_users _ _ dnd l, dget l]
  rfl

theorem slice_operand_is_output {c2 : Circuit} {S omV : List Label} (hw : WFS c2)
    (hno : ∀ g ∈ S, g ∈ omV ∨ ∀ u ∈ c2.usersOf g, u ∈ S) {g : Gate} (hg : g ∈ c2.gates) (hgS : g.label ∉ S)
    {o : Label} (ho : o ∈ g.ops) (hoS : o ∈ S) : o ∈ omV := by
  exact (hno o hoS).resolve_right fun h => hgS (h _ ((mem_users_iff hw.usersC hg o).mpr ho))

theorem written_back_count {c2 : Circuit} {S omV : List Label} (hSout : ∀ o ∈ omV, o ∈ S)
    (hno : ∀ g ∈ S, g ∈ omV ∨ ∀ u ∈ c2.usersOf g, u ∈ S) (l u : Label) :
    (if l ∈ omV then (c2.usersOf l).filter (fun u => !S.contains u) else []).count u =
      if S.contains l && !S.contains u then (c2.usersOf l).count u else 0 := by
  by_cases hlo : l ∈ omV
  · have hl : S.contains l = true := by simpa using hSout l hlo
    rw [if_pos hlo, count_filter_notin, hl]
    cases S.contains u <;> rfl
  · rw [if_neg hlo, List.count_nil]
    split
    · rename_i h
      simp only [Bool.and_eq_true, List.contains_eq_mem, decide_eq_true_eq, Bool.not_eq_true', decide_eq_false_iff_not] at h
      exact (List.count_eq_zero.mpr fun hm => h.2 (((hno l h.1).resolve_left hlo) u hm)).symm
    · rfl

theorem rsResult_mem_gates {c2 c3 c4 sub : Circuit} {S imV omV order : List Label} {added : List Gate}
    (inv : RBInv c2 c3 S) (ainv : AInv c3 c4 sub imV added order) (g : Gate) :
    g ∈ (rsResult c2 c4 S omV).gates ↔ (g ∈ c2.gates ∧ g.label ∉ S) ∨ g ∈ added := by
  rw [rsResult_gates, ainv.gates, List.mem_append, inv.mem_gates]

theorem rsResult_wfs {c2 c3 c4 sub : Circuit} {S imV omV order : List Label} {added : List Gate}
    (hw : WFS c2) (inv : RBInv c2 c3 S) (ainv : AInv c3 c4 sub imV added order)
    (homvND : omV.Nodup) (hSout : ∀ o ∈ omV, o ∈ S) (homvI : ∀ o ∈ omV, imV.contains o = false)
    (hno : ∀ g ∈ S, g ∈ omV ∨ ∀ u ∈ c2.usersOf g, u ∈ S)
    (houts : ∀ o ∈ c2.outputs, o ∈ S → o ∈ omV)
    (hsubO : ∀ o ∈ omV, o ∈ order)
    (hcyc : hasCycleCheckFrom (rsResult c2 c4 S omV) (some (rsResult c2 c4 S omV).labels) = .ok false) :
    WFS (rsResult c2 c4 S omV) := by
  have hg6 := rsResult_mem_gates (omV := omV) inv ainv
  generalize hc6 : rsResult c2 c4 S omV = c6 at hcyc hg6 ⊢
  have f1 : c6.gates = c4.gates := hc6 ▸ rsResult_gates ..
  have f2 : c6.inputs = c4.inputs := hc6 ▸ rsResult_inputs ..
  have f3 : c6.outputs = c2.outputs := hc6 ▸ rsResult_outputs ..
  have f4 : c6.blocks = c4.blocks := hc6 ▸ rsResult_blocks ..
  have hlab6 : ∀ l, l ∈ c6.labels ↔ l ∈ c3.labels ∨ l ∈ added.map (·.label) := fun l => by
    rw [← hc6, rsResult_labels, labels_append_gates ainv.gates, List.mem_append]
  have hu6 : ∀ l, c6.usersOf l = c4.usersOf l ++
      (if l ∈ omV then (c2.usersOf l).filter (fun u => !S.contains u) else []) :=
    hc6 ▸ rsResult_users c2 c4 S homvND
  have hback : ∀ o ∈ omV, o ∈ c6.labels := fun o ho =>
    (hlab6 o).mpr (.inr (ainv.cover o (hsubO o ho) (homvI o ho)))
  have hold : ∀ l, l ∈ c2.labels → l ∉ S → l ∈ c6.labels := fun l h1 h2 =>
    (hlab6 l).mpr (.inl ((inv.mem_labels l).mpr ⟨h1, h2⟩))
  have husers : UsersOK c6 := by
    intro l u
    rw [hu6 l, List.count_append, written_back_count hSout hno, ainv.users l u, f1, ainv.gates, contrib_append,
      inv.users l u, inv.gates, contrib_filter_labels, ← users_count_of_wfs hw]
    -- `l` and `u` outside the slice: the count in `c2`; `l` in the slice and `u` outside: the users written
    -- back; `u` in the slice: 0 on both sides
    cases S.contains l <;> cases S.contains u <;> simp [Nat.add_comm]
  have hnd6 : c6.labels.Nodup := by rw [← hc6, rsResult_labels]; exact ainv.nodup
  obtain ⟨uL, uC⟩ := users_of_count hnd6 husers
  obtain ⟨r, hrk⟩ := cycleCheckAll_false hcyc
  refine ⟨hnd6, ?_, ⟨r, ?_⟩, ?_, ?_, ?_, uL, uC, ?_, ?_⟩
  · intro g hg o ho
    rcases (hg6 g).mp hg with ⟨h1, h2⟩ | hg
    · by_cases hoS : o ∈ S
      · exact hback o (slice_operand_is_output hw hno h1 h2 ho hoS)
      · exact hold o (hw.closed g h1 o ho) hoS
    · rw [← hc6, rsResult_labels]; exact ainv.closed g hg o ho
  · intro g hg o ho
    exact hrk g.label (mem_labels_of_mem hg) o (by rw [opsOf_gate hnd6 hg]; exact ho)
  · rw [f2, ainv.inputs, inv.inputs]; exact hw.inputsNodup.filter _
  · intro l
    rw [f2, ainv.inputs, inv.inputs, List.mem_filter]
    constructor
    · rintro ⟨hl, hs⟩
      obtain ⟨g, hg, hgl, hty⟩ := (hw.inputsOK l).mp hl
      exact ⟨g, (hg6 g).mpr (.inl ⟨hg, by rw [hgl]; simpa using hs⟩), hgl, hty⟩
    · rintro ⟨g, hg, hgl, hty⟩
      rcases (hg6 g).mp hg with ⟨h1, h2⟩ | hg
      · exact ⟨(hw.inputsOK l).mpr ⟨g, h1, hgl, hty⟩, by rw [← hgl]; simpa using h2⟩
      · exact absurd hty (ainv.noInput g hg)
  · intro o ho
    rw [f3] at ho
    by_cases hoS : o ∈ S
    · exact hback o (houts o ho hoS)
    · exact hold o (hw.outputsOK o ho) hoS
  · intro b hb
    rw [f4, ainv.blocks] at hb
    have hin := fun {l} hl => hold l (inv.blocks_sub hw hb (l := l) hl).1 (inv.blocks_sub hw hb hl).2
    exact ⟨fun l hl => hin (.inl hl), fun l hl => hin (.inr hl)⟩
  · intro g hg hty
    rcases (hg6 g).mp hg with ⟨h1, _⟩ | hg
    · exact hw.inputOps g h1 hty
    · exact absurd hty (ainv.noInput g hg)

end Cirbo
