import Cirbo.Model.Traverse
import Cirbo.Proofs.OpenNode
/-!
# DFS/BFS traversal visits exactly the reachable gates, each once (C20) — partial correctness
-/
namespace Cirbo

def yields (log : List Ev) : List Label :=
  log.filterMap (fun e => match e with | .yield l => some l | _ => none)
def unvisiteds (log : List Ev) : List Label :=
  log.filterMap (fun e => match e with | .unvisited l => some l | _ => none)
def enters (log : List Ev) : List Label :=
  log.filterMap (fun e => match e with | .enter l => some l | _ => none)
def exits (log : List Ev) : List Label :=
  log.filterMap (fun e => match e with | .exit l => some l | _ => none)

theorem setSt_self (f : Label → TState) (k : Label) (v : TState) : setSt f k v k = v := if_pos rfl
theorem setSt_ne (f : Label → TState) {k l : Label} (v : TState) (h : l ≠ k) : setSt f k v l = f l :=
  if_neg h

/-- the successors a step pushes when it enters `cur` -/
def pushed (next : Label → List Label) (st : Label → TState) (cur : Label) : List Label :=
  (next cur).filter (fun x => setSt st cur .ent x = .unv)

/-- the events a step logs when it enters `cur` -/
def enterEvs (next : Label → List Label) (st : Label → TState) (cur : Label) : List Ev :=
  [Ev.enter cur] ++ (next cur).map (fun x => Ev.discover x (setSt st cur .ent x)) ++ [Ev.yield cur]

theorem mem_pushed {next : Label → List Label} {st : Label → TState} {cur x : Label} :
    x ∈ pushed next st cur ↔ x ∈ next cur ∧ x ≠ cur ∧ st x = .unv := by
  by_cases h : x = cur
  · subst h; simp [pushed, setSt_self]
  · simp [pushed, setSt_ne, h]

/-- the work list with top `cur` and rest `q`: first in for BFS, last in for DFS -/
def withTop (bfs : Bool) (q : List Label) (cur : Label) : List Label :=
  if bfs then cur :: q else q ++ [cur]

theorem mem_withTop {bfs : Bool} {q : List Label} {cur x : Label} :
    x ∈ withTop bfs q cur ↔ x = cur ∨ x ∈ q := by
  cases bfs <;> simp [withTop, or_comm]

theorem queue_cases (bfs : Bool) (queue : List Label) :
    queue = [] ∨ ∃ q cur, queue = withTop bfs q cur := by
  cases bfs
  · rcases List.eq_nil_or_concat queue with h | ⟨q, cur, h⟩
    · exact .inl h
    · exact .inr ⟨q, cur, by simpa [withTop] using h⟩
  · cases queue with
    | nil => exact .inl rfl
    | cons cur q => exact .inr ⟨q, cur, rfl⟩

theorem childProblem_cases (c : Circuit) (ab : Bool) (st : Label → TState) : ∀ ls : List Label,
    (childProblem c ab st ls = none ∧ ∀ x ∈ ls, c.hasGate x = true ∧ (ab = true → st x ≠ .ent)) ∨
    ∃ x ∈ ls, (c.hasGate x = false ∧ childProblem c ab st ls = some "GateDoesntExistError") ∨
      (ab = true ∧ st x = .ent ∧ childProblem c ab st ls = some "CircuitValidationError")
  | [] => .inl ⟨rfl, nofun⟩
  | y :: r => by
    unfold childProblem
    cases hy : c.hasGate y
    · exact .inr ⟨y, List.mem_cons_self, .inl ⟨hy, rfl⟩⟩
    · by_cases he : ab = true ∧ st y = .ent
      · exact .inr ⟨y, List.mem_cons_self, .inr ⟨he.1, he.2, by simp [he.1, he.2]⟩⟩
      · have hn : (ab && decide (st y = .ent)) = false := by simpa using he
        simp only [Bool.not_true, Bool.false_eq_true, if_false, hn]
        refine (childProblem_cases c ab st r).imp (fun ⟨h1, h2⟩ => ⟨h1, ?_⟩)
          fun ⟨x, hx, h⟩ => ⟨x, List.mem_cons_of_mem _ hx, h⟩
        rw [List.forall_mem_cons]
        exact ⟨⟨hy, fun ha hs => he ⟨ha, hs⟩⟩, h2⟩

variable {c : Circuit} {bfs ab : Bool} {next : Label → List Label} {s s' : TrSt}

theorem trStep_nil (h : s.queue = []) : trStep c bfs ab next s = .finished := by
  unfold trStep; rw [h]; cases bfs <;> rfl

theorem trStep_top {q : List Label} {cur : Label} (h : s.queue = withTop bfs q cur) :
    trStep c bfs ab next s =
      if !c.hasGate cur then .error "GateDoesntExistError" else
      match s.st cur with
      | .unv => match childProblem c ab (setSt s.st cur .ent) (next cur) with
        | some e => .error e
        | none => .next ⟨(if bfs then q else q ++ [cur]) ++ pushed next s.st cur,
            setSt s.st cur (if bfs then .vis else .ent), s.log ++ enterEvs next s.st cur⟩
      | .ent => .next ⟨q, setSt s.st cur .vis, s.log ++ [Ev.exit cur]⟩
      | .vis => .next ⟨q, s.st, s.log⟩ := by
  have hvis : setSt (setSt s.st cur .ent) cur .vis = setSt s.st cur .vis := by
    funext l; unfold setSt; split <;> rfl
  -- BFS pops the head and DFS the last element: with the queue written as `withTop bfs q cur` the two
  -- branches of `trStep` become the one step above
  unfold trStep
  cases bfs <;> simp [h, withTop, pushed, enterEvs, hvis] <;> rfl

theorem trStep_next_cases (hs : trStep c bfs ab next s = .next s') :
    ∃ q cur, s.queue = withTop bfs q cur ∧ c.hasGate cur = true ∧
      ((s.st cur = .unv ∧ childProblem c ab (setSt s.st cur .ent) (next cur) = none ∧
          s' = ⟨(if bfs then q else q ++ [cur]) ++ pushed next s.st cur,
            setSt s.st cur (if bfs then .vis else .ent), s.log ++ enterEvs next s.st cur⟩) ∨
       (s.st cur = .ent ∧ s' = ⟨q, setSt s.st cur .vis, s.log ++ [Ev.exit cur]⟩) ∨
       (s.st cur = .vis ∧ s' = ⟨q, s.st, s.log⟩)) := by
  rcases queue_cases bfs s.queue with h | ⟨q, cur, h⟩
  · rw [trStep_nil h] at hs; cases hs
  · rw [trStep_top h] at hs
    refine ⟨q, cur, h, ?_⟩
    cases hg : c.hasGate cur <;>
      simp only [hg, Bool.not_false, Bool.not_true, if_true, Bool.false_eq_true, if_false] at hs
    · cases hs
    · refine ⟨rfl, ?_⟩
      split at hs
      · split at hs
        · cases hs
        · exact .inl ⟨‹_›, ‹_›, (StepRes.next.inj hs).symm⟩
      · exact .inr (.inl ⟨‹_›, (StepRes.next.inj hs).symm⟩)
      · exact .inr (.inr ⟨‹_›, (StepRes.next.inj hs).symm⟩)

theorem trStep_error_cases {e : String} (hs : trStep c bfs ab next s = .error e) :
    ∃ q cur, s.queue = withTop bfs q cur ∧
      ((c.hasGate cur = false ∧ e = "GateDoesntExistError") ∨
       (c.hasGate cur = true ∧ s.st cur = .unv ∧
          childProblem c ab (setSt s.st cur .ent) (next cur) = some e)) := by
  rcases queue_cases bfs s.queue with h | ⟨q, cur, h⟩
  · rw [trStep_nil h] at hs; cases hs
  · rw [trStep_top h] at hs
    refine ⟨q, cur, h, ?_⟩
    cases hg : c.hasGate cur <;>
      simp only [hg, Bool.not_false, Bool.not_true, if_true, Bool.false_eq_true, if_false] at hs
    · exact .inl ⟨rfl, (StepRes.error.inj hs).symm⟩
    · refine .inr ⟨rfl, ?_⟩
      split at hs
      · split at hs
        · exact ⟨‹_›, by rw [← StepRes.error.inj hs]; assumption⟩
        · cases hs
      · cases hs
      · cases hs

theorem trStep_finished (hs : trStep c bfs ab next s = .finished) : s.queue = [] := by
  rcases queue_cases bfs s.queue with h | ⟨q, cur, h⟩
  · exact h
  · rw [trStep_top h] at hs
    repeat' split at hs
    all_goals cases hs

theorem trLoop_induct {P : TrSt → Prop}
    (step : ∀ s s', P s → trStep c bfs ab next s = .next s' → P s') :
    ∀ fuel s, P s →
      (∀ s', trLoop c bfs ab next fuel s = .ok s' → P s' ∧ s'.queue = []) ∧
      (∀ e, trLoop c bfs ab next fuel s = .error e →
        e = "fuel" ∨ ∃ s1, P s1 ∧ trStep c bfs ab next s1 = .error e)
  | 0, s, _ => ⟨fun _ h => (nomatch h), fun e h => .inl (Except.error.inj h).symm⟩
  | fuel+1, s, hP => by
    unfold trLoop
    cases hs : trStep c bfs ab next s with
    | finished =>
      exact ⟨fun s' h => by cases h; exact ⟨hP, trStep_finished hs⟩, fun e h => (nomatch h)⟩
    | error e' =>
      exact ⟨fun _ h => (nomatch h), fun e h => by cases h; exact .inr ⟨s, hP, hs⟩⟩
    | next s1 => exact trLoop_induct step fuel s1 (step s s1 hP hs)

def traverseLoop (c : Circuit) (bfs inverse : Bool) (start : Option (List Label)) (ab : Bool) :
    Except String TrSt :=
  let next := if inverse then c.usersOf else c.opsOf
  let q0 := start.getD (if inverse then c.inputs else c.outputs)
  trLoop c bfs ab next (2 * (q0.length + c.gates.length + totalDeg c next) + 2) ⟨q0, fun _ => .unv, []⟩

theorem traverse_ok_cases {inverse : Bool} {start : Option (List Label)} {tsu : Bool} {log : List Ev}
    (h : traverse c bfs inverse start tsu ab = .ok log) :
    (c.gates = [] ∧ log = []) ∨ ∃ s order, c.gates ≠ [] ∧ traverseLoop c bfs inverse start ab = .ok s ∧
      (if tsu then c.topSort true = .ok order else order = c.labels) ∧
      log = s.log ++ (order.filter (fun l => s.st l = .unv)).map Ev.unvisited ++ [Ev.done] := by
  unfold traverse at h
  split at h
  · exact .inl ⟨by simpa using ‹c.gates.isEmpty = true›, (Except.ok.inj h).symm⟩
  · right
    have hne : c.gates ≠ [] := by simpa using ‹¬ c.gates.isEmpty = true›
    simp only at h
    split at h
    · cases h
    · rename_i s hl
      refine ⟨s, ?_⟩
      cases tsu
      · exact ⟨c.labels, hne, hl, rfl, (Except.ok.inj h).symm⟩
      · simp only [if_true] at h ⊢
        split at h
        · cases h
        · exact ⟨_, hne, hl, ‹_›, (Except.ok.inj h).symm⟩

theorem traverse_nil {inverse : Bool} {start : Option (List Label)} {tsu : Bool} {log : List Ev} (he : c.gates = [])
    (h : traverse c bfs inverse start tsu ab = .ok log) : log = [] := by
  obtain ⟨-, rfl⟩ | ⟨_, _, hne, -⟩ := traverse_ok_cases h
  · rfl
  · exact absurd he hne

theorem traverse_error_cases {inverse : Bool} {start : Option (List Label)} {tsu : Bool} {e : String}
    (h : traverse c bfs inverse start tsu ab = .error e) :
    traverseLoop c bfs inverse start ab = .error e ∨
      (tsu = true ∧ c.topSort true = .cyclic ∧ e = "CircuitIsCyclicalError") := by
  unfold traverse at h
  split at h
  · cases h
  · simp only at h
    split at h
    · exact .inl (by rw [← Except.error.inj h]; assumption)
    · right
      repeat' split at h
      all_goals first | exact ⟨‹_›, ‹_›, (Except.error.inj h).symm⟩ | cases h

theorem yields_append (a b : List Ev) : yields (a ++ b) = yields a ++ yields b := by
  simp [yields, List.filterMap_append]
theorem unvisiteds_append (a b : List Ev) : unvisiteds (a ++ b) = unvisiteds a ++ unvisiteds b := by
  simp [unvisiteds, List.filterMap_append]
theorem exits_append (a b : List Ev) : exits (a ++ b) = exits a ++ exits b := by
  simp [exits, List.filterMap_append]

theorem yields_enterEvs (next : Label → List Label) (st : Label → TState) (cur : Label) :
    yields (enterEvs next st cur) = [cur] := by
  simp [yields, enterEvs, List.filterMap_append]
theorem unvisiteds_enterEvs (next : Label → List Label) (st : Label → TState) (cur : Label) :
    unvisiteds (enterEvs next st cur) = [] := by
  simp [unvisiteds, enterEvs, List.filterMap_append]
theorem exits_enterEvs (next : Label → List Label) (st : Label → TState) (cur : Label) :
    exits (enterEvs next st cur) = [] := by
  simp [exits, enterEvs, List.filterMap_append]

theorem unvisiteds_map (M : List Label) : unvisiteds (M.map Ev.unvisited) = M := by
  simp [unvisiteds, List.filterMap_map, Function.comp_def]

theorem yields_tail (log : List Ev) (M : List Label) :
    yields (log ++ M.map Ev.unvisited ++ [Ev.done]) = yields log := by
  simp [yields, List.filterMap_append, List.filterMap_map]
theorem exits_tail (log : List Ev) (M : List Label) :
    exits (log ++ M.map Ev.unvisited ++ [Ev.done]) = exits log := by
  simp [exits, List.filterMap_append, List.filterMap_map]

/-- Invariant of the work-list loop from `start`: what is touched (state not `unv`) or queued is reachable; a
successor of a touched gate, and every start gate, is touched or still queued, so an empty queue means all reachable
gates are touched; the yielded labels are the touched ones, each once. -/
structure TInv (next : Label → List Label) (start : List Label) (s : TrSt) : Prop where
  reachSt : ∀ l, s.st l ≠ .unv → Reach next start l
  reachQ : ∀ l ∈ s.queue, Reach next start l
  closed : ∀ u, s.st u ≠ .unv → ∀ w ∈ next u, s.st w ≠ .unv ∨ w ∈ s.queue
  startOK : ∀ l ∈ start, s.st l ≠ .unv ∨ l ∈ s.queue
  yld : ∀ l, l ∈ yields s.log ↔ s.st l ≠ .unv
  yldND : (yields s.log).Nodup

theorem tinv_init (next : Label → List Label) (q0 : List Label) : TInv next q0 ⟨q0, fun _ => .unv, []⟩ :=
  ⟨fun _ hl => absurd rfl hl, fun _ hl => .base hl, fun _ hu => absurd rfl hu, fun _ hl => .inr hl,
    by simp [yields], by simp [yields]⟩

/-- The invariant survives any step that takes `cur` from the queue, described by what it does: it touches `cur`
only (`hst`), queues successors of `cur` only (`hnew`), drops `cur` only (`hold`); an untouched `cur` gets its
successors touched or queued (`hsucc`) and is yielded (`hlog`). -/
theorem TInv.step {start : List Label} {cur : Label} (inv : TInv next start s) (hcur : cur ∈ s.queue)
    (hst : ∀ l, s'.st l ≠ .unv ↔ s.st l ≠ .unv ∨ l = cur)
    (hnew : ∀ x ∈ s'.queue, x ∈ s.queue ∨ x ∈ next cur)
    (hold : ∀ x ∈ s.queue, x = cur ∨ x ∈ s'.queue)
    (hsucc : s.st cur = .unv → ∀ x ∈ next cur, s'.st x ≠ .unv ∨ x ∈ s'.queue)
    (hlog : yields s'.log = if s.st cur = .unv then yields s.log ++ [cur] else yields s.log) :
    TInv next start s' := by
  have hr : Reach next start cur := inv.reachQ cur hcur
  have keep : ∀ w, s.st w ≠ .unv ∨ w ∈ s.queue → s'.st w ≠ .unv ∨ w ∈ s'.queue := by
    rintro w (h | h)
    · exact .inl ((hst w).mpr (.inl h))
    · exact (hold w h).imp (fun e => (hst w).mpr (.inr e)) id
  refine ⟨?_, ?_, ?_, fun l hl => keep l (inv.startOK l hl), ?_, ?_⟩
  · intro l hl
    rcases (hst l).mp hl with h | rfl
    · exact inv.reachSt l h
    · exact hr
  · intro l hl
    rcases hnew l hl with h | h
    · exact inv.reachQ l h
    · exact .step hr h
  · intro u hu w hw
    by_cases h : s.st u = .unv
    · obtain rfl : u = cur := ((hst u).mp hu).resolve_left (fun h' => h' h)
      exact hsucc h w hw
    · exact keep w (inv.closed u h w hw)
  · intro l
    rw [hlog, hst, ← inv.yld]
    split
    · simp
    · exact ⟨.inl, fun h => h.elim id (fun e => e ▸ (inv.yld cur).mpr ‹_›)⟩
  · rw [hlog]
    split
    · exact List.nodup_append.mpr ⟨inv.yldND, by simp, fun a ha b hb e => by
        obtain rfl : b = cur := by simpa using hb
        exact (inv.yld a).mp ha (e ▸ ‹s.st b = .unv›)⟩
    · exact inv.yldND

theorem setSt_ne_unv (f : Label → TState) (k l : Label) {v : TState} (hv : v ≠ .unv) :
    setSt f k v l ≠ .unv ↔ f l ≠ .unv ∨ l = k := by
  by_cases h : l = k
  · subst h; simp [setSt_self, hv]
  · simp [setSt_ne, h]

theorem trStep_inv {start : List Label} (inv : TInv next start s)
    (hs : trStep c bfs ab next s = .next s') : TInv next start s' := by
  obtain ⟨q, cur, hq, -, h⟩ := trStep_next_cases hs
  have hmem : ∀ x, x ∈ s.queue ↔ x = cur ∨ x ∈ q := fun x => hq ▸ mem_withTop
  have hcur : cur ∈ s.queue := (hmem cur).mpr (.inl rfl)
  rcases h with ⟨hst, -, rfl⟩ | ⟨hst, rfl⟩ | ⟨hst, rfl⟩
  · refine inv.step hcur (fun l => setSt_ne_unv _ _ _ (by cases bfs <;> simp)) ?_ ?_ ?_ ?_
    · intro x hx
      simp only [List.mem_append, mem_pushed] at hx
      rcases hx with hx | hx
      · left; rw [hmem]; cases bfs <;> simp_all [or_comm]
      · exact .inr hx.1
    · intro x hx
      rcases (hmem x).mp hx with h | h
      · exact .inl h
      · right; cases bfs <;> simp [h]
    · intro _ x hx
      by_cases h : x ≠ cur ∧ s.st x = .unv
      · exact .inr (List.mem_append_right _ (mem_pushed.mpr ⟨hx, h⟩))
      · left; rw [setSt_ne_unv _ _ _ (by cases bfs <;> simp)]
        by_cases hxc : x = cur
        · exact .inr hxc
        · exact .inl (fun hu => h ⟨hxc, hu⟩)
    · simp [hst, yields_append, yields_enterEvs]
  · refine inv.step hcur (fun l => setSt_ne_unv _ _ _ (by simp)) (fun x hx => .inl ((hmem x).mpr (.inr hx)))
      (fun x hx => (hmem x).mp hx) (fun h => by simp [hst] at h) ?_
    simp [hst, yields]
  · exact inv.step hcur (fun l => ⟨.inl, fun h => h.elim id (fun e => by simp [e, hst])⟩)
      (fun x hx => .inl ((hmem x).mpr (.inr hx))) (fun x hx => (hmem x).mp hx)
      (fun h => by simp [hst] at h) (by simp [hst])

theorem reach_iff_of_done {start : List Label} (inv : TInv next start s) (hq : s.queue = []) (l : Label) :
    Reach next start l ↔ s.st l ≠ .unv := by
  refine ⟨fun hr => ?_, inv.reachSt l⟩
  induction hr with
  | base hl => exact (inv.startOK _ hl).resolve_right (by simp [hq])
  | step _ hw ih => exact (inv.closed _ ih _ hw).resolve_right (by simp [hq])

theorem trStep_unvisiteds (hs : trStep c bfs ab next s = .next s') (h0 : unvisiteds s.log = []) :
    unvisiteds s'.log = [] := by
  obtain ⟨q, cur, -, -, ⟨-, -, rfl⟩ | ⟨-, rfl⟩ | ⟨-, rfl⟩⟩ := trStep_next_cases hs
  · simp [unvisiteds_append, h0, unvisiteds_enterEvs]
  · rw [unvisiteds_append, h0]; rfl
  · exact h0

theorem trLoop_unvisiteds (fuel : Nat) (h0 : unvisiteds s.log = []) (h : trLoop c bfs ab next fuel s = .ok s') : unvisiteds s'.log = [] :=
  ((trLoop_induct (P := fun s => unvisiteds s.log = []) (fun _ _ hP hs => trStep_unvisiteds hs hP) fuel s h0).1 s' h).1

/-- `hne`: on a circuit without gates `traverse` returns the empty log before it looks at the start list, while a
start label reaches itself -/
theorem traverse_reach_exact {c : Circuit} (bfs inverse : Bool) (start : Option (List Label))
    (tsu ab : Bool) {log : List Ev} (hne : c.gates ≠ [])
    (h : traverse c bfs inverse start tsu ab = .ok log) :
    let next := if inverse then c.usersOf else c.opsOf
    let q0 := start.getD (if inverse then c.inputs else c.outputs)
    (yields log).Nodup ∧ (∀ l, l ∈ yields log ↔ Reach next q0 l) ∧
    ∃ order, (if tsu then c.topSort true = .ok order else order = c.labels) ∧
      ∃ (unreached : Label → Bool), (∀ l, unreached l = true ↔ ¬ Reach next q0 l) ∧
        unvisiteds log = order.filter unreached := by
  intro next q0
  obtain ⟨h0, -⟩ | ⟨s, order, -, hl, hord, rfl⟩ := traverse_ok_cases h
  · exact absurd h0 hne
  obtain ⟨inv, hq⟩ := (trLoop_induct (fun _ _ => trStep_inv) _ _ (tinv_init next q0)).1 s hl
  have hu := trLoop_unvisiteds _ rfl hl
  have hr := reach_iff_of_done inv hq
  refine ⟨by rw [yields_tail]; exact inv.yldND, fun l => by rw [yields_tail, inv.yld, hr], order, hord,
    fun l => s.st l = .unv, fun l => by simp [hr], ?_⟩
  rw [unvisiteds_append, unvisiteds_append, hu, unvisiteds_map]
  simp [unvisiteds]

end Cirbo
