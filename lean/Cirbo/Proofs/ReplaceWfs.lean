import Cirbo.Proofs.ReplaceB
/-!
# `replace_subcircuit`, taken apart once

`replaceSubcircuit_outcome` walks through the model function once: a call fails with an error of `re_Raised` or
passes through the circuits of an `RSTrace`. Well-formedness, error range and semantics are read off that.
-/
namespace Cirbo
open GateType Circuit

/-- the intermediate circuits are *not* well formed (users of removed gates dangle) but are the starting circuit
filtered (`RBInv`): an INPUT gate still present is still in the inputs list, so `list.remove` cannot raise `ValueError` -/
theorem rawRemoveGate_stage {c cur : Circuit} {S : List Label} (hw : WFS c) (inv : RBInv c cur S) (l : Label) :
    Stage (RBInv c · (S ++ [l])) (cur.rawRemoveGate l) := by
  cases h : cur.rawRemoveGate l with
  | ok cur' => exact rawRemoveGate_rbinv hw inv h
  | error e =>
  unfold rawRemoveGate at h
  cases hf : cur.find? l with
  | none => simp [hf] at h; exact h ▸ re_Raised.gateDoesntExist
  | some g =>
    simp only [hf] at h
    have b := (foldl_removeUser_sameNet g.ops cur l).inputs
    split at h
    · rename_i hcond
      exfalso
      simp only [Bool.and_eq_true, decide_eq_true_eq, Bool.not_eq_true', b] at hcond
      obtain ⟨hty, hni⟩ := hcond
      obtain ⟨hgcur, hgl⟩ := find_some_mem hf
      obtain ⟨hgc, hnS⟩ := (inv.mem_gates g).mp hgcur
      have : l ∈ cur.inputs := by
        rw [inv.inputs, List.mem_filter]
        exact ⟨(hw.inputsOK l).mpr ⟨g, hgc, hgl, hty⟩, by rw [← hgl]; simpa using hnS⟩
      simp [this] at hni
    · cases h

/-- the circuits a returning call passes through (`c1 … c4` as in ReplaceB; `gs` the slice, `order` the order in
which the gates of `sub` are added) -/
structure RSTrace (c sub : Circuit) (im om : List (Label × Label)) (ctr : Nat) (c1 c2 c3 c4 : Circuit)
    (gs order : List Label) : Prop where
  disj : ∀ k ∈ im.map (·.1), k ∉ om.map (·.1)
  keysIn : ∀ k ∈ (im ++ om).map (·.1), k ∈ c.labels
  omvIn : ∀ o ∈ om.map (·.2), o ∈ sub.labels
  imvIn : ∀ i ∈ im.map (·.2), ∃ g ∈ sub.gates, g.label = i ∧ g.ty = INPUT
  subIn : ∀ i ∈ sub.inputs, i ∈ im.map (·.2)
  ren : (im ++ om).foldl renStep (.ok c) = .ok c1
  wfs1 : WFS c1
  block : c2 = { c1 with blocks := c1.blocks ++ [⟨"block_for_deleting" ++ hex32 ctr, im.map (·.2), gs, om.map (·.2)⟩] }
  wfs2 : WFS c2
  sliceOut : ∀ o ∈ om.map (·.2), (im.map (·.2)).contains o = false → o ∈ gs
  sliceNI : ∀ x ∈ gs, x ∈ om.map (·.2) ∨ ∃ og, c1.find? x = some og ∧ og.ty ≠ INPUT
  inv : RBInv c2 c3 gs
  noUsers : ∀ g ∈ gs, g ∈ om.map (·.2) ∨ ∀ u ∈ c2.usersOf g, u ∈ gs
  outs : ∀ o ∈ c2.outputs, o ∈ gs → o ∈ om.map (·.2)
  sorted : sub.topSort true = .ok order
  add : order.foldl (addStepR sub (im.map (·.2))) (.ok c3) = .ok c4
  cyc : hasCycleCheckFrom (rsResult c2 c4 gs (om.map (·.2))) (some (rsResult c2 c4 gs (om.map (·.2))).labels) = .ok false

/-- an error of `re_Raised`, or the result of a trace with the next counter -/
def RSOutcome (c sub : Circuit) (im om : List (Label × Label)) (ctr : Nat) : R (Circuit × Nat) → Prop :=
  Stage fun r => ∃ c1 c2 c3 c4 gs order, RSTrace c sub im om ctr c1 c2 c3 c4 gs order ∧
    r = (rsResult c2 c4 gs (om.map (·.2)), ctr + 1)

theorem replaceSubcircuit_outcome {c : Circuit} (hw : WFS c) (sub : Circuit) (im om : List (Label × Label))
    (ctr : Nat) : RSOutcome c sub im om ctr (c.replaceSubcircuit sub im om ctr) := by
  unfold replaceSubcircuit RSOutcome
  simp only
  /- The term is large and `split` would walk all of it at each of the twenty steps: a guard is taken off the head
  by `R.elim_ite`, a `match` by `cases` on its scrutinee, and `dsimp only` brings the branch taken to the head. -/
  apply R.elim_ite (fun _ => re_Raised.replaceSubcircuit)
  intro hdisj
  refine (checkGatesExist_stage c _).elim (fun _ => id) fun _ hcI => ?_
  refine (checkGatesExist_stage c _).elim (fun _ => id) fun _ hcO => ?_
  refine (checkGatesExist_stage sub _).elim (fun _ => id) fun _ hcS => ?_
  dsimp only
  apply R.elim_ite (fun _ => re_Raised.gateDoesntExist)
  intro _
  apply R.elim_ite (fun _ => re_Raised.replaceSubcircuit)
  intro himty
  apply R.elim_ite (fun _ => re_Raised.replaceSubcircuit)
  intro hsubin
  have sren := renFold_stage (ps := im ++ om) hw
  cases hren : List.foldl _ (List.foldl _ (Except.ok c) im) om with
  | error e => exact sren.of_error (List.foldl_append .. ▸ hren)
  | ok c1 =>
  replace hren : (im ++ om).foldl renStep (.ok c) = .ok c1 := List.foldl_append .. ▸ hren
  dsimp only
  have w1 := sren.of_ok hren
  have hmk := makeBlockFromSlice_spec c1 ("block_for_deleting" ++ hex32 ctr) (im.map (·.2)) (om.map (·.2))
  refine hmk.elim (fun _ => id) fun c2 ⟨w2, gs, hc2, hnb, hgs, hni⟩ => ?_
  replace w2 := w2 w1
  dsimp only
  have hfind : c2.blocks.find? (fun b => b.name == "block_for_deleting" ++ hex32 ctr) =
      some ⟨"block_for_deleting" ++ hex32 ctr, im.map (·.2), gs, om.map (·.2)⟩ := by
    rw [hc2]; exact find?_append_last _ _ _ hnb (by simp)
  rw [hfind]
  dsimp only
  apply R.elim_ite (fun _ => re_Raised.replaceSubcircuit)
  intro houtchk
  apply R.elim_ite (fun _ => re_Raised.gateDoesntExist)
  intro _
  apply R.elim_ite (fun _ => re_Raised.deleteBlock)
  intro hbno
  have srm : Stage (RBInv c2 · gs) (c2.rawRemoveBlock ("block_for_deleting" ++ hex32 ctr)) := by
    unfold rawRemoveBlock
    rw [hfind]
    exact Stage.foldl (fun _ _ => rfl) (I := fun S cur => RBInv c2 cur S)
      (fun _ l _ inv => rawRemoveGate_stage w2 inv l) (rbinv_init c2)
  refine srm.elim (fun _ => id) fun c3 inv => ?_
  dsimp only
  cases hts : sub.topSort true with
  | cyclic => exact re_Raised.cyclical
  | ok order =>
  dsimp only
  have sadd := addFold_stage sub (im.map (·.2)) order c3
  cases hadd : List.foldl _ (Except.ok c3) order with
  | error e => exact sadd.of_error hadd
  | ok c4 =>
  replace hadd : order.foldl (addStepR sub (im.map (·.2))) (.ok c3) = .ok c4 := hadd
  dsimp only
  generalize hcyc : hasCycleCheckFrom _ _ = r
  replace hcyc : hasCycleCheckFrom (rsResult c2 c4 gs (om.map (·.2)))
    (some (rsResult c2 c4 gs (om.map (·.2))).labels) = r := hcyc
  match r, hcyc with
  | .error e, hcyc => exact cycleCheck_err _ hcyc ▸ re_Raised.gateDoesntExist
  | .ok true, _ => exact re_Raised.validation
  | .ok false, hcyc =>
  refine ⟨c1, c2, c3, c4, gs, order,
    ⟨?_, ?_, hcS, ?_, ?_, hren, w1, hc2, w2, hgs, hni, inv, ?_, ?_, hts, hadd, hcyc⟩, rfl⟩
  · intro k hk hko
    exact hdisj (List.any_eq_true.mpr ⟨k, hk, by simpa using hko⟩)
  · intro k hk
    rw [List.map_append, List.mem_append] at hk
    exact hk.elim (hcI k) (hcO k)
  · intro i hi
    simp only [Bool.not_eq_true, List.any_eq_false] at himty
    have h2 := himty i hi
    cases hf : sub.find? i with
    | none => simp [hf] at h2
    | some g =>
      obtain ⟨hgm, hgl⟩ := find_some_mem hf
      exact ⟨g, hgm, hgl, by simpa [hf] using h2⟩
  · intro i hi
    simp only [Bool.not_eq_true, List.any_eq_false] at hsubin
    simpa using hsubin i hi
  · intro g hg
    simp only [Bool.not_eq_true, Bool.not_eq_false', blockHasNoUsers] at hbno
    simpa using List.all_eq_true.mp hbno g hg
  · intro o ho hog
    simp only [Bool.not_eq_true, List.any_eq_false] at houtchk
    simpa [hog] using houtchk o ho

/-- what a trace amounts to when the replacement's graph is well formed, its INPUT gates are its inputs and the
mappings have distinct keys -/
structure RSFacts (c sub : Circuit) (im om : List (Label × Label)) (ctr : Nat) (c1 c2 c3 c4 : Circuit)
    (gs order : List Label) (added : List Gate) : Prop extends RSTrace c sub im om ctr c1 c2 c3 c4 gs order where
  keysND : ((im ++ om).map (·.1)).Nodup
  omvND : (om.map (·.2)).Nodup
  omvI : ∀ o ∈ om.map (·.2), (im.map (·.2)).contains o = false
  sOut : ∀ o ∈ om.map (·.2), o ∈ gs
  perm : order.Perm sub.labels
  subO : ∀ o ∈ om.map (·.2), o ∈ order
  ainv : AInv c3 c4 sub (im.map (·.2)) added order

theorem replaceSubcircuit_facts {c sub c' : Circuit} {im om : List (Label × Label)} {ctr ctr' : Nat}
    (hw : WFS c) (hs : WFG sub) (hsin : ∀ g ∈ sub.gates, g.ty = INPUT → g.label ∈ sub.inputs)
    (hik : (im.map (·.1)).Nodup) (hok : (om.map (·.1)).Nodup)
    (h : c.replaceSubcircuit sub im om ctr = .ok (c', ctr')) :
    ∃ c1 c2 c3 c4 gs order added, c' = rsResult c2 c4 gs (om.map (·.2)) ∧
      RSFacts c sub im om ctr c1 c2 c3 c4 gs order added := by
  obtain ⟨c1, c2, c3, c4, gs, order, t, hr⟩ := Stage.of_ok (replaceSubcircuit_outcome hw sub im om ctr) h
  cases hr
  have keysND : ((im ++ om).map (·.1)).Nodup := by
    rw [List.map_append, List.nodup_append]
    exact ⟨hik, hok, fun a ha b hb e => t.disj a ha (e ▸ hb)⟩
  have vnd := renFold_vals_nodup hw keysND t.keysIn t.ren
  rw [List.map_append, List.nodup_append] at vnd
  have omvI : ∀ o ∈ om.map (·.2), (im.map (·.2)).contains o = false := fun o ho => by
    simpa using fun hm => vnd.2.2 o hm o ho rfl
  obtain ⟨order', ho1, hperm, _⟩ := topSort_inv_spec hs
  obtain rfl : order' = order := by rw [t.sorted] at ho1; cases ho1; rfl
  have subI : ∀ g ∈ sub.gates, g.ty = INPUT → (im.map (·.2)).contains g.label = true := fun g hg hty => by
    simpa using t.subIn g.label (hsin g hg hty)
  obtain ⟨added, ainv⟩ := addFold_inv (t.inv.nodup t.wfs2.nodup) subI t.add
  exact ⟨c1, c2, c3, c4, gs, order', added, rfl, t, keysND, vnd.2.1, omvI, fun o ho => t.sliceOut o ho (omvI o ho),
    hperm, fun o ho => hperm.mem_iff.mpr (t.omvIn o ho), ainv⟩

theorem RSFacts.wfs {c sub : Circuit} {im om : List (Label × Label)} {ctr : Nat} {c1 c2 c3 c4 : Circuit}
    {gs order : List Label} {added : List Gate} (F : RSFacts c sub im om ctr c1 c2 c3 c4 gs order added) :
    WFS (rsResult c2 c4 gs (om.map (·.2))) :=
  rsResult_wfs F.wfs2 F.inv F.ainv F.omvND F.sOut F.omvI F.noUsers F.outs F.subO F.cyc

theorem replaceSubcircuit_wfs {c sub c' : Circuit} {im om : List (Label × Label)} {ctr ctr' : Nat}
    (hw : WFS c) (hs : WFS sub) (hik : (im.map (·.1)).Nodup) (hok : (om.map (·.1)).Nodup)
    (h : c.replaceSubcircuit sub im om ctr = .ok (c', ctr')) : WFS c' := by
  obtain ⟨c1, c2, c3, c4, gs, order, added, rfl, F⟩ := replaceSubcircuit_facts hw hs.toWFG
    (fun g hg ht => (hs.inputsOK _).mpr ⟨g, hg, rfl, ht⟩) hik hok h
  exact F.wfs

/-- the exceptions the docstring of `replace_subcircuit` and of the methods it calls name -/
def re_Documented (e : String) : Prop :=
  e ∈ ["ReplaceSubcircuitError", "GateDoesntExistError", "CircuitGateIsAbsentError",
       "CircuitGateAlreadyExistsError", "CircuitValidationError", "CreateBlockError",
       "DeleteBlockError", "GateHasUsersError", "CircuitIsCyclicalError"]

theorem re_Raised.documented {e : String} (h : re_Raised e) : re_Documented e :=
  List.Sublist.subset (by decide) h

theorem re_Raised.not_internal :
    ∀ e ∈ ["Py:KeyError", "Py:ValueError", "Py:AssertionError", "Py:IndexError", "fuel"], ¬ re_Raised e := by
  unfold re_Raised; decide

theorem re_replaceSubcircuit_errors_core {c sub : Circuit} {im om : List (Label × Label)} {ctr : Nat} {e : String}
    (hw : WFS c) (h : c.replaceSubcircuit sub im om ctr = .error e) : re_Raised e :=
  Stage.of_error (replaceSubcircuit_outcome hw sub im om ctr) h

/-- the proof uses none of `_hs`, `_hik`, `_hok` -/
theorem re_replaceSubcircuit_errors {c sub : Circuit} {im om : List (Label × Label)} {ctr : Nat} {e : String}
    (hw : WFS c) (_hs : WFS sub) (_hik : (im.map (·.1)).Nodup) (_hok : (om.map (·.1)).Nodup)
    (h : c.replaceSubcircuit sub im om ctr = .error e) : re_Documented e :=
  (re_replaceSubcircuit_errors_core hw h).documented

end Cirbo
