import Cirbo.Proofs.Dfs
import Cirbo.Proofs.TrTerm
/-!
# `check_circuit_has_no_cycles` raises exactly when a cycle is reachable from the start gates (the
outputs by default) (C20)

In the model `hasCycleCheckFrom c start = .ok true` stands for "the check raises
`CircuitValidationError`", `.ok false` for "it returns", `.error e` for any other exception; the start
gates are `start.getD c.outputs`.
-/
namespace Cirbo

variable {c : Circuit} {ab : Bool} {next : Label → List Label} {start : List Label} {s s' : TrSt}

/-- a second form of what `DfsInv` says of the aborting traversal (`DfsInv.toCycInv`): successors of an entered gate
that are not finished wait above it; nothing here uses it -/
structure CycInv (next : Label → List Label) (s : TrSt) : Prop where
  pending : ∀ u, s.st u = .ent → ∀ x ∈ next u, s.st x ≠ .vis →
    ∃ pre post, s.queue = pre ++ u :: post ∧ u ∉ post ∧ x ∈ post
  post : ∀ e1 l e2, exits s.log = e1 ++ l :: e2 → ∀ x ∈ next l, x ∈ e1

/-- under the aborting hook the log never shows a grey discovery: the step would have raised -/
theorem trStep_no_back (h : ∀ x, Ev.discover x .ent ∉ s.log) (hs : trStep c false true next s = .next s') :
    ∀ x, Ev.discover x .ent ∉ s'.log := by
  obtain ⟨q, cur, -, -, ⟨-, hcp, rfl⟩ | ⟨-, rfl⟩ | ⟨-, rfl⟩⟩ := dfsStep_cases hs
  · intro x hx
    rcases List.mem_append.mp hx with hx | hx
    · exact h x hx
    · obtain ⟨h1, h2⟩ := mem_enterEvs_discover.mp hx
      obtain ⟨-, h0⟩ | ⟨_, -, ⟨-, h0⟩ | ⟨-, -, h0⟩⟩ := childProblem_cases c true (setSt s.st cur .ent) (next cur)
      · exact (h0 x h1).2 rfl h2
      all_goals rw [hcp] at h0; cases h0
  · simpa using h
  · exact h

theorem DfsInv.toCycInv (inv : DfsInv next start s) (hnb : ∀ x, Ev.discover x .ent ∉ s.log) : CycInv next s :=
  ⟨fun u hu x hx hxv => ((inv.grey u hu).ops x hx).resolve_left fun h => h.elim hxv (hnb x),
    fun e1 l e2 he x hx => (inv.post e1 l e2 he x hx).resolve_right (hnb x)⟩

/-- a rank on the part of the circuit reachable from `q` along operands: no cycle is reachable from `q` -/
def AcyclicFrom (c : Circuit) (q : List Label) : Prop :=
  ∃ r : Label → Nat, ∀ l, Reach c.opsOf q l → ∀ x ∈ c.opsOf l, r x < r l

abbrev AcyclicFromOutputs (c : Circuit) : Prop := AcyclicFrom c c.outputs

theorem cycleCheckFrom_true {c : Circuit} (start : Option (List Label)) (h : hasCycleCheckFrom c start = .ok true) :
    ∃ x, Reach c.opsOf (start.getD c.outputs) x ∧ Desc c.opsOf x x := by
  have ht : traverse c false false start false true = .error "CircuitValidationError" := by
    unfold hasCycleCheckFrom at h
    split at h
    · assumption
    · cases h
    · cases h
  rcases traverse_error_cases ht with hl | ⟨-, -, he⟩
  · rcases (trLoop_induct (next := c.opsOf) (P := fun s => TInv _ _ s ∧ DfsInv _ _ s)
      (fun _ _ hP hs => ⟨trStep_inv hP.1 hs, trStep_dfsinv hP.1 hP.2 hs⟩) _ _
      ⟨tinv_init _ _, dfsinv_init _ _⟩).2 _ hl with he | ⟨s1, ⟨tinv, inv⟩, hs⟩
    · simp at he
    · obtain ⟨q, cur, hq, ⟨-, he⟩ | ⟨-, -, hcp⟩⟩ := trStep_error_cases hs
      · simp at he
      · obtain ⟨h0, -⟩ | ⟨x, hx, ⟨-, h0⟩ | ⟨-, hxe, -⟩⟩ := childProblem_cases c true (setSt s1.st cur .ent) (c.opsOf cur)
        · rw [hcp] at h0; cases h0
        · rw [hcp] at h0; simp at h0
        · exact ⟨x, inv.grey_succ tinv hq hx hxe⟩
  · simp at he

theorem cycleCheckFrom_acyclic {c : Circuit} (start : Option (List Label))
    (h : AcyclicFrom c (start.getD c.outputs)) : hasCycleCheckFrom c start ≠ .ok true := fun ht => by
  obtain ⟨r, hr⟩ := h
  obtain ⟨x, h1, h2⟩ := cycleCheckFrom_true start ht
  exact Nat.lt_irrefl _ (Desc.rank_lt hr h1 h2)

theorem cycleCheckFrom_false {c : Circuit} (start : Option (List Label)) (h : hasCycleCheckFrom c start = .ok false) :
    AcyclicFrom c (start.getD c.outputs) := by
  unfold hasCycleCheckFrom at h
  cases ht : traverse c false false start false true with
  | error e =>
    rw [ht] at h
    split at h
    · cases h
    · cases h
    · rename_i h1 _ h2
      cases h2
  | ok log =>
    obtain ⟨hne, -⟩ | ⟨s, order, -, hl, -, rfl⟩ := traverse_ok_cases ht
    · -- no gates: nothing has operands
      refine ⟨fun _ => 0, fun l _ x hx => ?_⟩
      rw [opsOf_not_mem (by simp [Circuit.labels, hne])] at hx; cases hx
    obtain ⟨⟨tinv, inv, hnb⟩, hq⟩ := (trLoop_induct (next := c.opsOf)
      (P := fun s => TInv c.opsOf (start.getD c.outputs) s ∧ DfsInv c.opsOf (start.getD c.outputs) s ∧
        ∀ x, Ev.discover x .ent ∉ s.log)
      (fun s s' hP hs => ⟨trStep_inv hP.1 hs, trStep_dfsinv hP.1 hP.2.1 hs, trStep_no_back hP.2.2 hs⟩) _ _
      ⟨tinv_init _ _, dfsinv_init _ _, fun _ h => nomatch h⟩).1 s hl
    -- the position in the exit list is a rank
    refine ⟨fun l => (exits s.log).idxOf l, ?_⟩
    intro l hl x hx
    have hle : l ∈ exits s.log := by
      rw [inv.exitVis]
      cases hst : s.st l with
      | vis => rfl
      | ent => have := (inv.grey l hst).mem; rw [hq] at this; cases this
      | unv => exact absurd hst ((reach_iff_of_done tinv hq l).mp hl)
    obtain ⟨e1, e2, he⟩ := List.append_of_mem hle
    have hxe1 := (inv.post e1 l e2 he x hx).resolve_right (hnb x)
    have hl1 : l ∉ e1 := fun hm => by
      have hnd := inv.exitND
      rw [he] at hnd
      exact (List.nodup_append.mp hnd).2.2 l hm l (by simp) rfl
    simp only [he]
    rw [List.idxOf_append, List.idxOf_append]
    simp only [hl1, hxe1, if_false, if_true, List.idxOf_cons_self]
    have := List.idxOf_lt_length_of_mem hxe1
    omega

theorem trStep_no_gde {c : Circuit} {bfs ab : Bool} {next : Label → List Label} {s : TrSt}
    (hq : ∀ l ∈ s.queue, c.hasGate l = true ∧ ∀ x ∈ next l, c.hasGate x = true) :
    trStep c bfs ab next s ≠ .error "GateDoesntExistError" := by
  intro hs
  obtain ⟨q, cur, hq1, h⟩ := trStep_error_cases hs
  obtain ⟨h1, h2⟩ := hq cur (hq1 ▸ mem_withTop.mpr (.inl rfl))
  rcases h with ⟨hg, -⟩ | ⟨-, -, hcp⟩
  · rw [h1] at hg; cases hg
  · obtain ⟨h0, -⟩ | ⟨x, hx, ⟨hxe, -⟩ | ⟨-, -, h0⟩⟩ := childProblem_cases c ab (setSt s.st cur .ent) (next cur)
    · rw [hcp] at h0; cases h0
    · rw [h2 x hx] at hxe; cases hxe
    · rw [hcp] at h0; simp at h0

theorem cycleCheckFrom_cyclic {c : Circuit} (start : Option (List Label))
    (hcl : ∀ l, Reach c.opsOf (start.getD c.outputs) l → c.hasGate l = true)
    (hcyc : ¬ AcyclicFrom c (start.getD c.outputs)) : hasCycleCheckFrom c start = .ok true := by
  cases hres : hasCycleCheckFrom c start with
  | ok b =>
    cases b with
    | true => rfl
    | false => exact absurd (cycleCheckFrom_false start hres) hcyc
  | error e =>
    exfalso
    unfold hasCycleCheckFrom at hres
    cases ht : traverse c false false start false true with
    | ok log => rw [ht] at hres; cases hres
    | error e' =>
      -- the only possible error is the validation error
      have : e' = "CircuitValidationError" := by
        rcases traverse_error_cases ht with hl | ⟨h, -⟩
        · rcases (trLoop_induct (next := c.opsOf) (fun _ _ => trStep_inv) _ _ (tinv_init _ _)).2 _ hl
            with rfl | ⟨s1, tinv, hs⟩
          · exact absurd hl (trLoop_terminates _ _ (potential_init_lt _ _ _))
          · rcases trStep_error hs with rfl | h
            · exact absurd hs (trStep_no_gde fun l hl =>
                ⟨hcl l (tinv.reachQ l hl), fun x hx => hcl x (.step (tinv.reachQ l hl) hx)⟩)
            · exact h
        · cases h
      subst this
      rw [ht] at hres
      simp at hres

/-- the whole-graph check (`start_gates = list(gates)`): silent only if the whole graph has a rank -/
theorem cycleCheckAll_false {c : Circuit} (h : hasCycleCheckFrom c (some c.labels) = .ok false) :
    ∃ r : Label → Nat, ∀ l ∈ c.labels, ∀ x ∈ c.opsOf l, r x < r l := by
  obtain ⟨r, hr⟩ := cycleCheckFrom_false (some c.labels) h
  exact ⟨r, fun l hl => hr l (.base hl)⟩

theorem cycleCheck_err {c : Circuit} (start : Option (List Label)) {e : String}
    (h : hasCycleCheckFrom c start = .error e) : e = "GateDoesntExistError" := by
  unfold hasCycleCheckFrom at h
  cases ht : traverse c false false start false true with
  | ok log => rw [ht] at h; cases h
  | error e' =>
    rw [ht] at h
    rcases traverse_error_cases ht with hl | ⟨hf, _⟩
    · rcases trLoop_error _ _ _ hl with rfl | rfl | rfl
      · exact absurd ht (traverse_terminates c false false start false true)
      · simp at h; exact h.symm
      · simp at h
    · cases hf

end Cirbo
