import Cirbo.Basic
/-!
# Reachability, operands-first lists, and the open nodes of an explicit-stack depth-first search

No circuit is needed here. The loops of the model that search depth first with a stack (traversal, demand-driven
evaluation, enumeration) may hold a node several times; the expansion of a node happens at its last occurrence, so the
invariant speaks of what lies above that (`Above`). `OpenNode` is what all of them keep of an expanded node that is
not done, on any graph.
-/
namespace Cirbo

inductive Reach (next : Label → List Label) (start : List Label) : Label → Prop
  | base {l} : l ∈ start → Reach next start l
  | step {u l} : Reach next start u → l ∈ next u → Reach next start l

variable {next : Label → List Label} {start : List Label}

theorem Reach.trans {A B : List Label} {x : Label} (hB : ∀ l ∈ B, Reach next A l) (h : Reach next B x) :
    Reach next A x := by
  induction h with
  | base hl => exact hB _ hl
  | step _ hw ih => exact .step ih hw

theorem Reach.closed {X : Label → Prop}
    (hX : ∀ x, X x → ∀ y ∈ next x, X y) (hs : ∀ o ∈ start, X o) {l : Label} (h : Reach next start l) : X l := by
  induction h with
  | base hm => exact hs _ hm
  | step _ hm ih => exact hX _ ih _ hm

/-- `x` is reached from `u` along at least one edge -/
abbrev Desc (next : Label → List Label) (u x : Label) : Prop := Reach next (next u) x

theorem Desc.reach {u x : Label} (hu : Reach next start u) (h : Desc next u x) : Reach next start x :=
  Reach.trans (fun _ hl => .step hu hl) h

theorem Desc.rank_lt {r : Label → Nat} (hr : ∀ l, Reach next start l → ∀ x ∈ next l, r x < r l) {u x : Label}
    (hu : Reach next start u) (h : Desc next u x) : r x < r u := by
  induction h with
  | base hl => exact hr u hu _ hl
  | step hw hx ih => exact Nat.lt_trans (hr _ (Desc.reach hu hw) _ hx) ih

theorem Desc.irrefl {r : Label → Nat} (hr : ∀ l, ∀ x ∈ next l, r x < r l) (u : Label) : ¬ Desc next u u := fun h =>
  Nat.lt_irrefl _ (Desc.rank_lt (start := [u]) (fun l _ => hr l) (.base (List.mem_singleton.mpr rfl)) h)

theorem snoc_split_induct {α} {P : List α → α → Prop} {es : List α} {cur : α}
    (h : ∀ e1 l e2, es = e1 ++ l :: e2 → P e1 l) (hc : P es cur) :
    ∀ e1 l e2, es ++ [cur] = e1 ++ l :: e2 → P e1 l := by
  intro e1 l e2 he
  rcases List.eq_nil_or_concat e2 with rfl | ⟨e2', y, rfl⟩
  · obtain ⟨rfl, h2⟩ := List.append_inj' he rfl
    obtain rfl : cur = l := by simpa using h2
    exact hc
  · have he' : es ++ [cur] = (e1 ++ l :: e2') ++ [y] := by simpa using he
    exact h e1 l e2' (List.append_inj' he' rfl).1

/-- every member of `L` comes after all of its successors -/
def OpsFirst (next : Label → List Label) (L : List Label) : Prop :=
  ∀ e1 l e2, L = e1 ++ l :: e2 → ∀ x ∈ next l, x ∈ e1

theorem OpsFirst.closed {e1 e2 : List Label} (h : OpsFirst next (e1 ++ e2)) {x : Label}
    (hx : x ∈ e1) : ∀ y ∈ next x, y ∈ e1 := fun y hy => by
  obtain ⟨a, b, rfl⟩ := List.append_of_mem hx
  exact List.mem_append_left _ (h a x (b ++ e2) (by simp) y hy)

theorem OpsFirst.append {A B : List Label} (hA : OpsFirst next A)
    (hB : ∀ e1 l e2, B = e1 ++ l :: e2 → ∀ x ∈ next l, x ∈ A ++ e1) : OpsFirst next (A ++ B) := by
  intro e1 l e2 he x hx
  rcases List.append_eq_append_iff.mp he with ⟨a', rfl, hb⟩ | ⟨c', rfl, hc⟩
  · exact hB a' l e2 hb x hx
  · cases c' with
    | nil => simpa using hB [] l e2 hc.symm x hx
    | cons y c'' =>
      obtain ⟨rfl, rfl⟩ := List.cons.inj hc
      exact hA e1 l c'' rfl x hx

theorem OpsFirst.filter {O : List Label} (h : OpsFirst next O) (p : Label → Bool) :
    ∀ e1 l e2, O.filter p = e1 ++ l :: e2 → ∀ x ∈ next l, p x = true → x ∈ e1 := by
  intro e1 l e2 he x hx hp
  obtain ⟨l1, l2, rfl, rfl, h2⟩ := List.filter_eq_append_iff.mp he
  obtain ⟨m1, m2, rfl, hm1, -, -⟩ := List.filter_eq_cons_iff.mp h2
  rcases List.mem_append.mp (h (l1 ++ m1) l m2 (by simp) x hx) with hx1 | hx1
  · exact List.mem_filter.mpr ⟨hx1, hp⟩
  · exact absurd hp (hm1 x hx1)

theorem OpsFirst.later {pre post : List Label} {l o : Label}
    (h : OpsFirst next (pre ++ l :: post)) (hnd : (pre ++ l :: post).Nodup) (ho : o ∈ pre ++ l :: post)
    (hl : l ∈ next o) (hne : o ≠ l) : o ∈ post := by
  rcases List.mem_append.mp ho with hp | hp
  · exact absurd (h.closed hp l hl) fun hm => (List.nodup_append.mp hnd).2.2 l hm l (by simp) rfl
  · exact (List.mem_cons.mp hp).resolve_left hne

theorem last_occ_unique {α} {u : α} : ∀ {a a' b b' : List α}, a ++ u :: b = a' ++ u :: b' → u ∉ b → u ∉ b' →
    a = a' ∧ b = b' := by
  have key : ∀ {c b b' : List α}, u :: b = c ++ u :: b' → u ∉ b → c = [] ∧ b = b' := by
    intro c b b' h hb
    cases c with
    | nil => exact ⟨rfl, (List.cons.inj h).2⟩
    | cons x c => exact absurd ((List.cons.inj h).2 ▸ by simp) hb
  intro a a' b b' h hb hb'
  rcases List.append_eq_append_iff.mp h with ⟨c, rfl, hc⟩ | ⟨c, rfl, hc⟩
  · obtain ⟨rfl, e⟩ := key hc hb
    exact ⟨(List.append_nil a).symm, e⟩
  · obtain ⟨rfl, e⟩ := key hc hb'
    exact ⟨List.append_nil a', e.symm⟩

theorem last_split {α} [DecidableEq α] {u : α} : ∀ {l : List α}, u ∈ l → ∃ a b, l = a ++ u :: b ∧ u ∉ b := by
  intro l
  induction l with
  | nil => intro h; cases h
  | cons x t ih =>
    intro h
    by_cases ht : u ∈ t
    · obtain ⟨a, b, e, hb⟩ := ih ht
      exact ⟨x :: a, b, by rw [e]; rfl, hb⟩
    · rcases List.mem_cons.mp h with rfl | h
      · exact ⟨[], t, rfl, ht⟩
      · exact absurd h ht

/-- `x` lies above the last occurrence of `u` in the stack -/
def Above (l : List Label) (u x : Label) : Prop := ∃ pre post, l = pre ++ u :: post ∧ u ∉ post ∧ x ∈ post

theorem above_iff_of_split {l pre post : List Label} {u x : Label} (h : l = pre ++ u :: post)
    (hu : u ∉ post) : Above l u x ↔ x ∈ post := by
  constructor
  · rintro ⟨pre', post', e, hu', hx⟩
    rwa [(last_occ_unique (h.symm.trans e) hu hu').2]
  · exact fun hx => ⟨pre, post, h, hu, hx⟩

theorem above_append {l ys : List Label} {u x : Label} (hu : u ∉ ys) :
    Above (l ++ ys) u x ↔ Above l u x ∨ (u ∈ l ∧ x ∈ ys) := by
  by_cases hl : u ∈ l
  · obtain ⟨a, b, e, hb⟩ := last_split hl
    rw [above_iff_of_split (pre := a) (post := b ++ ys) (by simp [e]) (by simp [hb, hu]),
      above_iff_of_split e hb, List.mem_append]
    simp [hl]
  · constructor
    · rintro ⟨pre, post, e, -, -⟩
      exact absurd (List.mem_append.mp (e ▸ (by simp : u ∈ pre ++ u :: post))) (by simp [hl, hu])
    · rintro (⟨pre, post, e, -, -⟩ | ⟨h, -⟩)
      · exact absurd (e ▸ (by simp : u ∈ pre ++ u :: post)) hl
      · exact absurd h hl

theorem above_top {q : List Label} {u cur : Label} (hu : u ∈ q ++ [cur]) (huc : u ≠ cur) :
    Above (q ++ [cur]) u cur :=
  (above_append (by simpa using huc)).mpr (.inr ⟨by simpa [huc] using hu, by simp⟩)

theorem above_pop {q : List Label} {u x cur : Label} (huc : u ≠ cur) :
    Above (q ++ [cur]) u x ↔ Above q u x ∨ (u ∈ q ∧ x = cur) := by
  simpa using above_append (l := q) (ys := [cur]) (x := x) (by simpa using huc)

/-- `u` is expanded and not done: it is on the stack, what lies above its last occurrence descends from
it, and each of its successors is done or waits there -/
structure OpenNode (next : Label → List Label) (done : Label → Prop) (stack : List Label) (u : Label) : Prop where
  mem : u ∈ stack
  ops : ∀ o ∈ next u, done o ∨ Above stack u o
  above : ∀ x, Above stack u x → Desc next u x

variable {done done' : Label → Prop} {q ms : List Label} {u cur : Label}

theorem OpenNode.expand (hu : u ∉ ms) (hms : ∀ x ∈ ms, x ∈ next u) (hops : ∀ o ∈ next u, done o ∨ o ∈ ms) :
    OpenNode next done (q ++ [u] ++ ms) u := by
  have habove : ∀ x, Above (q ++ [u] ++ ms) u x ↔ x ∈ ms := fun x => above_iff_of_split (pre := q) (by simp) hu
  exact ⟨by simp, fun o ho => (hops o ho).imp_right (habove o).mpr, fun x hx => .base (hms x ((habove x).mp hx))⟩

theorem OpenNode.push (h : OpenNode next done (q ++ [cur]) u) (huc : u ≠ cur) (hum : u ∉ ms)
    (hms : ∀ x ∈ ms, x ∈ next cur) (hsub : ∀ x, done x → done' x) : OpenNode next done' (q ++ [cur] ++ ms) u := by
  refine ⟨List.mem_append_left _ h.mem,
    fun o ho => (h.ops o ho).imp (hsub o) fun ha => (above_append hum).mpr (.inl ha), fun x hx => ?_⟩
  rcases (above_append hum).mp hx with hx | ⟨-, hx⟩
  · exact h.above x hx
  · exact .step (h.above _ (above_top h.mem huc)) (hms x hx)

/-- the top lies above an open node below it, so on an acyclic graph no successor of the top is that node -/
theorem OpenNode.not_mem_succ (h : OpenNode next done (q ++ [cur]) u) (huc : u ≠ cur) (hirr : ¬ Desc next u u)
    (hms : ∀ x ∈ ms, x ∈ next cur) : u ∉ ms :=
  fun hm => hirr (.step (h.above _ (above_top h.mem huc)) (hms u hm))

theorem OpenNode.pop (h : OpenNode next done (q ++ [cur]) u) (huc : u ≠ cur) (hsub : ∀ x, done x → done' x)
    (hcur : done' cur) : OpenNode next done' q u := by
  refine ⟨by simpa [huc] using h.mem, fun o ho => ?_, fun x hx => h.above x ((above_pop huc).mpr (.inl hx))⟩
  rcases h.ops o ho with hc | ha
  · exact .inl (hsub o hc)
  · rcases (above_pop huc).mp ha with ha | ⟨-, rfl⟩
    · exact .inr ha
    · exact .inl hcur

theorem OpenNode.top (h : OpenNode next done (q ++ [u]) u) : ∀ o ∈ next u, done o := fun o ho =>
  (h.ops o ho).resolve_right fun ha => by
    simpa using (above_iff_of_split (pre := q) (post := []) (by simp) (by simp)).mp ha

end Cirbo
