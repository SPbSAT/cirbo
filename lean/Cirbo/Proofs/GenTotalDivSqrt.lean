import Cirbo.Proofs.GenTotalSum
import Cirbo.Proofs.GenTotalArith
import Cirbo.Proofs.GenSqrt
/-!
# Totality of the loops of `add_div_mod` and `add_sqrt`

The loops over bit positions carry labels only; the widths they keep are those of `sem_muxLoop`, `sem_selLoop`,
`sem_addDivMod`.
-/
namespace Cirbo

theorem yields_muxLoop (sel : Label) : ∀ (subs xs acc : List Label),
    YieldsL (sel :: subs ++ xs ++ acc) (muxLoop sel subs xs acc) id
  | s :: subs, x :: xs, acc => by
    unfold muxLoop
    refine Yields.emitTT_bind (by decide) (by lmem) (by lmem) fun g1 => ?_
    refine Yields.emitTT_bind (by decide) (by lmem) (by lmem) fun g2 => ?_
    refine Yields.emitTT_bind (by decide) (by lmem) (by lmem) fun g3 => ?_
    exact (yields_muxLoop sel subs xs (acc ++ [g3])).sub (by lmem)
  | [], _, _ | _ :: _, [], _ => .ret (by lmem) trivial

/-- the code reads `new[i - off]` for every `i` of the slice that is overwritten -/
theorem yields_selLoop (per : Label) : ∀ (nws xs acc : List Label), xs.length ≤ nws.length →
    YieldsL (per :: nws ++ xs ++ acc) (selLoop per nws xs acc) id
  | nw :: nws, x :: xs, acc, h => by
    unfold selLoop
    refine Yields.emitTT_bind (by decide) (by lmem) (by lmem) fun g1 => ?_
    refine Yields.emitTT_bind (by decide) (by lmem) (by lmem) fun g2 => ?_
    refine Yields.emitTT_bind (by decide) (by lmem) (by lmem) fun g3 => ?_
    exact (yields_selLoop per nws xs (acc ++ [g3]) (Nat.le_of_succ_le_succ h)).sub (by lmem)
  | [], [], _, _ | _ :: _, [], _, _ => .ret (by lmem) trivial

theorem yields_andAll (m : Label) : ∀ (xs acc : List Label), YieldsL (m :: xs ++ acc) (andAll m xs acc) id
  | [], _ => .ret (by lmem) trivial
  | x :: r, acc => by
    unfold andAll
    exact Yields.emitTT_bind (by decide) (by lmem) (by lmem) fun g =>
      (yields_andAll m r (acc ++ [g])).sub (by lmem)

/-- the number of OR-prefixes stays in the contract: `sem_prefLoop` has it only together with what the prefixes mean -/
theorem yields_prefLoop (b : List Label) : ∀ (idx : List Nat) (pref : List Label), pref ≠ [] → (∀ i ∈ idx, i < b.length) →
    Yields (b ++ pref) (prefLoop b idx pref) id (fun r => r.length = pref.length + idx.length)
  | [], _, _, _ => .ret (by lmem) rfl
  | i :: r, pref, hne, hidx => by
    unfold prefLoop
    have hi : i < b.length := hidx i (by simp)
    cases hg : pref.getLast? with
    | none => exact absurd (List.getLast?_eq_none_iff.mp hg) hne
    | some p =>
      have hpm : p ∈ pref := List.mem_of_getLast? hg
      have hbm : b[i] ∈ b := List.getElem_mem hi
      simp only [List.getElem?_eq_getElem hi]
      refine Yields.emitTT_bind (by decide) (by lmem) (by lmem) fun g => ?_
      exact (yields_prefLoop b r (pref ++ [g]) (by simp) fun j hj => hidx j (List.mem_cons_of_mem _ hj)).mono (by lmem)
        fun res h => by simp only [h, List.length_append, List.length_cons, List.length_nil]; omega

theorem yields_divStep {b0 pref : List Label} {n : Nat} (hbl : b0.length = n) (hpl : n - 1 ≤ pref.length)
    (i : Nat) (s : List Label × List Label) (h1 : 1 ≤ i) (h2 : i < n) (hs : s.1.length = n ∧ s.2.length = n) :
    Yields (b0 ++ pref ++ (s.1.drop (i + 1) ++ s.2)) (divStep b0 pref n s i) (fun s => s.1.drop i ++ s.2)
      (fun s => s.1.length = n ∧ s.2.length = n) := by
  obtain ⟨result, now⟩ := s
  obtain ⟨hrl, hnl⟩ := hs
  simp only at hrl hnl ⊢
  unfold divStep
  simp only
  have hpi : pref[i - 1]? = some pref[i - 1] := List.getElem?_eq_getElem (by omega)
  simp only [hpi]
  have hnm : n - (n - i) = i := by omega
  simp only [hnm]
  have hpv : pref[i - 1] ∈ pref := List.getElem_mem _
  have hdn : ∀ l ∈ now.drop i, l ∈ now := fun _ => List.mem_of_mem_drop
  have htn : ∀ l ∈ now.take i, l ∈ now := fun _ => List.mem_of_mem_take
  have htb : ∀ l ∈ b0.take (n - i), l ∈ b0 := fun _ => List.mem_of_mem_take
  refine (yields_addSubtractWithCompare false (by rw [List.length_drop]; omega)
    (by rw [List.length_take]; omega)).bind (by lmem) ?_
  rintro ⟨subRes, per⟩ hr
  simp only [List.length_drop, List.length_take] at hr
  refine Yields.emitTT_bind (by decide) (by lmem) (by lmem) fun ri => ?_
  refine (yields_muxLoop ri subRes (now.drop i) []).bindR (by lmem) fun hi _ rm => ?_
  obtain ⟨_, sm⟩ := rm.sem
  obtain ⟨_, rfl, e2, -⟩ := sem_muxLoop _ _ [] _ sm (by rw [List.length_drop]; omega)
  refine .ret ?_ ⟨by simp [hrl], by simp only [List.length_append, List.length_take, e2, List.length_drop]; omega⟩
  simp only
  rw [List.drop_set_self _ _ _ (by omega)]
  lmem

theorem yields_sqrtStep {zero uno : Label} {n : Nat} (i : Nat) (s : List Label × List Label) (hi : 2 * i + 2 ≤ n)
    (hs : s.1.length = n ∧ s.2.length = n) :
    Yields ([zero, uno] ++ (s.1 ++ s.2)) (sqrtStep zero uno s i) (fun s => s.1 ++ s.2)
      (fun s => s.1.length = n ∧ s.2.length = n) := by
  obtain ⟨x, c⟩ := s
  obtain ⟨hxl, hcl⟩ := hs
  simp only at hxl hcl ⊢
  unfold sqrtStep
  simp only
  have hdx : ∀ l ∈ x.drop (2 * i), l ∈ x := fun _ => List.mem_of_mem_drop
  have htx : ∀ l ∈ x.take (2 * i), l ∈ x := fun _ => List.mem_of_mem_take
  have hdc : ∀ l ∈ c.drop (2 * i), l ∈ c := fun _ => List.mem_of_mem_drop
  -- `sm = (c[2s:] + 1)[:-1]`
  refine (yields_addSumTwoNumbers false (by rw [List.length_drop]; omega) (Nat.le_refl [uno].length)).bind
    (by lmem) fun sm0 h1 => ?_
  have hsm : ∀ l ∈ sm0.dropLast, l ∈ sm0 := fun l hl => List.dropLast_subset _ hl
  rw [List.length_drop, List.length_singleton] at h1
  refine (yields_addSubtractWithCompare false (by rw [List.length_drop]; omega)
    (by rw [List.length_dropLast]; omega)).bind (by lmem) ?_
  rintro ⟨subRes, per⟩ h2
  simp only [List.length_drop, List.length_dropLast] at h2
  refine (yields_selLoop per subRes (x.drop (2 * i)) [] (by rw [List.length_drop]; omega)).bindR (by lmem) fun xhi _ r3 => ?_
  obtain ⟨_, s3⟩ := r3.sem
  obtain ⟨_, rfl, h3, -⟩ := sem_selLoop _ _ [] _ s3 (by rw [List.length_drop]; omega)
  -- `c = c[1:] + [ZERO]`
  refine Yields.known (A := c.drop 1 ++ [zero]) ?_
    (by have : ∀ l ∈ c.drop 1, l ∈ c := fun _ => List.mem_of_mem_drop; lmem)
  have hc1l : (c.drop 1 ++ [zero]).length = n := by
    simp only [List.length_append, List.length_drop, List.length_cons, List.length_nil]; omega
  generalize c.drop 1 ++ [zero] = c1 at hc1l ⊢
  have hdc1 : ∀ l ∈ c1.drop (2 * i), l ∈ c1 := fun _ => List.mem_of_mem_drop
  have htc1 : ∀ l ∈ c1.take (2 * i), l ∈ c1 := fun _ => List.mem_of_mem_take
  refine (yields_addSumTwoNumbers false (by rw [List.length_drop]; omega) (Nat.le_refl [uno].length)).bind
    (by lmem) fun sm1 h4 => ?_
  have hsm1 : ∀ l ∈ sm1.dropLast, l ∈ sm1 := fun l hl => List.dropLast_subset _ hl
  rw [List.length_drop, List.length_singleton] at h4
  refine (yields_selLoop per sm1.dropLast (c1.drop (2 * i)) []
    (by simp only [List.length_drop, List.length_dropLast]; omega)).bindR (by lmem) fun chi _ r5 => ?_
  obtain ⟨_, s5⟩ := r5.sem
  obtain ⟨_, rfl, h5, -⟩ := sem_selLoop _ _ [] _ s5 (by simp only [List.length_drop, List.length_dropLast]; omega)
  refine .ret (by lmem) ⟨?_, ?_⟩
  · simp only [List.length_append, List.length_take, h3, List.length_drop]; omega
  · simp only [List.length_append, List.length_take, h5, List.length_drop]; omega

theorem yields_addDivMod {a b : List Label} (be : Bool) (hlen : a.length = b.length) (hpos : 1 ≤ a.length) :
    Yields (a ++ b) (addDivMod a b be) (fun r => r.1 ++ r.2) (fun (q, r) => q.length = a.length ∧ r.length = a.length) := by
  have h : YieldsL (a ++ b) (addDivMod a b be) (fun r => r.1 ++ r.2) := by
    unfold addDivMod
    simp only []
    have ha0 : ∀ l ∈ revIf a be, l ∈ a := by lmem [mem_revIf]
    have hb0 : ∀ l ∈ revIf b be, l ∈ b := by lmem [mem_revIf]
    have hla : (revIf a be).length = a.length := revIf_length _ _
    have hlb : (revIf b be).length = b.length := revIf_length _ _
    generalize revIf a be = a0 at *
    generalize revIf b be = b0 at *
    have hab : a0.length = b0.length := by omega
    rw [if_neg (by simp [hab])]
    generalize hn : a0.length = n at *
    have ne : ∀ {l : List Label}, 1 ≤ l.length → l ≠ [] := List.length_pos_iff.mp
    cases hg : b0.getLast? with
    | none => exact absurd (List.getLast?_eq_none_iff.mp hg) (ne (by omega))
    | some bTop =>
      simp only
      have hbT : bTop ∈ b0 := List.mem_of_getLast? hg
      refine (yields_prefLoop b0 _ [bTop] (by simp) fun i hi => by
        have := List.mem_range.mp (List.mem_of_mem_drop (List.mem_reverse.mp hi))
        omega).bind (by lmem) fun pref hpl => ?_
      simp only [List.length_cons, List.length_nil, List.length_reverse, List.length_drop, List.length_range] at hpl
      rw [List.range_drop]
      have hd0 : ∀ l ∈ (List.replicate n Gen.placeholderStr).drop (1 + (n - 1)), l ∈ a0 := by
        rw [List.drop_of_length_le (by simp; omega)]; lmem
      refine (Yields.progFold_desc (f := divStep b0 pref n) (I := b0 ++ pref) (fun i s => s.1.drop i ++ s.2)
        (fun _ s => s.1.length = n ∧ s.2.length = n) (n - 1) 1
        (fun i s h1 h2 hs => yields_divStep hab.symm (by omega) i s h1 (by omega) hs) _ ⟨by simp, hn⟩).bind (by lmem) ?_
      rintro ⟨result, now⟩ ⟨hrl, hnl⟩
      simp only at hrl hnl ⊢
      -- the last subtraction (shift 0)
      refine (yields_addSubtractWithCompare false (by omega) (by omega)).bind (by lmem) ?_
      rintro ⟨subRes, per⟩ _
      refine Yields.emitTT_bind (by decide) (by lmem) (by lmem) fun r0 => ?_
      refine (yields_muxLoop r0 subRes now []).bind (by lmem) fun now1 _ => ?_
      have hres1 : result.set 0 r0 = r0 :: result.drop 1 := by
        have := List.drop_set_self result 0 r0 (by omega)
        rwa [List.drop_zero] at this
      rw [hres1]
      cases hg2 : pref.getLast? with
      | none => exact absurd (List.getLast?_eq_none_iff.mp hg2) (ne (by omega))
      | some p =>
        have hpm : p ∈ pref := List.mem_of_getLast? hg2
        match b0, hab, hb0, hbT with
        | [], hab, _, _ => exact absurd hab (by simp; omega)
        | bLow :: bt, _, hb0, hbT =>
          simp only
          refine Yields.emitTT_bind (by decide) (by lmem) (by lmem) fun nz => ?_
          refine (yields_andAll nz (r0 :: result.drop 1) []).bind (by lmem) fun result2 _ => ?_
          refine (yields_andAll nz now1 []).bind (by lmem) fun now2 _ => ?_
          exact .ret (by lmem [mem_revIf]) trivial
  exact h.shapeR fun r _ hr => let ⟨_, s⟩ := hr.sem; ⟨(sem_addDivMod s).1, (sem_addDivMod s).2.1⟩

theorem yields_addSqrt {ins : List Label} (be : Bool) (hpos : 1 ≤ ins.length) :
    Yields ins (addSqrt ins be) id (fun r => r.length = (ins.length + 1) / 2) := by
  have h : YieldsL ins (addSqrt ins be) id := by
    unfold addSqrt
    simp only []
    have hx0 : ∀ l ∈ revIf ins be, l ∈ ins := by lmem [mem_revIf]
    have hl0 : (revIf ins be).length = ins.length := revIf_length _ _
    generalize revIf ins be = x0 at *
    match x0, hx0, hl0 with
    | [], _, hl0 => exact absurd hl0 (by simp; omega)
    | first :: rest, hx0, hl0 =>
      simp only
      generalize hxe : first :: rest = x0 at *
      have hf : first ∈ x0 := by rw [← hxe]; simp
      refine Yields.emitTT_bind (by decide) (by lmem) (by lmem) fun zero => ?_
      refine Yields.emitTT_bind (by decide) (by lmem) (by lmem) fun uno => ?_
      -- the operand padded to the even width `n = 2 * half`
      have hodd := Nat.mod_two_eq_zero_or_one x0.length
      rw [List.range_eq_range']
      generalize hx1 : (if (x0.length % 2 == 1) = true then x0 ++ [zero] else x0) = x1
      generalize hhalf : x0.length / 2 + (if (x0.length % 2 == 1) = true then 1 else 0) = half
      generalize hnn : (if (x0.length % 2 == 1) = true then x0.length + 1 else x0.length) = n
      have hx1m : ∀ l ∈ x1, l ∈ zero :: x0 := by subst hx1; split <;> lmem
      have hx1l : x1.length = n := by subst hx1 hnn; split <;> simp
      have hn2 : n = 2 * half := by subst hnn hhalf; rcases hodd with h | h <;> simp [h] <;> omega
      subst hn2
      refine Yields.known (A := x1) ?_ (fun l hl => by rcases List.mem_cons.mp (hx1m l hl) with rfl | h <;> lmem)
      refine (Yields.progFold (I := [zero, uno]) (f := sqrtStep zero uno) (fun s => s.1 ++ s.2)
        (fun s => s.1.length = 2 * half ∧ s.2.length = 2 * half) _
        (fun i hi s hs => yields_sqrtStep i s (by have := List.mem_range'_1.mp (List.mem_reverse.mp hi); omega) hs)
        (x1, List.replicate (2 * half) zero) ⟨hx1l, List.length_replicate⟩).bind (by lmem [List.mem_replicate, and_imp]) ?_
      rintro ⟨xf, c⟩ _
      have htc : ∀ l ∈ c.take half, l ∈ c := fun _ => List.mem_of_mem_take
      exact .ret (by lmem [mem_revIf]) trivial
  exact h.shapeR fun _ _ hr => let ⟨_, s⟩ := hr.sem; (sem_addSqrt s).1

end Cirbo
