import Cirbo.Model.Norm
import Cirbo.Proofs.Lists
import Cirbo.Proofs.SortBy
/-!
# Normalisation and denormalisation of truth tables are inverse

Each rearrangement is an equation between lists of optional items: `idx.map (l[·]?) = items.map some` says that `items`
lists what `l` holds at the positions `idx`.  `undelete` reads such a list off, `unsort` is the inverse, and the loop
removing duplicates keeps the equation between its mapping and the rows seen.
-/
namespace Cirbo
namespace Norm

def flipIf (p : Row × Bool) : Row := if p.2 then p.1.map (!·) else p.1

theorem map_not_not (r : Row) : (r.map (!·)).map (!·) = r := by
  induction r with
  | nil => rfl
  | cons b r ih => simp [ih]

theorem normalizeOutputs_spec : ∀ (tt : List Row) (negs : List Bool) (rows : List Row),
    normalizeOutputs tt = .ok (negs, rows) →
    negs.length = tt.length ∧ rows.length = tt.length ∧ (rows.zip negs).map flipIf = tt ∧
      ∀ r ∈ rows, r.head? = some false := by
  intro tt
  induction tt with
  | nil => intro negs rows h; simp only [normalizeOutputs, Except.ok.injEq, Prod.mk.injEq] at h; obtain ⟨rfl, rfl⟩ := h; simp
  | cons row rest ih =>
    intro negs rows h
    unfold normalizeOutputs at h
    split at h
    · cases h
    · rename_i b r'
      split at h
      · cases h
      · rename_i ns rs hrec
        simp only [Except.ok.injEq, Prod.mk.injEq] at h
        obtain ⟨rfl, rfl⟩ := h
        obtain ⟨h1, h2, h3, h4⟩ := ih ns rs hrec
        refine ⟨by simp [h1], by simp [h2], ?_, ?_⟩
        · simp only [List.zip_cons_cons, List.map_cons, h3, List.cons.injEq, and_true]
          cases b
          · simp [flipIf]
          · simpa [flipIf] using map_not_not (true :: r')
        · intro r hr
          rcases List.mem_cons.mp hr with rfl | hr
          · cases b <;> simp
          · exact h4 r hr

theorem sortOutputs_spec (rows : List Row) :
    ((sortOutputs rows).map (·.1)).Perm (List.range rows.length) ∧
    ∀ p ∈ sortOutputs rows, rows[p.1]? = some p.2 := by
  have hperm := sortBy_perm (fun (a b : Nat × Row) => rowLt a.2 b.2) (rows.zipIdx.map (fun ri => (ri.2, ri.1)))
  constructor
  · refine (hperm.map _).trans (List.Perm.of_eq ?_)
    apply List.ext_getElem <;> simp
  · intro p hp
    obtain ⟨⟨r, i⟩, hri, rfl⟩ := List.mem_map.mp (hperm.mem_iff.mp hp)
    exact List.mem_zipIdx_iff_getElem?.mp hri

theorem lt_length_of_map_getElem? {α} {idx : List Nat} {l items : List α} (h : idx.map (l[·]?) = items.map some) :
    ∀ i ∈ idx, i < l.length := by
  intro i hi
  obtain ⟨x, -, hx⟩ := map_some_fwd h i hi
  exact (List.getElem?_eq_some_iff.mp hx).1

theorem map_getElem?_append {α} {idx : List Nat} {l items : List α} (h : idx.map (l[·]?) = items.map some)
    (ext : List α) : idx.map ((l ++ ext)[·]?) = items.map some := by
  rw [← h]
  exact List.map_congr_left fun i hi => List.getElem?_append_left (lt_length_of_map_getElem? h i hi)

theorem map_getElem?_map {α β} (f : α → β) {idx : List Nat} {l items : List α} (h : idx.map (l[·]?) = items.map some) :
    idx.map ((l.map f)[·]?) = (items.map f).map some := by
  simpa [Function.comp_def] using congrArg (List.map (Option.map f)) h

theorem undelete_cons {α} {m : Nat} {ms : List Nat} {outs l : List α} :
    undelete (m :: ms) outs = .ok l ↔ ∃ x l', outs[m]? = some x ∧ undelete ms outs = .ok l' ∧ l = x :: l' := by
  simp only [undelete, List.foldr_cons]
  generalize List.foldr _ (Except.ok []) ms = r
  cases r <;> cases outs[m]? <;> simp [eq_comm]

theorem undelete_ok_iff {α} {mapping : List Nat} {outs l : List α} :
    undelete mapping outs = .ok l ↔ mapping.map (outs[·]?) = l.map some := by
  induction mapping generalizing l with
  | nil => cases l <;> simp [undelete]
  | cons m ms ih =>
    rw [undelete_cons]
    constructor
    · rintro ⟨x, l', hx, hl', rfl⟩
      simp [hx, ih.mp hl']
    · intro h
      cases l with
      | nil => simp at h
      | cons x l' =>
        simp only [List.map_cons, List.cons.injEq] at h
        exact ⟨x, l', h.1, ih.mpr h.2, rfl⟩

theorem undelete_total {α} {mapping : List Nat} {outs : List α} (h : ∀ i ∈ mapping, i < outs.length) :
    ∃ l, undelete mapping outs = .ok l := by
  induction mapping with
  | nil => exact ⟨[], rfl⟩
  | cons m ms ih =>
    obtain ⟨l, hl⟩ := ih fun i hi => h i (List.mem_cons_of_mem _ hi)
    exact ⟨_, undelete_cons.mpr ⟨_, l, List.getElem?_eq_getElem (h m List.mem_cons_self), hl, rfl⟩⟩

theorem undelete_mem {α} {mapping : List Nat} {outs l : List α} (h : undelete mapping outs = .ok l) :
    ∀ x ∈ l, x ∈ outs := by
  intro x hx
  obtain ⟨i, -, hi⟩ := map_some_bwd (undelete_ok_iff.mp h) x hx
  exact List.mem_of_getElem? hi

theorem foldl_set_length {α} : ∀ (ps : List (Nat × α)) (acc : List α),
    (ps.foldl (fun acc (p : Nat × α) => acc.set p.1 p.2) acc).length = acc.length
  | [], _ => rfl
  | p :: ps, acc => by rw [List.foldl_cons, foldl_set_length ps, List.length_set]

theorem foldl_set_zip {α} : ∀ (perm : List Nat) (outs acc : List α), perm.Nodup → (∀ i ∈ perm, i < acc.length) →
    perm.length = outs.length →
    perm.map (((perm.zip outs).foldl (fun acc (p : Nat × α) => acc.set p.1 p.2) acc)[·]?) = outs.map some ∧
    ∀ j, j ∉ perm → ((perm.zip outs).foldl (fun acc (p : Nat × α) => acc.set p.1 p.2) acc)[j]? = acc[j]?
  | [], [], _, _, _, _ => ⟨rfl, fun _ _ => rfl⟩
  | [], _ :: _, _, _, _, hl => by simp at hl
  | _ :: _, [], _, _, _, hl => by simp at hl
  | i :: perm, x :: outs, acc, hnd, hlt, hl => by
    simp only [List.nodup_cons] at hnd
    obtain ⟨i2, i3⟩ := foldl_set_zip perm outs (acc.set i x) hnd.2
      (fun q hq => by rw [List.length_set]; exact hlt q (List.mem_cons_of_mem _ hq)) (by simpa using hl)
    simp only [List.zip_cons_cons, List.foldl_cons]
    refine ⟨?_, fun j hj => ?_⟩
    · rw [List.map_cons, List.map_cons, i2, i3 i hnd.1, List.getElem?_set_self (hlt i List.mem_cons_self)]
    · rw [List.mem_cons, not_or] at hj
      rw [i3 j hj.2, List.getElem?_set_ne (Ne.symm hj.1)]

theorem unsort_ok_iff {α} {d : α} {perm : List Nat} {outs l : List α} (hp : perm.Perm (List.range perm.length)) :
    unsort d perm outs = .ok l ↔ l.length = outs.length ∧ perm.map (l[·]?) = outs.map some := by
  unfold unsort
  by_cases hl : perm.length = outs.length
  · have hmem : ∀ j, j ∈ perm ↔ j < outs.length := fun j => by rw [hp.mem_iff, List.mem_range, hl]
    have r1 := foldl_set_length (perm.zip outs) (List.replicate outs.length d)
    obtain ⟨hr, -⟩ := foldl_set_zip perm outs (List.replicate outs.length d) (hp.nodup_iff.mpr List.nodup_range)
      (fun i hi => by rw [List.length_replicate, ← hmem]; exact hi) hl
    rw [if_neg (by simp [hl]), Except.ok.injEq]
    generalize (perm.zip outs).foldl _ _ = r at r1 hr
    constructor
    · rintro rfl
      exact ⟨by simpa using r1, hr⟩
    · rintro ⟨h1, h2⟩
      apply List.ext_getElem?
      intro j
      by_cases hj : j < outs.length
      · exact List.map_inj_left.mp (hr.trans h2.symm) j ((hmem j).mpr hj)
      · rw [List.getElem?_eq_none (by simp at r1; omega), List.getElem?_eq_none (by omega)]
  · rw [if_pos (by simpa using hl)]
    refine ⟨fun h => (by cases h), fun h => absurd ?_ hl⟩
    simpa using congrArg List.length h.2

theorem unsort_perm {α} (d : α) {perm : List Nat} {outs : List α} (hp : perm.Perm (List.range perm.length))
    (hl : perm.length = outs.length) : ∃ l, unsort d perm outs = .ok l ∧ l.Perm outs := by
  cases h : unsort d perm outs with
  | error e => unfold unsort at h; rw [if_neg (by simp [hl])] at h; cases h
  | ok l =>
    refine ⟨l, rfl, ?_⟩
    obtain ⟨h1, h2⟩ := (unsort_ok_iff hp).mp h
    have hr : l.map some = (List.range perm.length).map (l[·]?) := by
      rw [hl, ← h1]
      apply List.ext_getElem (by simp)
      intro k hk _
      simp only [List.length_map] at hk
      simp [hk]
    have hps : (l.map some).Perm (outs.map some) := by rw [hr, ← h2]; exact (hp.map _).symm
    simpa using hps.filterMap id

/-- the loop's invariant: `mapping` sends every row seen so far to its place in `new`, whose last row is the
previous one -/
theorem dedupLoop_spec : ∀ (rest : List Row) (prev : Row) (new : List Row) (mapping : List Nat) (done : List Row),
    new.getLast? = some prev → mapping.map (new[·]?) = done.map some →
    (dedupLoop rest prev new mapping).2.map ((dedupLoop rest prev new mapping).1[·]?) = (done ++ rest).map some
  | [], _, _, _, _, _, h => by simpa [dedupLoop] using h
  | r :: rest, prev, new, mapping, done, hlast, h => by
    obtain ⟨ext, hext, hl⟩ : ∃ ext, (if r != prev then new ++ [r] else new) = new ++ ext ∧
        (new ++ ext).getLast? = some r := by
      by_cases hrp : r = prev
      · exact ⟨[], by simp [hrp], by simpa [hrp] using hlast⟩
      · exact ⟨[r], by simp [hrp], by simp⟩
    have := dedupLoop_spec rest r (new ++ ext) (mapping ++ [(new ++ ext).length - 1]) (done ++ [r]) hl
      (by rw [List.map_append, List.map_append, map_getElem?_append h, List.map_singleton, List.map_singleton,
            ← List.getLast?_eq_getElem?, hl])
    simpa only [dedupLoop, hext, List.append_assoc, List.singleton_append] using this

/-- `rows`: the rows after negation, `sorted`: their sorted list; the permutation reads `sorted` off `rows`, the mapping
reads it off the stored table -/
theorem normalize_spec {tt : List Row} {info : Info} (h : normalize tt = .ok info) :
    ∃ rows sorted : List Row, sorted ≠ [] ∧ rows.length = tt.length ∧ info.negations.length = tt.length ∧
      (rows.zip info.negations).map flipIf = tt ∧
      info.permutation.Perm (List.range rows.length) ∧ info.permutation.map (rows[·]?) = sorted.map some ∧
      info.mapping.map (info.table[·]?) = sorted.map some := by
  unfold normalize at h
  split at h
  · cases h
  · rename_i negs rows hno
    obtain ⟨n1, n2, n3, -⟩ := normalizeOutputs_spec _ _ _ hno
    simp only at h
    split at h
    · cases h
    · rename_i r0 rest hs
      have hd := dedupLoop_spec rest r0 [r0] [0] [r0] rfl rfl
      obtain ⟨hperm, hmem⟩ := sortOutputs_spec rows
      cases hdl : dedupLoop rest r0 [r0] [0] with
      | mk new mapping =>
        rw [hdl] at h hd
        cases h
        refine ⟨rows, r0 :: rest, List.cons_ne_nil _ _, n2, n1, n3, hperm, ?_, hd⟩
        rw [← hs, List.map_map, List.map_map]
        exact List.map_congr_left hmem

theorem normalize_perm {tt : List Row} {info : Info} (h : normalize tt = .ok info) :
    info.permutation.Perm (List.range info.permutation.length) := by
  obtain ⟨rows, -, -, -, -, -, hperm, -⟩ := normalize_spec h
  have : info.permutation.length = rows.length := by simpa using hperm.length_eq
  rwa [this]

/-- `f` = identity: the rows; `f` = the entry at an input assignment: the values a stored circuit computes.  Undoing the
duplicate removal and the sort gives back, item for item, the rows left by the negation step. -/
theorem normalize_denorm {tt : List Row} {info : Info} (h : normalize tt = .ok info) {α} (f : Row → α) (d : α) :
    ∃ rows : List Row, rows.length = tt.length ∧ info.negations.length = tt.length ∧
      (rows.zip info.negations).map flipIf = tt ∧
      ∃ u, undelete info.mapping (info.table.map f) = .ok u ∧ unsort d info.permutation u = .ok (rows.map f) := by
  obtain ⟨rows, sorted, -, n2, n1, n3, hperm, hp, hm⟩ := normalize_spec h
  have hpl : info.permutation.length = rows.length := by simpa using hperm.length_eq
  have hsl : rows.length = sorted.length := by simpa [hpl] using congrArg List.length hp
  exact ⟨rows, n2, n1, n3, sorted.map f, undelete_ok_iff.mpr (map_getElem?_map f hm),
    (unsort_ok_iff (normalize_perm h)).mpr ⟨by simpa using hsl, map_getElem?_map f hp⟩⟩

end Norm
end Cirbo
