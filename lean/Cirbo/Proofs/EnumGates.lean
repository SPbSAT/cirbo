import Cirbo.Model.Codec
import Cirbo.Proofs.OpenNode
import Cirbo.Proofs.Graph
import Cirbo.Proofs.Lists
/-!
# `_enumerate_gates`: inputs first, every gate exactly once, each after its operands (C16)
-/
namespace Cirbo

/-- one iteration of the stack loop of `_enumerate_gates` on the top `label` of the stack: it is popped if
already enumerated; else expanded (its missing operands `ps` pushed) if it has any and was not expanded
before; else enumerated and popped -/
def EnumMove (c : Circuit) (st : List Label × List Label) (stack : List Label)
    (st' : List Label × List Label) (stack' : List Label) : Prop :=
  ∃ q label, stack = q ++ [label] ∧
    ((label ∈ st.1 ∧ st' = st ∧ stack' = q) ∨
     (label ∉ st.1 ∧ label ∉ st.2 ∧ ∃ ps, (∀ o, o ∈ ps ↔ o ∈ c.opsOf label ∧ o ∉ st.1) ∧ ps ≠ [] ∧
        ps.length ≤ (c.opsOf label).length ∧ st' = (st.1, st.2 ++ [label]) ∧ stack' = q ++ [label] ++ ps) ∨
     (label ∉ st.1 ∧ (label ∈ st.2 ∨ ∀ o ∈ c.opsOf label, o ∈ st.1) ∧
        st' = (st.1 ++ [label], st.2) ∧ stack' = q))

theorem enumLoop_succ (c : Circuit) (fuel : Nat) (st : List Label × List Label) (stack : List Label) :
    (stack = [] ∧ enumLoop c (fuel + 1) st stack = st) ∨
    ∃ st' stack', EnumMove c st stack st' stack' ∧ enumLoop c (fuel + 1) st stack = enumLoop c fuel st' stack' := by
  obtain ⟨result, expanded⟩ := st
  simp only [enumLoop]
  cases htop : stack.getLast? with
  | none => exact .inl ⟨List.getLast?_eq_none_iff.mp htop, rfl⟩
  | some label =>
    obtain ⟨q, rfl⟩ := List.getLast?_eq_some_iff.mp htop
    refine .inr ?_
    simp only [List.dropLast_concat]
    split
    · rename_i hres
      exact ⟨_, _, ⟨q, label, rfl, .inl ⟨by simpa using hres, rfl, rfl⟩⟩, rfl⟩
    · rename_i hres
      have hlr : label ∉ result := by simpa using hres
      split
      · rename_i hexp
        simp only [Bool.and_eq_true, Bool.not_eq_true', List.isEmpty_eq_false_iff] at hexp
        exact ⟨_, _, ⟨q, label, rfl, .inr (.inl ⟨hlr, by simpa using hexp.2, _, fun o => by simp [List.mem_filter],
          by simpa using hexp.1, by simpa using List.length_filter_le _ _, rfl, rfl⟩)⟩, rfl⟩
      · rename_i hexp
        refine ⟨_, _, ⟨q, label, rfl, .inr (.inr ⟨hlr, ?_, rfl, rfl⟩)⟩, rfl⟩
        simp only [Bool.and_eq_true, Bool.not_eq_true', List.isEmpty_eq_false_iff, not_and, Bool.not_eq_false] at hexp
        by_cases hle : label ∈ expanded
        · exact .inl hle
        · refine .inr fun o ho => Classical.byContradiction fun hor => hle ?_
          simpa using hexp (List.ne_nil_of_mem (List.mem_filter.mpr ⟨ho, by simpa using hor⟩))

/-- every label of `ls` outside `expanded` holds its operand count plus one in reserve -/
def notExpW (c : Circuit) (expanded : List Label) (ls : List Label) : Nat :=
  (ls.map fun l => if l ∈ expanded then 0 else (c.opsOf l).length + 1).sum

/-- potential of the loop; `st.2` is the list of expanded labels -/
def enumPot (c : Circuit) (st : List Label × List Label) (stack : List Label) : Nat :=
  stack.length + notExpW c st.2 c.labels

theorem notExpW_add (c : Circuit) {expanded : List Label} {k : Label} (hk : k ∉ expanded) (ls : List Label) :
    notExpW c (expanded ++ [k]) ls + ls.count k * ((c.opsOf k).length + 1) = notExpW c expanded ls := by
  have := sum_map_zero_at (k := k) (w := fun l => if l ∈ expanded then 0 else (c.opsOf l).length + 1)
    (w' := fun l => if l ∈ expanded ++ [k] then 0 else (c.opsOf l).length + 1) (by simp)
    (fun l hl => by simp [hl]) ls
  simpa only [hk, if_false, notExpW] using this

theorem notExpW_le (c : Circuit) (hnd : c.labels.Nodup) (expanded : List Label) :
    notExpW c expanded c.labels ≤ totalOps c + c.gates.length := by
  have : ∀ ls, notExpW c expanded ls ≤ (ls.map fun l => (c.opsOf l).length + 1).sum := fun ls => by
    induction ls with
    | nil => exact Nat.le_refl _
    | cons x t ih => simp only [notExpW, List.map_cons, List.sum_cons] at ih ⊢; split <;> omega
  refine Nat.le_trans (this _) (Nat.le_of_eq ?_)
  rw [sum_opsOf_labels hnd (·.length + 1), totalOps, foldl_add_eq_sum]
  generalize c.gates = gs
  induction gs with
  | nil => simp
  | cons g t ih => simp only [List.map_cons, List.sum_cons, List.length_cons, ih]; omega

theorem EnumMove.pot {c : Circuit} {st st' : List Label × List Label} {stack stack' : List Label}
    (h : EnumMove c st stack st' stack') : enumPot c st' stack' < enumPot c st stack := by
  obtain ⟨q, label, rfl, ⟨-, rfl, rfl⟩ | ⟨-, hle, ps, hps, hne, hlen, rfl, rfl⟩ | ⟨-, -, rfl, rfl⟩⟩ := h
  · simp [enumPot]
  · have hll : 0 < c.labels.count label := by
      refine List.count_pos_iff.mpr (Classical.byContradiction fun hn => hne ?_)
      simpa [opsOf_not_mem hn, List.eq_nil_iff_forall_not_mem] using hps
    -- expanding `label` releases its reserve of `|ops| + 1` (once per occurrence among the labels),
    -- and at most `|ops|` entries are pushed (`hlen`)
    have hrelease := notExpW_add c hle c.labels
    have honce : (c.opsOf label).length + 1 ≤ c.labels.count label * ((c.opsOf label).length + 1) :=
      Nat.le_mul_of_pos_left _ hll
    simp only [enumPot, List.length_append]
    omega
  · simp [enumPot]

theorem enumLoop_induct {c : Circuit} {P : List Label × List Label → List Label → Prop}
    (step : ∀ st stack st' stack', P st stack → EnumMove c st stack st' stack' → P st' stack') :
    ∀ fuel st stack, P st stack → enumPot c st stack < fuel → P (enumLoop c fuel st stack) [] := by
  intro fuel
  induction fuel with
  | zero => intro _ _ _ h; exact absurd h (Nat.not_lt_zero _)
  | succ fuel ih =>
    intro st stack hP hpot
    obtain ⟨rfl, e⟩ | ⟨st', stack', hm, e⟩ := enumLoop_succ c fuel st stack <;> rw [e]
    · exact hP
    · exact ih st' stack' (step _ _ _ _ hP hm) (by have := hm.pot; omega)

/-- a second form of `EnumOpen` under a rank (`EnumOpen.toEnInv2`); nothing here uses it -/
structure EnInv2 (c : Circuit) (r : Label → Nat) (st : List Label × List Label) (stack : List Label) : Prop where
  nodup : st.1.Nodup
  before : ∀ p x q, st.1 = p ++ x :: q → ∀ o ∈ c.opsOf x, o ∈ p
  pending : ∀ pre u post, stack = pre ++ u :: post → u ∉ post → u ∈ st.2 → u ∉ st.1 →
    ∀ o ∈ c.opsOf u, o ∈ st.1 ∨ o ∈ post
  above : ∀ pre u post, stack = pre ++ u :: post → u ∉ post → u ∈ st.2 → u ∉ st.1 → ∀ x ∈ post, r x < r u
  onStack : ∀ u ∈ st.2, u ∉ st.1 → u ∈ stack

theorem contains_iff_mem {l : List Label} {x : Label} : l.contains x = true ↔ x ∈ l := by simp

/-- invariant of the stack loop, on any graph: the enumerated labels are distinct and each comes after its
operands; an expanded label that is not yet enumerated is open -/
structure EnumOpen (c : Circuit) (st : List Label × List Label) (stack : List Label) : Prop where
  nodup : st.1.Nodup
  before : OpsFirst c.opsOf st.1
  opn : ∀ u ∈ st.2, u ∉ st.1 → OpenNode c.opsOf (· ∈ st.1) stack u

theorem EnumOpen.toEnInv2 {c : Circuit} {r : Label → Nat} (hr : ∀ l, ∀ x ∈ c.opsOf l, r x < r l)
    {st : List Label × List Label} {stack : List Label} (inv : EnumOpen c st stack) : EnInv2 c r st stack :=
  ⟨inv.nodup, inv.before,
    fun _ u _ e hup hu hur o ho => ((inv.opn u hu hur).ops o ho).imp_right (above_iff_of_split e hup).mp,
    fun pre u post e hup hu hur x hx => Desc.rank_lt (start := [u]) (fun l _ => hr l)
      (.base (List.mem_singleton.mpr rfl)) ((inv.opn u hu hur).above x ⟨pre, post, e, hup, hx⟩),
    fun u hu hur => (inv.opn u hu hur).mem⟩

theorem EnumOpen.step {c : Circuit} (hirr : ∀ u, ¬ Desc c.opsOf u u)
    {st st' : List Label × List Label} {stack stack' : List Label}
    (inv : EnumOpen c st stack) (h : EnumMove c st stack st' stack') : EnumOpen c st' stack' := by
  obtain ⟨hnd, hbefore, hopen⟩ := inv
  obtain ⟨q, label, rfl, hcase⟩ := h
  -- popping `label` once it is in the (possibly extended) result
  have pop : ∀ result' : List Label, (∀ x ∈ st.1, x ∈ result') → label ∈ result' →
      ∀ u ∈ st.2, u ∉ result' → OpenNode c.opsOf (· ∈ result') q u := fun result' hsub hl u hu hur =>
    (hopen u hu fun hm => hur (hsub u hm)).pop (fun e => hur (e ▸ hl)) hsub hl
  rcases hcase with ⟨hl, rfl, rfl⟩ | ⟨hlr, -, ps, hps, -, -, rfl, rfl⟩ | ⟨hlr, hdone, rfl, rfl⟩
  · exact ⟨hnd, hbefore, pop st'.1 (fun _ h => h) hl⟩
  · have hms : ∀ x ∈ ps, x ∈ c.opsOf label := fun x hx => ((hps x).mp hx).1
    refine ⟨hnd, hbefore, fun u hu hur => ?_⟩
    by_cases huc : u = label
    · subst huc
      exact .expand (fun hm => hirr _ (.base (hms _ hm))) hms
        fun o ho => (Decidable.em (o ∈ st.1)).imp_right fun hor => (hps o).mpr ⟨ho, hor⟩
    · have h := hopen u (by simpa [huc] using hu) hur
      exact h.push huc (h.not_mem_succ huc (hirr u) hms) hms fun _ => id
  · have hops : ∀ o ∈ c.opsOf label, o ∈ st.1 := hdone.elim (fun hle => (hopen label hle hlr).top) id
    exact ⟨List.nodup_append.mpr ⟨hnd, by simp, fun a ha b hb e => hlr ((e.trans (List.mem_singleton.mp hb)) ▸ ha)⟩,
      snoc_split_induct hbefore hops, pop (st.1 ++ [label]) (fun _ h => List.mem_append_left _ h) (by simp)⟩

/-- the invariant of the whole enumeration; `S` are the start labels handled so far -/
structure EnumInv (c : Circuit) (S : List Label) (st : List Label × List Label)
    (stack : List Label) : Prop where
  inv : EnumOpen c st stack
  inputs : c.inputs <+: st.1
  labels : ∀ x, x ∈ st.1 ∨ x ∈ stack → x ∈ c.labels
  seen : ∀ x ∈ S, x ∈ st.1 ∨ x ∈ stack

theorem EnumInv.step {c : Circuit} (hirr : ∀ u, ¬ Desc c.opsOf u u)
    (hcl : ∀ l, ∀ x ∈ c.opsOf l, x ∈ c.labels) {S : List Label} {st st' : List Label × List Label}
    {stack stack' : List Label} (inv : EnumInv c S st stack) (h : EnumMove c st stack st' stack') :
    EnumInv c S st' stack' := by
  have hinv := inv.inv.step hirr h
  obtain ⟨q, label, rfl, ⟨hl, rfl, rfl⟩ | ⟨-, -, ps, hps, -, -, rfl, rfl⟩ | ⟨-, -, rfl, rfl⟩⟩ := h
  · refine ⟨hinv, inv.inputs, fun x hx => inv.labels x (hx.imp_right (List.mem_append_left _)), fun x hx => ?_⟩
    rcases inv.seen x hx with h1 | h1
    · exact .inl h1
    · rcases List.mem_append.mp h1 with h2 | h2
      · exact .inr h2
      · exact .inl (List.mem_singleton.mp h2 ▸ hl)
  · refine ⟨hinv, inv.inputs, fun x hx => ?_, fun x hx => (inv.seen x hx).imp_right (List.mem_append_left _)⟩
    rcases hx with h1 | h1
    · exact inv.labels x (.inl h1)
    · rcases List.mem_append.mp h1 with h2 | h2
      · exact inv.labels x (.inr h2)
      · exact hcl label x ((hps x).mp h2).1
  · refine ⟨hinv, inv.inputs.trans (List.prefix_append _ _), fun x hx => inv.labels x ?_, fun x hx => ?_⟩
    · simpa only [List.mem_append, or_assoc, or_comm, or_left_comm] using hx
    · simpa only [List.mem_append, or_assoc, or_comm, or_left_comm] using inv.seen x hx

theorem dedup_fold_nodup : ∀ (ins acc : List Label), (acc ++ ins).Nodup →
    ins.foldl (fun r i => if r.contains i then r else r ++ [i]) acc = acc ++ ins := by
  intro ins
  induction ins with
  | nil => intro acc _; simp
  | cons i t ih =>
    intro acc h
    have hni : acc.contains i = false := by
      simpa using fun hm => (List.nodup_append.mp h).2.2 i hm i (by simp) rfl
    simp only [List.foldl_cons, hni, Bool.false_eq_true, if_false]
    rw [ih (acc ++ [i]) (by simpa using h)]
    simp

/-- what the dependency-order enumeration delivers on a well-formed circuit -/
structure EnumOK (c : Circuit) (ids : List Label) : Prop where
  nodup : ids.Nodup
  all : ∀ l, l ∈ ids ↔ l ∈ c.labels
  inputsFirst : ∃ rest, ids = c.inputs ++ rest
  before : ∀ p x q, ids = p ++ x :: q → ∀ o ∈ c.opsOf x, o ∈ p

theorem enumerateGates_ok {c : Circuit} (hnd : c.labels.Nodup)
    (hcl : ∀ g ∈ c.gates, ∀ o ∈ g.ops, o ∈ c.labels)
    (hrank : ∃ r : Label → Nat, ∀ g ∈ c.gates, ∀ o ∈ g.ops, r o < r g.label)
    (hinND : c.inputs.Nodup) (hin : ∀ l ∈ c.inputs, ∃ g ∈ c.gates, g.label = l ∧ g.ops = []) :
    EnumOK c (enumerateGates c) := by
  obtain ⟨r, hrk⟩ := hrank
  have hirr := Desc.irrefl (opsOf_lt hrk)
  -- the outer loop: one run of the stack loop from every label, none of which runs out of fuel
  have key : ∀ (ls done : List Label) (st : List Label × List Label), EnumInv c done st [] →
      (∀ l ∈ ls, l ∈ c.labels) → EnumInv c (done ++ ls)
        (ls.foldl (fun st l => enumLoop c (2 * (totalOps c + c.gates.length) + 2) st [l]) st) [] := by
    intro ls
    induction ls with
    | nil => intro done st h _; simpa using h
    | cons l rest ih =>
      intro done st h hls
      have h1 : EnumInv c (done ++ [l]) st [l] :=
        ⟨⟨h.inv.nodup, h.inv.before, fun u hu hur => nomatch (h.inv.opn u hu hur).mem⟩, h.inputs,
          fun x hx => hx.elim (h.labels x ∘ .inl) (fun hx => List.mem_singleton.mp hx ▸ hls l (by simp)),
          fun x hx => (List.mem_append.mp hx).imp (fun h' => (h.seen x h').resolve_right (by simp)) id⟩
      have hpot : enumPot c st [l] < 2 * (totalOps c + c.gates.length) + 2 := by
        have := notExpW_le c hnd st.2
        simp only [enumPot, List.length_singleton]; omega
      have := ih (done ++ [l]) _ (enumLoop_induct (fun _ _ _ _ => EnumInv.step hirr (opsOf_closed hnd hcl)) _ _ _ h1 hpot)
        (fun x hx => hls x (by simp [hx]))
      simpa using this
  have inv0 : EnumInv c [] (c.inputs, []) [] := by
    refine ⟨⟨hinND, fun p x q hs o ho => ?_, fun u hu => nomatch hu⟩, List.prefix_rfl,
      fun x hx => ?_, fun x hx => nomatch hx⟩
    · obtain ⟨g, hg, rfl, hgo⟩ := hin x (by simp [show c.inputs = p ++ x :: q from hs])
      rw [opsOf_gate hnd hg, hgo] at ho
      cases ho
    · obtain ⟨g, hg, rfl, -⟩ := hin x (hx.resolve_right (by simp))
      exact mem_labels_of_mem hg
  have fin := key c.labels [] _ inv0 (fun _ h => h)
  unfold enumerateGates
  rw [dedup_fold_nodup c.inputs [] (by simpa using hinND)]
  obtain ⟨t, ht⟩ := fin.inputs
  exact ⟨fin.inv.nodup, fun l => ⟨fun h => fin.labels l (.inl h),
    fun h => (fin.seen l (by simpa using h)).resolve_right (by simp)⟩, ⟨t, ht.symm⟩, fin.inv.before⟩

end Cirbo
