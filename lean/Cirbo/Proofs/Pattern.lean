import Cirbo.Model.Pattern
/-!
# Pattern simulation is bitwise evaluation
-/
namespace Cirbo
namespace Pattern
open GateType

/-- partial sums `Σ_{i<N} f(i)·2^i` with `f(i) ∈ {0,1}`: below `2^N`, bit `i` is `f(i)` -/
theorem bitsum_spec (f : Nat → Nat) (hf : ∀ i, f i ≤ 1) : ∀ N,
    (List.range N).foldl (fun acc i => acc + (f i) <<< i) 0 < 2 ^ N ∧
    ∀ i, i < N → ((List.range N).foldl (fun acc i => acc + (f i) <<< i) 0).testBit i = decide (f i = 1) := by
  intro N
  induction N with
  | zero => simp
  | succ N ih =>
    obtain ⟨h1, h2⟩ := ih
    rw [List.range_succ, List.foldl_append]
    simp only [List.foldl_cons, List.foldl_nil, Nat.shiftLeft_eq]
    generalize hS : (List.range N).foldl (fun acc i => acc + f i * 2 ^ i) 0 = S at *
    have hS' : (List.range N).foldl (fun acc i => acc + (f i) <<< i) 0 = S := by
      rw [← hS]; congr 1; funext acc i; rw [Nat.shiftLeft_eq]
    rw [hS'] at h1 h2
    have hfN := hf N
    constructor
    · rw [Nat.pow_succ]
      have : f N * 2 ^ N ≤ 2 ^ N := by
        rcases Nat.le_one_iff_eq_zero_or_eq_one.mp hfN with h | h <;> simp [h]
      omega
    · intro i hi
      have key := Nat.testBit_two_pow_mul_add (f N) h1 i
      rw [Nat.mul_comm, Nat.add_comm] at key
      rw [key]
      by_cases hlt : i < N
      · simp only [hlt, if_true]; exact h2 i hlt
      · have : i = N := by omega
        subst this
        simp only [Nat.lt_irrefl, if_false, Nat.sub_self]
        rcases Nat.le_one_iff_eq_zero_or_eq_one.mp hfN with h | h <;> simp [h]

theorem leafPattern_testBit (size j i : Nat) (hi : i < 2 ^ size) :
    (leafPattern size j).testBit i = i.testBit j ∧ leafPattern size j < 2 ^ (2 ^ size) := by
  obtain ⟨h1, h2⟩ := bitsum_spec (fun i => (i >>> j) % 2) (fun i => by omega) (2 ^ size)
  refine ⟨?_, h1⟩
  unfold leafPattern
  rw [h2 i hi]
  simp only [Nat.testBit]
  have : (i >>> j) % 2 = 0 ∨ (i >>> j) % 2 = 1 := by omega
  rcases this with h | h <;> simp [h]

def bitsAt (ops : List Nat) (i : Nat) : List Bool := ops.map (·.testBit i)

/-- `p` is the column of `b`: a pattern of `n` bits whose bit `i` is `b i` -/
def Col (n p : Nat) (b : Nat → Bool) : Prop := p < 2 ^ n ∧ ∀ i, i < n → p.testBit i = b i

theorem Col.self {n x : Nat} (h : x < 2 ^ n) : Col n x (x.testBit ·) := ⟨h, fun _ _ => rfl⟩

theorem Col.compl {n p : Nat} {b : Nat → Bool} (h : Col n p b) : Col n (2 ^ n - 1 - p) (fun i => !b i) := by
  refine ⟨by have := Nat.two_pow_pos n; omega, fun i hi => ?_⟩
  rw [show 2 ^ n - 1 - p = 2 ^ n - (p + 1) by omega, Nat.testBit_two_pow_sub_succ h.1 i, h.2 i hi]
  simp [hi]

theorem Col.and {n p q : Nat} {b c : Nat → Bool} (hp : Col n p b) (hq : Col n q c) :
    Col n (p &&& q) (fun i => b i && c i) :=
  ⟨Nat.lt_of_le_of_lt Nat.and_le_left hp.1, fun i hi => by rw [Nat.testBit_and, hp.2 i hi, hq.2 i hi]⟩

theorem Col.or {n p q : Nat} {b c : Nat → Bool} (hp : Col n p b) (hq : Col n q c) :
    Col n (p ||| q) (fun i => b i || c i) :=
  ⟨Nat.or_lt_two_pow hp.1 hq.1, fun i hi => by rw [Nat.testBit_or, hp.2 i hi, hq.2 i hi]⟩

theorem Col.xor {n p q : Nat} {b c : Nat → Bool} (hp : Col n p b) (hq : Col n q c) :
    Col n (p ^^^ q) (fun i => b i ^^ c i) :=
  ⟨Nat.xor_lt_two_pow hp.1 hq.1, fun i hi => by rw [Nat.testBit_xor, hp.2 i hi, hq.2 i hi]⟩

/-- `functools.reduce` with a bitwise operation reduces every column with the Boolean one -/
theorem Col.foldl {n : Nat} {f : Nat → Nat → Nat} {g : Bool → Bool → Bool}
    (hf : ∀ {p q b c}, Col n p b → Col n q c → Col n (f p q) (fun i => g (b i) (c i))) :
    ∀ (ops : List Nat) {a : Nat} {b : Nat → Bool}, Col n a b → (∀ x ∈ ops, x < 2 ^ n) →
      Col n (ops.foldl f a) (fun i => (bitsAt ops i).foldl g (b i))
  | [], _, _, ha, _ => ha
  | x :: r, _, _, ha, hx =>
    Col.foldl hf r (hf ha (.self (hx x (by simp)))) (fun y hy => hx y (by simp [hy]))

theorem Col.reduce {n : Nat} {f : Nat → Nat → Nat} {g : Bool → Bool → Bool}
    (hf : ∀ {p q b c}, Col n p b → Col n q c → Col n (f p q) (fun i => g (b i) (c i))) {a : Nat} {r : List Nat}
    (h : ∀ x ∈ a :: r, x < 2 ^ n) : Col n (r.foldl f a) (fun i => (bitsAt r i).foldl g (a.testBit i)) :=
  Col.foldl hf r (.self (h a (by simp))) fun x hx => h x (by simp [hx])

theorem foldl_and_all (l : List Bool) (a : Bool) : l.foldl (· && ·) a = (a :: l).all id := by
  induction l generalizing a with
  | nil => simp
  | cons x r ih => simp [ih, Bool.and_assoc]

theorem foldl_or_any (l : List Bool) (a : Bool) : l.foldl (· || ·) a = (a :: l).any id := by
  induction l generalizing a with
  | nil => simp
  | cons x r ih => simp [ih, Bool.or_assoc]

theorem foldl_xor_xorAll (l : List Bool) (a : Bool) : l.foldl (· ^^ ·) a = xorAll (a :: l) := by
  induction l generalizing a with
  | nil => simp [xorAll]
  | cons x r ih => simp [ih, xorAll]

theorem evalPattern_sound (k : Nat) (ty : GateType) (ops : List Nat) (p : Nat)
    (h : evalPattern k ty ops = .ok p) (hops : ∀ x ∈ ops, x < 2 ^ (2 ^ k)) (har : arityOk ty ops.length = true) :
    p < 2 ^ (2 ^ k) ∧ ∀ i, i < 2 ^ k → bfun ty (bitsAt ops i) = some (p.testBit i) := by
  -- the result is the column of some Boolean combination of the operands' columns (`Col`), …
  suffices ∃ b, Col (2 ^ k) p b ∧ ∀ i, bfun ty (bitsAt ops i) = some (b i) from by
    obtain ⟨b, hc, hb⟩ := this
    exact ⟨hc.1, fun i hi => by rw [hb i, hc.2 i hi]⟩
  have hmx : maxPattern k = 2 ^ (2 ^ k) - 1 := rfl
  have hcol : ∀ x ∈ ops, Col (2 ^ k) x (x.testBit ·) := fun x hx => .self (hops x hx)
  cases ty <;> simp only [evalPattern, hmx] at h <;> try (cases h)
  -- … which `bfun` computes, once the arity has fixed the shape of the operand list
  case NOT =>
    rcases ops with _ | ⟨a, _ | ⟨b, r⟩⟩ <;> simp [arityOk] at har
    cases h
    exact ⟨_, (hcol a (by simp)).compl, fun i => rfl⟩
  case AND =>
    rcases ops with _ | ⟨a, _ | ⟨b, r⟩⟩ <;> simp [arityOk] at har
    cases h
    exact ⟨_, Col.reduce .and hops,
      fun i => by rw [foldl_and_all]; rfl⟩
  case NAND =>
    rcases ops with _ | ⟨a, _ | ⟨b, r⟩⟩ <;> simp [arityOk] at har
    cases h
    exact ⟨_, (Col.reduce .and hops).compl,
      fun i => by rw [foldl_and_all]; rfl⟩
  case OR =>
    rcases ops with _ | ⟨a, _ | ⟨b, r⟩⟩ <;> simp [arityOk] at har
    cases h
    exact ⟨_, Col.reduce .or hops,
      fun i => by rw [foldl_or_any]; rfl⟩
  case NOR =>
    rcases ops with _ | ⟨a, _ | ⟨b, r⟩⟩ <;> simp [arityOk] at har
    cases h
    exact ⟨_, (Col.reduce .or hops).compl,
      fun i => by rw [foldl_or_any]; rfl⟩
  case XOR =>
    rcases ops with _ | ⟨a, _ | ⟨b, r⟩⟩ <;> simp [arityOk] at har
    cases h
    exact ⟨_, Col.reduce .xor hops,
      fun i => by rw [foldl_xor_xorAll]; rfl⟩
  case NXOR =>
    rcases ops with _ | ⟨a, _ | ⟨b, r⟩⟩ <;> simp [arityOk] at har
    cases h
    exact ⟨_, (Col.reduce .xor hops).compl,
      fun i => by rw [foldl_xor_xorAll]; rfl⟩
  case GEQ =>
    rcases ops with _ | ⟨a, _ | ⟨b, _ | ⟨c, r⟩⟩⟩ <;> simp [arityOk] at har
    cases h
    exact ⟨_, (hcol a (by simp)).or (hcol b (by simp)).compl, fun i => rfl⟩
  case LEQ =>
    rcases ops with _ | ⟨a, _ | ⟨b, _ | ⟨c, r⟩⟩⟩ <;> simp [arityOk] at har
    cases h
    exact ⟨_, (hcol a (by simp)).compl.or (hcol b (by simp)), fun i => rfl⟩
  case LT =>
    rcases ops with _ | ⟨a, _ | ⟨b, _ | ⟨c, r⟩⟩⟩ <;> simp [arityOk] at har
    cases h
    exact ⟨_, ((hcol a (by simp)).or (hcol b (by simp)).compl).compl, fun i => by rw [Bool.not_or, Bool.not_not]; rfl⟩
  case GT =>
    rcases ops with _ | ⟨a, _ | ⟨b, _ | ⟨c, r⟩⟩⟩ <;> simp [arityOk] at har
    cases h
    exact ⟨_, ((hcol a (by simp)).compl.or (hcol b (by simp))).compl, fun i => by rw [Bool.not_or, Bool.not_not]; rfl⟩

end Pattern
end Cirbo
