import Cirbo.Model.Func
import Cirbo.Proofs.BoolVec
/-! # Function protocol queries equal their mathematical definitions (C12) -/
namespace Cirbo
open FRep

theorem all_eq_first_iff {β} [BEq β] [LawfulBEq β] (f : List Bool → β) (l : List (List Bool)) :
    (match l with
      | [] => true
      | x0 :: r => r.all (fun x => f x == f x0)) = true ↔ ∀ x ∈ l, ∀ y ∈ l, f x = f y := by
  cases l with
  | nil => simp
  | cons x0 r =>
    simp only [List.all_eq_true, beq_iff_eq]
    refine ⟨fun h => ?_, fun h x hx => h x (List.mem_cons_of_mem _ hx) x0 List.mem_cons_self⟩
    have hf : ∀ z ∈ x0 :: r, f z = f x0 := List.forall_mem_cons.mpr ⟨rfl, h⟩
    exact fun x hx y hy => (hf x hx).trans (hf y hy).symm

theorem constOn_allInputs {β} [BEq β] [LawfulBEq β] (n : Nat) (f : List Bool → β) :
    (match allInputs n with
      | [] => true
      | x0 :: r => r.all (fun x => f x == f x0)) = true ↔
      ∀ x y, x.length = n → y.length = n → f x = f y := by
  refine (all_eq_first_iff f (allInputs n)).trans ?_
  simp only [mem_allInputs]
  exact ⟨fun h x y hx hy => h x hx y hy, fun h x hx y hy => h x y hx hy⟩

theorem equalInput_iff (F : FRep) (o i : Nat) :
    F.equalInput o i = true ↔ ∀ x, x.length = F.n → F.evAt x o = x.getD i false := by
  simp only [equalInput, List.all_eq_true, mem_allInputs, beq_iff_eq]

theorem equalInputNeg_iff (F : FRep) (o i : Nat) :
    F.equalInputNeg o i = true ↔ ∀ x, x.length = F.n → F.evAt x o = !x.getD i false := by
  simp only [equalInputNeg, List.all_eq_true, mem_allInputs, beq_iff_eq]

/-- the documented notion: along the canonical enumeration the row never goes from `¬inv` back to `inv` -/
def SortedRow (inv : Bool) : List Bool → Prop
  | [] => True
  | v :: r => (v ≠ inv → ∀ w ∈ r, w ≠ inv) ∧ SortedRow inv r

theorem sortedRow_of_forall_ne {inv : Bool} : ∀ {l : List Bool}, (∀ w ∈ l, w ≠ inv) → SortedRow inv l
  | [], _ => trivial
  | _ :: _, h =>
    have hr := (List.forall_mem_cons.mp h).2
    ⟨fun _ => hr, sortedRow_of_forall_ne hr⟩

theorem monoScan_true_iff (inv : Bool) (l : List Bool) :
    monoScan inv true l = true ↔ ∀ w ∈ l, w ≠ inv := by
  induction l with
  | nil => simp [monoScan]
  | cons v r ih => by_cases h : v = inv <;> simp [monoScan, h, ih]

theorem monoScan_false_iff (inv : Bool) (l : List Bool) :
    monoScan inv false l = true ↔ SortedRow inv l := by
  induction l with
  | nil => simp [monoScan, SortedRow]
  | cons v r ih =>
    by_cases h : v = inv
    · simp [monoScan, SortedRow, h, ih]
    · rw [show monoScan inv false (v :: r) = monoScan inv true r by simp [monoScan, h], monoScan_true_iff]
      exact ⟨fun hh => ⟨fun _ => hh, sortedRow_of_forall_ne hh⟩, fun hh => hh.1 h⟩

/-- the `change_value/current_value` scan is the `ones_started` scan: `changed` is `started` -/
theorem changeScan_eq_monoScan (inv : Bool) (l : List Bool) :
    changeScan false inv l = monoScan inv false l ∧ changeScan true (!inv) l = monoScan inv true l := by
  induction l with
  | nil => exact ⟨rfl, rfl⟩
  | cons v r ih => cases v <;> cases inv <;> simp_all [changeScan, monoScan]

theorem changeScan_false_iff (inv : Bool) (l : List Bool) :
    changeScan false inv l = true ↔ SortedRow inv l :=
  (changeScan_eq_monoScan inv l).1 ▸ monoScan_false_iff inv l

theorem isMonotoneAt_agree (F : FRep) (o : Nat) (inv : Bool) :
    F.isMonotoneAtC o inv = F.isMonotoneAtP o inv :=
  (changeScan_eq_monoScan inv (F.row o)).1

theorem isMonotoneAt_iff (F : FRep) (o : Nat) (inv : Bool) :
    F.isMonotoneAtP o inv = true ↔ SortedRow inv (F.row o) := monoScan_false_iff inv _

theorem isMonotone_agree (F : FRep) (inv : Bool) : F.isMonotoneC inv = F.isMonotoneT inv := by
  unfold isMonotoneC isMonotoneT
  congr 1; funext o; exact isMonotoneAt_agree F o inv

theorem isMonotoneT_iff (F : FRep) (inv : Bool) :
    F.isMonotoneT inv = true ↔ ∀ o, o < F.m → SortedRow inv (F.row o) := by
  simp only [isMonotoneT, List.all_eq_true, List.mem_range, isMonotoneAt_iff]

end Cirbo
