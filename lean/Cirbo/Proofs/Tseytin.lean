import Cirbo.Proofs.TseytinTemplates
import Cirbo.Proofs.Graph
import Cirbo.Proofs.Lists
import Cirbo.Proofs.Val
/-!
# `tseytin_transformation` is exact (C05)
`TsInv` is kept by every step that gives a label its variable and emits its clauses; from it the
clauses say that every encoded gate carries its value (induction on the rank).
-/
namespace Cirbo
open GateType

def litD (lits : Dict Nat) (l : Label) : Nat := (lits.get? l).getD 0

/-- the constraint the clauses of gate `g` express under `σ` -/
def GateOK (lits : Dict Nat) (σ : Nat → Bool) (g : Gate) : Prop :=
  bfun g.ty (g.ops.map (fun o => σ (litD lits o))) = some (σ (litD lits g.label))

/-- Invariant of the transformation state: `lits` gives the variables `1..next` injectively to labels of `c`, among them
all inputs and the operands of every encoded gate; `sem`: the clauses emitted so far hold under `σ` exactly if every
encoded non-input gate computes its variable from its operands' and the variables `us` (the outputs' unit clauses) are
true. -/
structure TsInv (c : Circuit) (st : TsSt) (us : List Nat) : Prop where
  range : ∀ l k, st.lits.get? l = some k → 1 ≤ k ∧ k ≤ st.next
  inj : ∀ l l' k, st.lits.get? l = some k → st.lits.get? l' = some k → l = l'
  keys : ∀ l k, st.lits.get? l = some k → l ∈ c.labels
  inputs : ∀ i ∈ c.inputs, (st.lits.get? i).isSome = true
  encOps : ∀ g ∈ c.gates, g.ty ≠ INPUT → (st.lits.get? g.label).isSome = true →
    ∀ o ∈ g.ops, (st.lits.get? o).isSome = true
  sem : ∀ σ, cnfSat σ st.cnf = true ↔
    (∀ g ∈ c.gates, g.ty ≠ INPUT → (st.lits.get? g.label).isSome = true → GateOK st.lits σ g) ∧
    ∀ u ∈ us, σ u = true

/-- `st'` keeps every literal `st` has assigned: the label-to-literal map only grows -/
def Ext (st st' : TsSt) : Prop := ∀ l k, st.lits.get? l = some k → st'.lits.get? l = some k

theorem Ext.refl (st : TsSt) : Ext st st := fun _ _ h => h
theorem Ext.trans {a b c : TsSt} (h1 : Ext a b) (h2 : Ext b c) : Ext a c := fun l k h => h2 l k (h1 l k h)

/-- From every state with the invariant `pg l` returns; it keeps the invariant, extends the state and returns the
variable now given to `l`. -/
def Runs (c : Circuit) (us : List Nat) (pg : Label → TsSt → Except String (TsSt × Nat)) (l : Label) : Prop :=
  ∀ st, TsInv c st us → ∃ st' k, pg l st = .ok (st', k) ∧ TsInv c st' us ∧ Ext st st' ∧ st'.lits.get? l = some k

theorem get?_eq_litD {lits : Dict Nat} {l : Label} (h : (lits.get? l).isSome = true) :
    lits.get? l = some (litD lits l) := by
  obtain ⟨k, hk⟩ := Option.isSome_iff_exists.mp h
  rw [litD, hk]; rfl

theorem processOps_run {c : Circuit} {pg : Label → TsSt → Except String (TsSt × Nat)} {us : List Nat} :
    ∀ (ops : List Label), (∀ o ∈ ops, Runs c us pg o) → ∀ st, TsInv c st us →
    ∃ st', processOps pg ops st = .ok (st', ops.map (litD st'.lits)) ∧ TsInv c st' us ∧ Ext st st' ∧
      ∀ o ∈ ops, (st'.lits.get? o).isSome = true := by
  intro ops
  induction ops with
  | nil => exact fun _ st inv => ⟨st, rfl, inv, Ext.refl _, nofun⟩
  | cons o r ih =>
    intro hall st inv
    obtain ⟨st1, k, h1, inv1, e1, g1⟩ := hall o (.head _) st inv
    obtain ⟨st2, h2, inv2, e2, henc⟩ := ih (fun o' ho' => hall o' (.tail _ ho')) st1 inv1
    have g2 := e2 o k g1
    refine ⟨st2, ?_, inv2, e1.trans e2, List.forall_mem_cons.mpr ⟨by rw [g2]; rfl, henc⟩⟩
    simp only [processOps, h1, h2, List.map_cons, litD, g2, Option.getD_some]

theorem template_gateOK {lits : Dict Nat} {g : Gate} {top : Nat}
    (hty : g.ty ≠ INPUT) (har : arityOk g.ty g.ops.length = true)
    (hpos : 1 ≤ top) (hkpos : ∀ o ∈ g.ops, 1 ≤ litD lits o) :
    ∃ cls, tsTemplate g.ty (Int.ofNat top) ((g.ops.map (litD lits)).map Int.ofNat) = some cls ∧
      (lits.get? g.label = some top → ∀ σ, cnfSat σ cls = true ↔ GateOK lits σ g) := by
  obtain ⟨cls, h1, h2⟩ := tsTemplate_exact g.ty (Int.ofNat top) ((g.ops.map (litD lits)).map Int.ofNat)
    (by simp; omega) (by
      intro l hl
      obtain ⟨o, ho, rfl⟩ := List.mem_map.mp (List.map_map ▸ hl)
      have := hkpos o ho; simp; omega) hty (by simpa using har)
  refine ⟨cls, h1, fun htop σ => ?_⟩
  have e : g.ops.map ((litVal σ ∘ Int.ofNat) ∘ litD lits) = g.ops.map (fun o => σ (litD lits o)) :=
    List.map_congr_left fun o ho => litVal_ofNat σ (hkpos o ho)
  rw [h2 σ, GateOK, litD, htop, Option.getD_some, litVal_ofNat σ hpos, List.map_map, List.map_map, e]

theorem gateOK_congr {lits lits' : Dict Nat} {σ : Nat → Bool} {g : Gate}
    (h1 : lits'.get? g.label = lits.get? g.label) (h2 : ∀ o ∈ g.ops, lits'.get? o = lits.get? o) :
    GateOK lits' σ g ↔ GateOK lits σ g := by
  have e : g.ops.map (fun o => σ (litD lits' o)) = g.ops.map (fun o => σ (litD lits o)) :=
    List.map_congr_left fun o ho => by rw [litD, litD, h2 o ho]
  rw [GateOK, GateOK, e, litD, litD, h1]

/-- a gate without a literal is not an input (those get theirs first), so its arity is an accepted one -/
theorem unencoded_gate {c : Circuit} (h : WF c) {st : TsSt} {us : List Nat} (inv : TsInv c st us) {g : Gate}
    (hg : g ∈ c.gates) (hl : st.lits.get? g.label = none) : g.ty ≠ INPUT ∧ arityOk g.ty g.ops.length = true := by
  have hty : g.ty ≠ INPUT := by
    intro hty
    have := inv.inputs _ ((h.inputsOK g.label).mpr ⟨g, hg, rfl, hty⟩)
    simp [hl] at this
  exact ⟨hty, by simpa [hty] using h.arity g hg⟩

theorem TsInv.alloc {c : Circuit} (hnd : c.labels.Nodup) {st : TsSt} {us : List Nat} (inv : TsInv c st us)
    {g : Gate} (hg : g ∈ c.gates) (hl : st.lits.get? g.label = none)
    (hops : g.ty ≠ INPUT → ∀ o ∈ g.ops, (st.lits.get? o).isSome = true) {cls : Cnf}
    (hcls : ∀ σ, cnfSat σ cls = true ↔ (g.ty ≠ INPUT → GateOK (st.lits.set g.label (st.next + 1)) σ g)) :
    TsInv c ⟨st.lits.set g.label (st.next + 1), st.next + 1, st.cnf ++ cls⟩ us := by
  have hget : ∀ x, (st.lits.set g.label (st.next + 1)).get? x
      = if x = g.label then some (st.next + 1) else st.lits.get? x := fun x => Dict.get?_set _ _ _ _
  have hne : ∀ x, (st.lits.get? x).isSome = true → x ≠ g.label := fun x hx e => by
    rw [e, hl] at hx; cases hx
  -- a gate encoded before reads neither `g.label` nor any other label without a literal
  have hold : ∀ g' ∈ c.gates, g'.ty ≠ INPUT → (st.lits.get? g'.label).isSome = true → ∀ σ,
      (GateOK (st.lits.set g.label (st.next + 1)) σ g' ↔ GateOK st.lits σ g') :=
    fun g' hg' hty' henc σ => gateOK_congr (by rw [hget, if_neg (hne _ henc)])
      fun o ho => by rw [hget, if_neg (hne _ (inv.encOps g' hg' hty' henc o ho))]
  refine ⟨fun x k hx => ?_, fun x y k hx hy => ?_, fun x k hx => ?_, fun i hi => ?_,
    fun g' hg' hty' henc o ho => ?_, fun σ => ?_⟩
  · rw [hget] at hx
    split at hx
    · cases hx; exact ⟨Nat.le_add_left 1 _, Nat.le_refl _⟩
    · exact ⟨(inv.range x k hx).1, Nat.le_succ_of_le (inv.range x k hx).2⟩
  · rw [hget] at hx hy
    split at hx <;> split at hy
    · rw [‹x = g.label›, ‹y = g.label›]
    · cases hx; have := (inv.range y _ hy).2; omega
    · cases hy; have := (inv.range x _ hx).2; omega
    · exact inv.inj x y k hx hy
  · rw [hget] at hx
    split at hx
    · exact ‹x = g.label› ▸ mem_labels_of_mem hg
    · exact inv.keys x k hx
  · rw [hget]
    split
    · rfl
    · exact inv.inputs i hi
  · rw [hget] at henc ⊢
    split
    · rfl
    · split at henc
      · obtain rfl := gate_unique hnd hg' hg ‹g'.label = g.label›
        exact hops hty' o ho
      · exact inv.encOps g' hg' hty' henc o ho
  · rw [cnfSat_append, Bool.and_eq_true, inv.sem σ, hcls σ]
    constructor
    · rintro ⟨⟨h1, h2⟩, h3⟩
      refine ⟨fun g' hg' hty' henc => ?_, h2⟩
      rw [hget] at henc
      split at henc
      · obtain rfl := gate_unique hnd hg' hg ‹g'.label = g.label›
        exact h3 hty'
      · exact (hold g' hg' hty' henc σ).mpr (h1 g' hg' hty' henc)
    · rintro ⟨h1, h2⟩
      refine ⟨⟨fun g' hg' hty' henc => (hold g' hg' hty' henc σ).mp (h1 g' hg' hty' ?_), h2⟩,
        fun hty => h1 g hg hty (by rw [hget, if_pos rfl]; rfl)⟩
      rw [hget, if_neg (hne _ henc)]; exact henc

theorem processGate_run {c : Circuit} (h : WF c) {d : Label → Nat}
    (hd : ∀ g ∈ c.gates, ∀ o ∈ g.ops, d o < d g.label) {us : List Nat} :
    ∀ (fuel : Nat) (l : Label), l ∈ c.labels → d l < fuel → Runs c us (processGate c fuel) l := by
  intro fuel
  induction fuel with
  | zero => intro l _ hlt; omega
  | succ fuel ih =>
    intro l hl hlt st inv
    unfold processGate
    cases hlk : st.lits.get? l with
    | some k0 => exact ⟨st, k0, rfl, inv, Ext.refl _, hlk⟩
    | none =>
      obtain ⟨g, hg, rfl⟩ := gate_of_label hl
      obtain ⟨hty, har⟩ := unencoded_gate h inv hg hlk
      obtain ⟨st1, hops, inv1, e1, henc⟩ := processOps_run g.ops
        (fun o ho => ih o (h.closed g hg o ho) (by have := hd g hg o ho; omega)) st inv
      simp only [find_label h.nodup hg, hops]
      have hkpos : ∀ o ∈ g.ops, 1 ≤ litD st1.lits o := fun o ho => (inv1.range o _ (get?_eq_litD (henc o ho))).1
      cases hl1 : st1.lits.get? g.label with
      | some k0 =>
        -- an operand loop gave `g` its literal: then its constraint is already among those of `inv1`
        obtain ⟨cls, ht, htg⟩ := template_gateOK hty har (inv1.range _ k0 hl1).1 hkpos
        simp only [ht]
        refine ⟨_, _, rfl, ⟨inv1.range, inv1.inj, inv1.keys, inv1.inputs, inv1.encOps, fun σ => ?_⟩, e1, hl1⟩
        rw [cnfSat_append, Bool.and_eq_true, inv1.sem σ, htg hl1 σ]
        exact ⟨fun h1 => h1.1, fun h1 => ⟨h1, h1.1 g hg hty (by rw [hl1]; rfl)⟩⟩
      | none =>
        have hne : ∀ x, (st1.lits.get? x).isSome = true → x ≠ g.label := fun x hx e => by
          rw [e, hl1] at hx; cases hx
        have hsame : ∀ o ∈ g.ops, litD (st1.lits.set g.label (st1.next + 1)) o = litD st1.lits o :=
          fun o ho => by rw [litD, Dict.get?_set, if_neg (hne o (henc o ho)), litD]
        have hself : (st1.lits.set g.label (st1.next + 1)).get? g.label = some (st1.next + 1) := by
          rw [Dict.get?_set, if_pos rfl]
        obtain ⟨cls, ht, htg⟩ := template_gateOK (lits := st1.lits.set g.label (st1.next + 1)) hty har
          (Nat.le_add_left 1 st1.next) (fun o ho => by rw [hsame o ho]; exact hkpos o ho)
        rw [List.map_congr_left hsame] at ht
        simp only [ht]
        refine ⟨_, _, rfl, inv1.alloc h.nodup hg hl1 (fun _ => henc)
          fun σ => (htg hself σ).trans (imp_iff_right hty).symm, fun x k hx => ?_, hself⟩
        have hx1 := e1 x k hx
        rw [Dict.get?_set, if_neg (hne x (by rw [hx1]; rfl))]; exact hx1

/-- While the inputs get their literals only those seen so far (`done`) have one: the invariant of the circuit with
input list `done`. -/
structure TsInitInv (c : Circuit) (done : List Label) (st : TsSt) : Prop where
  inv : TsInv { c with inputs := done } st []
  next : st.next = done.length
  idx : ∀ j (hj : j < done.length), st.lits.get? done[j] = some (j + 1)
  keys : ∀ l k, st.lits.get? l = some k → l ∈ done

theorem tsInit_fold {c : Circuit} (h : WF c) {step : TsSt → Label → TsSt}
    (hstep : ∀ st i, st.lits.get? i = none → step st i = ⟨st.lits.set i (st.next + 1), st.next + 1, st.cnf⟩)
    (rest : List Label) : ∀ (done : List Label) (st : TsSt),
    (done ++ rest).Nodup → (∀ i ∈ rest, i ∈ c.inputs) →
    TsInitInv c done st → TsInitInv c (done ++ rest) (rest.foldl step st) := by
  induction rest with
  | nil => intro done st _ _ hp; simpa using hp
  | cons i r ih =>
    intro done st hnd hin hp
    have hi : i ∉ done := fun hm => (List.nodup_append.mp hnd).2.2 i hm i (.head _) rfl
    obtain ⟨g, hg, rfl, hty⟩ := (h.inputsOK i).mp (hin i (.head _))
    have hnone : st.lits.get? g.label = none := by
      cases hx : st.lits.get? g.label with
      | none => rfl
      | some k => exact absurd (hp.keys _ k hx) hi
    -- an input gets its literal like a gate (`TsInv.alloc`), with no clauses
    have inv' := TsInv.alloc (c := { c with inputs := done }) h.nodup hp.inv hg hnone (fun hne => absurd hty hne) (cls := [])
      fun σ => ⟨fun _ hne => absurd hty hne, fun _ => rfl⟩
    rw [List.append_nil] at inv'
    have hidx : ∀ j (hj : j < (done ++ [g.label]).length),
        (st.lits.set g.label (st.next + 1)).get? (done ++ [g.label])[j] = some (j + 1) := by
      intro j hj
      rw [Dict.get?_set]
      by_cases hjd : j < done.length
      · rw [List.getElem_append_left hjd, if_neg fun e : done[j] = g.label => hi (e ▸ List.getElem_mem hjd), hp.idx j hjd]
      · have hj' : j = done.length := by simp at hj; omega
        subst hj'
        simp [hp.next]
    have := ih (done ++ [g.label]) (step st g.label) (by simpa using hnd)
      (fun i' hi' => hin i' (.tail _ hi')) (by
      rw [hstep _ _ hnone]
      refine ⟨⟨inv'.range, inv'.inj, inv'.keys, fun x hx => ?_, inv'.encOps, inv'.sem⟩,
        by simp [hp.next], hidx, fun l k hl => ?_⟩
      · obtain ⟨j, hj, rfl⟩ := List.mem_iff_getElem.mp hx
        rw [hidx j hj]; rfl
      · rw [Dict.get?_set] at hl
        split at hl
        · simp [‹l = g.label›]
        · simp [hp.keys l k hl])
    simpa using this

theorem tsInit_spec {c : Circuit} (h : WF c) :
    TsInv c (tsInit c) [] ∧ (∀ j (hj : j < c.inputs.length), (tsInit c).lits.get? c.inputs[j] = some (j + 1)) := by
  have : TsInitInv c ([] ++ c.inputs) (tsInit c) :=
    tsInit_fold h (fun st i hi => by simp only [hi]) c.inputs [] ⟨[], 0, []⟩ (by simpa using h.inputsNodup) (fun _ hi => hi)
      ⟨⟨nofun, nofun, nofun, nofun, nofun, fun σ => by simp [cnfSat, Dict.get?]⟩, rfl, nofun, nofun⟩
  exact ⟨this.inv, this.idx⟩

theorem TsInv.unit {c : Circuit} {st : TsSt} {us : List Nat} (inv : TsInv c st us) {k : Nat} (hk : 1 ≤ k) :
    TsInv c ⟨st.lits, st.next, st.cnf ++ [[Int.ofNat k]]⟩ (us ++ [k]) := by
  refine ⟨inv.range, inv.inj, inv.keys, inv.inputs, inv.encOps, fun σ => ?_⟩
  rw [cnfSat_append, Bool.and_eq_true, inv.sem σ, and_assoc]
  simp only [cnfSat, clauseSat, List.all_cons, List.all_nil, List.any_cons, List.any_nil,
    Bool.or_false, Bool.and_true, litVal_ofNat σ hk, List.forall_mem_append, List.forall_mem_singleton]

theorem filter_length_lt_of_imp {α} (p q : α → Bool) (l : List α) (himp : ∀ x ∈ l, p x = true → q x = true)
    (w : α) (hw : w ∈ l) (hq : q w = true) (hp : p w = false) : (l.filter p).length < (l.filter q).length := by
  have e : l.filter p = (l.filter q).filter p := by
    rw [List.filter_filter]
    refine List.filter_congr fun x hx => ?_
    cases hpx : p x
    · rfl
    · rw [himp x hx hpx]; rfl
  rw [e]
  exact List.length_filter_lt_length_iff_exists.mpr ⟨w, List.mem_filter.mpr ⟨hw, hq⟩, by simp [hp]⟩

/-- a rank bounded by the number of gates: the number of labels of strictly smaller rank -/
theorem depth_exists {c : Circuit} (h : WF c) :
    ∃ d : Label → Nat, (∀ g ∈ c.gates, ∀ o ∈ g.ops, d o < d g.label) ∧ ∀ l, d l ≤ c.gates.length := by
  obtain ⟨r, hr⟩ := h.rank
  refine ⟨fun l => (c.labels.filter (fun x => r x < r l)).length, fun g hg o ho => ?_, fun l => ?_⟩
  · have hro := hr g hg o ho
    refine filter_length_lt_of_imp _ _ _ (fun x _ hx => ?_) o (h.closed g hg o ho) (by simpa using hro) (by simp)
    simp only [decide_eq_true_eq] at hx ⊢
    omega
  · exact Nat.le_trans (List.length_filter_le _ _) (by simp [Circuit.labels])

theorem tsOutputs_run {c : Circuit} (h : WF c) : ∀ (outs : List Nat) (st : TsSt) (us : List Nat), TsInv c st us →
    (∃ st' ks, tsOutputs c outs st = .ok st' ∧ TsInv c st' (us ++ ks) ∧
      Ext st st' ∧ outs.map (fun i => (c.outputs[i]?).bind (fun o => st'.lits.get? o)) = ks.map some) ∨
    (tsOutputs c outs st = .error "GateDoesntExistError" ∧ ∃ i ∈ outs, c.outputs.length ≤ i) := by
  obtain ⟨d, d1, d2⟩ := depth_exists h
  intro outs
  induction outs with
  | nil => exact fun st us inv => .inl ⟨st, [], rfl, by simpa using inv, Ext.refl _, rfl⟩
  | cons i r ih =>
    intro st us inv
    unfold tsOutputs
    cases hoi : c.outputs[i]? with
    | none => exact .inr ⟨rfl, i, .head _, List.getElem?_eq_none_iff.mp hoi⟩
    | some o =>
      obtain ⟨st1, k, hp, inv1, e1, g1⟩ := processGate_run h d1 (c.gates.length + 1) o
        (h.outputsOK _ (List.mem_of_getElem? hoi)) (Nat.lt_succ_of_le (d2 o)) st inv
      simp only [hp]
      rcases ih _ (us ++ [k]) (inv1.unit (inv1.range o k g1).1) with ⟨st', ks, h1, h3, h4, h5⟩ | ⟨h1, j, hj, hle⟩
      · refine .inl ⟨st', k :: ks, h1, by simpa using h3, e1.trans h4, ?_⟩
        rw [List.map_cons, h5, hoi, Option.bind_some, h4 o k g1, List.map_cons]
      · exact .inr ⟨h1, j, .tail _ hj, hle⟩

theorem tseytin_outcome {c : Circuit} (h : WF c) (outs : Option (List Nat)) :
    (∃ cnf lits ks n, tseytin c outs = .ok (cnf, lits) ∧ TsInv c ⟨lits, n, cnf⟩ ks ∧
      (∀ j (hj : j < c.inputs.length), lits.get? c.inputs[j] = some (j + 1)) ∧
      (outs.getD (List.range c.outputs.length)).map
        (fun i => (c.outputs[i]?).bind (fun o => lits.get? o)) = ks.map some) ∨
    (tseytin c outs = .error "GateDoesntExistError" ∧
      ∃ i ∈ outs.getD (List.range c.outputs.length), c.outputs.length ≤ i) := by
  obtain ⟨inv0, hin⟩ := tsInit_spec h
  unfold tseytin
  rcases tsOutputs_run h (outs.getD (List.range c.outputs.length)) _ [] inv0 with ⟨st, ks, h1, inv, ext, hm⟩ | ⟨h1, hi⟩
  · exact .inl ⟨_, _, ks, st.next, by rw [h1], by simpa using inv, fun j hj => ext _ _ (hin j hj), hm⟩
  · exact .inr ⟨by rw [h1], hi⟩

theorem gateOK_iff_val {c : Circuit} {b vB : Label → Bool} (hB : IsValB c b vB) {g : Gate}
    (hg : g ∈ c.gates) (hty : g.ty ≠ INPUT) {lits : Dict Nat} {σ : Nat → Bool}
    (hops : ∀ o ∈ g.ops, σ (litD lits o) = vB o) :
    GateOK lits σ g ↔ σ (litD lits g.label) = vB g.label := by
  have hv := hB g hg
  rw [if_neg hty] at hv
  rw [GateOK, List.map_congr_left hops, hv, Option.some.injEq, eq_comm]

theorem TsInv.exact {c : Circuit} (h : WF c) {st : TsSt} {us : List Nat} (inv : TsInv c st us)
    {b vB : Label → Bool} (hB : IsValB c b vB) {σ : Nat → Bool}
    (hin : ∀ i ∈ c.inputs, σ (litD st.lits i) = b i) :
    cnfSat σ st.cnf = true ↔
      (∀ g ∈ c.gates, (st.lits.get? g.label).isSome = true → σ (litD st.lits g.label) = vB g.label) ∧
      ∀ u ∈ us, σ u = true := by
  rw [inv.sem σ]
  refine and_congr_left' ⟨fun hg => ?_, fun hf g hgm hty henc => ?_⟩
  · -- the local gate constraints force the values: induction on the rank
    refine rank_induction_ops h.closed h.rank
      (fun l => (st.lits.get? l).isSome = true → σ (litD st.lits l) = vB l) fun g hgm ih henc => ?_
    by_cases hty : g.ty = INPUT
    · have hv := hB g hgm
      rw [if_pos hty] at hv
      rw [hv]; exact hin _ ((h.inputsOK g.label).mpr ⟨g, hgm, rfl, hty⟩)
    · exact (gateOK_iff_val hB hgm hty fun o ho => ih o ho (inv.encOps g hgm hty henc o ho)).mp
        (hg g hgm hty henc)
  · refine (gateOK_iff_val hB hgm hty fun o ho => ?_).mpr (hf g hgm henc)
    obtain ⟨go, hgo, rfl⟩ := gate_of_label (h.closed g hgm o ho)
    exact hf go hgo (inv.encOps g hgm hty henc _ ho)

theorem tseytin_exact {c : Circuit} (h : WF c) (outs : Option (List Nat)) {cnf : Cnf} {lits : Dict Nat}
    (ht : tseytin c outs = .ok (cnf, lits)) (b vB : Label → Bool) (hB : IsValB c b vB) :
    (∀ j (hj : j < c.inputs.length), lits.get? c.inputs[j] = some (j + 1)) ∧
    (∀ σ, (∀ i ∈ c.inputs, σ (litD lits i) = b i) →
      (cnfSat σ cnf = true ↔
        (∀ g ∈ c.gates, (lits.get? g.label).isSome = true → σ (litD lits g.label) = vB g.label) ∧
        (∀ i ∈ outs.getD (List.range c.outputs.length), ∀ o, c.outputs[i]? = some o → vB o = true))) ∧
    ((∃ σ, (∀ i ∈ c.inputs, σ (litD lits i) = b i) ∧ cnfSat σ cnf = true) ↔
      (∀ i ∈ outs.getD (List.range c.outputs.length), ∀ o, c.outputs[i]? = some o → vB o = true)) := by
  obtain ⟨_, _, ks, n, ht', inv, hinl, hout⟩ | ⟨ht', _⟩ := tseytin_outcome h outs
  case inr => rw [ht'] at ht; cases ht
  cases ht'.symm.trans ht
  have hmain : ∀ σ, (∀ i ∈ c.inputs, σ (litD lits i) = b i) →
      (cnfSat σ cnf = true ↔
        (∀ g ∈ c.gates, (lits.get? g.label).isSome = true → σ (litD lits g.label) = vB g.label) ∧
        (∀ i ∈ outs.getD (List.range c.outputs.length), ∀ o, c.outputs[i]? = some o → vB o = true)) := by
    intro σ hin
    refine (inv.exact h hB hin).trans (and_congr_right fun hf => ?_)
    -- the unit literals `ks` are the literals of the selected outputs
    have hval : ∀ o k, lits.get? o = some k → σ k = vB o := by
      intro o k e
      obtain ⟨g, hgm, rfl⟩ := gate_of_label (inv.keys o k e)
      have := hf g hgm (by rw [e]; rfl)
      rwa [litD, e] at this
    constructor
    · intro hu i hi o ho
      obtain ⟨k, hk, e⟩ := map_some_fwd hout i hi
      rw [ho] at e
      rw [← hval o k e]; exact hu k hk
    · intro ho k hk
      obtain ⟨i, hi, e⟩ := map_some_bwd hout k hk
      cases hoi : c.outputs[i]? with
      | none => rw [hoi] at e; cases e
      | some o => rw [hoi] at e; rw [hval o k e]; exact ho i hi o hoi
  refine ⟨hinl, hmain, ?_⟩
  constructor
  · rintro ⟨σ, hin, hs⟩; exact ((hmain σ hin).mp hs).2
  · intro ho
    -- the canonical extension: variable k carries the value of the gate it encodes
    let σ : Nat → Bool := fun k => c.labels.any (fun l => lits.get? l == some k && vB l)
    have hσ : ∀ l k, lits.get? l = some k → σ k = vB l := by
      intro l k hl
      show c.labels.any (fun l' => lits.get? l' == some k && vB l') = vB l
      cases hv : vB l with
      | true =>
        rw [List.any_eq_true]
        exact ⟨l, inv.keys l k hl, by simp [hl, hv]⟩
      | false =>
        rw [List.any_eq_false]
        intro l' _ hc
        simp only [Bool.and_eq_true, beq_iff_eq] at hc
        rw [inv.inj l' l k hc.1 hl, hv] at hc; exact absurd hc.2 (by simp)
    have hin : ∀ i ∈ c.inputs, σ (litD lits i) = b i := by
      intro i hi
      obtain ⟨g, hgm, rfl, hty⟩ := (h.inputsOK i).mp hi
      have hv := hB g hgm
      rw [if_pos hty] at hv
      rw [hσ _ _ (get?_eq_litD (inv.inputs _ hi)), hv]
    exact ⟨σ, hin, (hmain σ hin).mpr ⟨fun g _ henc => hσ _ _ (get?_eq_litD henc), ho⟩⟩

end Cirbo
