import Cirbo.Model.TopSort
import Cirbo.Proofs.OpenNode
/-!
# Kahn's loop on a well-formed graph outputs a permutation of the nodes, each after its predecessors (C20, used by
C01/C02/C03)
-/
namespace Cirbo

theorem count_le_upd {indeg : Label → Nat} {s : Label} {rest : List Label}
    (hpos : ∀ t ∈ s :: rest, (s :: rest).count t ≤ indeg t) :
    ∀ t ∈ rest, rest.count t ≤ upd indeg s (indeg s - 1) t := by
  intro t ht
  have := hpos t (by simp [ht])
  by_cases hts : t = s
  · subst hts; simp [upd, List.count_cons] at *; omega
  · have e : (s == t) = false := by simp [Ne.symm hts]
    simp [upd, hts, List.count_cons, e] at *; exact this

theorem relax_spec : ∀ (us : List Label) (indeg : Label → Nat) (q : List Label),
    (∀ s ∈ us, us.count s ≤ indeg s) →
    (∀ l, (relax indeg q us).1 l = indeg l - us.count l) ∧
    (∀ l, l ∈ (relax indeg q us).2 ↔ l ∈ q ∨ (l ∈ us ∧ indeg l = us.count l)) ∧
    (q.Nodup → (∀ l ∈ q, l ∉ us) → (relax indeg q us).2.Nodup)
  | [], indeg, q, _ => by simp [relax]
  | s :: rest, indeg, q, hpos => by
    have hs : rest.count s + 1 ≤ indeg s := by simpa using hpos s (by simp)
    obtain ⟨ih1, ih2, ih3⟩ := relax_spec rest (upd indeg s (indeg s - 1))
      (if indeg s - 1 = 0 then q ++ [s] else q) (count_le_upd hpos)
    have hstep : relax indeg q (s :: rest) = relax (upd indeg s (indeg s - 1))
        (if indeg s - 1 = 0 then q ++ [s] else q) rest := by
      simp only [relax, if_neg (show ¬ indeg s = 0 by omega)]
    rw [hstep]
    refine ⟨fun l => ?_, fun l => ?_, fun hq hdisj => ih3 ?_ ?_⟩
    · rw [ih1]
      by_cases h : l = s
      · subst h; simp [upd]; omega
      · simp [upd, h, Ne.symm h]
    · rw [ih2]
      by_cases hls : l = s
      · subst hls
        simp only [upd, if_true, List.count_cons, beq_self_eq_true, List.mem_cons, true_or, true_and]
        have hm : rest.count l ≠ 0 → l ∈ rest := fun h => List.count_pos_iff.mp (Nat.pos_of_ne_zero h)
        by_cases hd : indeg l - 1 = 0
        · simp [show indeg l = 1 by omega, show rest.count l = 0 by omega]
        · simp only [hd, if_false]
          exact ⟨fun h => h.imp_right fun ⟨_, he⟩ => by omega,
            fun h => h.imp_right fun he => ⟨hm (by omega), by omega⟩⟩
      · simp only [upd, hls, if_false, List.count_cons, show (s == l) = false by simp [Ne.symm hls],
          List.mem_cons, false_or]
        by_cases hd : indeg s - 1 = 0
        · simp [hd, List.mem_append, hls]
        · simp [hd]
    · split
      · exact List.nodup_append.mpr ⟨hq, by simp, fun a ha b hb e =>
          hdisj a ha (by simp [e, List.mem_singleton.mp hb])⟩
      · exact hq
    · intro l hl hmem
      split at hl
      · rcases List.mem_append.mp hl with hl | hl
        · exact hdisj l hl (by simp [hmem])
        · obtain rfl := List.mem_singleton.mp hl
          have : 1 ≤ rest.count l := List.count_pos_iff.mpr hmem
          omega
      · exact hdisj l hl (by simp [hmem])

/-- A graph Kahn's algorithm is run on; `pre`/`succ` list predecessors and successors with multiplicity. `dual`: one
decrement per successor occurrence pays for one predecessor occurrence. `rank`: acyclicity. -/
structure GWF (G : Graph) : Prop where
  nodup  : G.nodes.Nodup
  closed : ∀ l ∈ G.nodes, ∀ p ∈ G.pre l, p ∈ G.nodes
  succL  : ∀ l s, s ∈ G.succ l → s ∈ G.nodes
  dual   : ∀ l, ∀ s ∈ G.nodes, (G.succ l).count s = (G.pre s).count l
  rank   : ∃ r : Label → Nat, ∀ l ∈ G.nodes, ∀ p ∈ G.pre l, r p < r l

/-- number of predecessor occurrences not yet output -/
def pending (out : List Label) : List Label → Nat
  | [] => 0
  | o :: r => (if o ∈ out then 0 else 1) + pending out r

theorem count_le_pending (out ops : List Label) (cur : Label) (h : cur ∉ out) :
    ops.count cur ≤ pending out ops := by
  induction ops with
  | nil => simp [pending]
  | cons p ps ih =>
    simp only [pending, List.count_cons]
    by_cases hp : p = cur
    · subst hp; simp [h]; omega
    · have e' : (p == cur) = false := by simp [hp]
      simp only [e']
      by_cases hpo : p ∈ out <;> simp [hpo] <;> omega

theorem pending_snoc (out ops : List Label) (cur : Label) (h : cur ∉ out) :
    pending (out ++ [cur]) ops = pending out ops - ops.count cur := by
  induction ops with
  | nil => simp [pending]
  | cons o rest ih =>
    have hle := count_le_pending out rest cur h
    simp only [pending, List.count_cons, ih, List.mem_append, List.mem_singleton]
    by_cases hoc : o = cur
    · subst hoc; simp [h]; omega
    · have e : (o == cur) = false := by simp [hoc]
      by_cases hoo : o ∈ out
      · simp [hoo, hoc, e]
      · simp [hoo, hoc, e]; omega

theorem pending_zero (out ops : List Label) : pending out ops = 0 ↔ ∀ o ∈ ops, o ∈ out := by
  induction ops with
  | nil => simp [pending]
  | cons o rest ih =>
    simp only [pending, List.mem_cons, forall_eq_or_imp]
    by_cases hoo : o ∈ out
    · simp [hoo, ih]
    · simp [hoo]

theorem pending_nil (ops : List Label) : pending [] ops = ops.length := by
  induction ops with
  | nil => rfl
  | cons o r ih => simp [pending, ih]; omega

/-- Invariant of Kahn's loop: the counter of a node is the number of its predecessor occurrences not yet output
(`deg`), and a node with counter zero is output or queued, so nothing is lost (`zero`). -/
structure KInv (G : Graph) (st : KState) : Prop where
  deg   : ∀ l ∈ G.nodes, st.indeg l = pending st.out (G.pre l)
  qOK   : ∀ l ∈ st.queue, l ∈ G.nodes ∧ st.indeg l = 0 ∧ l ∉ st.out
  qND   : st.queue.Nodup
  oND   : st.out.Nodup
  zero  : ∀ l ∈ G.nodes, st.indeg l = 0 → l ∈ st.out ∨ l ∈ st.queue
  oL    : ∀ l ∈ st.out, l ∈ G.nodes
  order : ∀ pre l post, st.out = pre ++ l :: post → ∀ o ∈ G.pre l, o ∈ pre

theorem kstep_inv {G : Graph} (h : GWF G) {st st' : KState} (inv : KInv G st)
    (hs : kstep G st = some st') : KInv G st' := by
  unfold kstep at hs
  cases hq : st.queue.getLast? with
  | none => simp [hq] at hs
  | some cur =>
    simp only [hq, Option.some.injEq] at hs
    subst hs
    obtain ⟨hcurL, hcur0, hcurO⟩ := inv.qOK cur (List.mem_of_getLast? hq)
    obtain ⟨q, hqs⟩ := List.getLast?_eq_some_iff.mp hq
    rw [show st.queue.dropLast = q by rw [hqs, List.dropLast_concat]]
    have hnd := inv.qND
    rw [hqs] at hnd
    obtain ⟨hdropND, -, hcn⟩ := List.nodup_append.mp hnd
    have hcurNotDrop : cur ∉ q := fun hm => hcn cur hm cur (by simp) rfl
    have hdropSub : ∀ l ∈ q, l ∈ st.queue := fun l hl => hqs ▸ List.mem_append_left _ hl
    have hcurOps : ∀ o ∈ G.pre cur, o ∈ st.out := by
      have := inv.deg cur hcurL; rw [hcur0] at this
      exact (pending_zero _ _).mp this.symm
    have hpos : ∀ s ∈ G.succ cur, (G.succ cur).count s ≤ st.indeg s := by
      intro s hsU
      have hsL := h.succL cur s hsU
      rw [h.dual cur s hsL, inv.deg s hsL]
      exact count_le_pending _ _ _ hcurO
    have hdisj : ∀ l ∈ q, l ∉ G.succ cur := by
      intro l hl hm
      have h0 := (inv.qOK l (hdropSub l hl)).2.1
      have h1 := hpos l hm
      have : 1 ≤ (G.succ cur).count l := List.count_pos_iff.mpr hm
      omega
    have hrel := relax_spec (G.succ cur) st.indeg q hpos
    have degNew : ∀ l ∈ G.nodes, (relax st.indeg q (G.succ cur)).1 l
        = pending (st.out ++ [cur]) (G.pre l) := by
      intro l hl
      rw [hrel.1, pending_snoc _ _ _ hcurO, h.dual cur l hl, inv.deg l hl]
    refine ⟨degNew, ?_, ?_, ?_, ?_, ?_, ?_⟩
    · intro l hl
      rw [hrel.2.1] at hl
      rcases hl with hl | ⟨hlU, hle⟩
      · obtain ⟨a, b, d⟩ := inv.qOK l (hdropSub l hl)
        refine ⟨a, ?_, ?_⟩
        · show (relax _ _ _).1 l = 0
          rw [hrel.1, b]; omega
        · simp only [List.mem_append, List.mem_singleton, not_or]
          exact ⟨d, fun e => hcurNotDrop (e ▸ hl)⟩
      · have hlL := h.succL cur l hlU
        refine ⟨hlL, ?_, ?_⟩
        · show (relax _ _ _).1 l = 0
          rw [hrel.1, hle]; omega
        · have hcnt : 1 ≤ (G.pre l).count cur := by
            rw [← h.dual cur l hlL]; exact List.count_pos_iff.mpr hlU
          have hcurIn : cur ∈ G.pre l := List.count_pos_iff.mp hcnt
          simp only [List.mem_append, List.mem_singleton, not_or]
          constructor
          · -- a node whose counter has just become zero is not already output: by `order`, its
            -- predecessor `cur` would stand before it in the output
            intro hlo
            obtain ⟨pre, post, hsplit⟩ := List.append_of_mem hlo
            have := inv.order pre l post hsplit cur hcurIn
            exact hcurO (by rw [hsplit]; simp [this])
          · -- nor is it `cur` itself: `cur` is one of its predecessors, and `rank` excludes a loop
            intro e
            obtain ⟨r, hr⟩ := h.rank
            have := hr l hlL cur hcurIn
            rw [e] at this; omega
    · exact hrel.2.2 hdropND hdisj
    · rw [List.nodup_append]
      refine ⟨inv.oND, by simp, ?_⟩
      intro a ha b hb; simp at hb; subst hb; intro e; subst e; exact hcurO ha
    · intro l hl hz
      replace hz : (relax st.indeg q (G.succ cur)).1 l = 0 := hz
      rw [hrel.1] at hz
      by_cases hg0 : st.indeg l = 0
      · rcases inv.zero l hl hg0 with ho | hq'
        · left; simp [ho]
        · rw [hqs] at hq'
          simp only [List.mem_append, List.mem_singleton] at hq'
          rcases hq' with hq' | hq'
          · right; rw [hrel.2.1]; exact Or.inl hq'
          · left; simp [hq']
      · right
        rw [hrel.2.1]
        right
        have hle : (G.succ cur).count l ≤ st.indeg l := by
          rw [h.dual cur l hl, inv.deg l hl]; exact count_le_pending _ _ _ hcurO
        refine ⟨?_, by omega⟩
        have : 1 ≤ (G.succ cur).count l := by omega
        exact List.count_pos_iff.mp this
    · intro l hl
      simp only [List.mem_append, List.mem_singleton] at hl
      rcases hl with hl | hl
      · exact inv.oL l hl
      · exact hl ▸ hcurL
    · exact snoc_split_induct inv.order hcurOps

theorem kstep_out {G : Graph} {st st' : KState} (hs : kstep G st = some st') :
    st'.out.length = st.out.length + 1 := by
  unfold kstep at hs
  cases hq : st.queue.getLast? with
  | none => simp [hq] at hs
  | some cur => simp only [hq, Option.some.injEq] at hs; subst hs; simp

theorem queue_empty_of_full {G : Graph} {st : KState} (inv : KInv G st)
    (hfull : G.nodes.length ≤ st.out.length) : st.queue = [] := by
  cases hq : st.queue with
  | nil => rfl
  | cons cur rest =>
    exfalso
    have hc : cur ∈ st.queue := by simp [hq]
    obtain ⟨hl, _, hno⟩ := inv.qOK cur hc
    have hnd : (cur :: st.out).Nodup := List.nodup_cons.mpr ⟨hno, inv.oND⟩
    have hsub : (cur :: st.out) ⊆ G.nodes := by
      intro x hx; simp only [List.mem_cons] at hx
      rcases hx with rfl | hx
      · exact hl
      · exact inv.oL x hx
    have := hnd.length_le_of_subset hsub
    simp at this; omega

theorem kahnLoop_spec {G : Graph} (h : GWF G) : ∀ fuel st, KInv G st →
    G.nodes.length ≤ fuel + st.out.length →
    KInv G (kahnLoop G fuel st) ∧ (kahnLoop G fuel st).queue = []
  | 0, st, inv, hf => ⟨inv, queue_empty_of_full (st := st) inv (by simpa using hf)⟩
  | fuel+1, st, inv, hf => by
    unfold kahnLoop
    cases hs : kstep G st with
    | none =>
      refine ⟨inv, ?_⟩
      unfold kstep at hs
      cases hq : st.queue.getLast? with
      | none => simpa using hq
      | some cur => simp [hq] at hs
    | some st' => exact kahnLoop_spec h fuel st' (kstep_inv h inv hs) (by rw [kstep_out hs]; omega)

theorem complete_of_empty {G : Graph} (h : GWF G) {st : KState} (inv : KInv G st)
    (hq : st.queue = []) : ∀ l ∈ G.nodes, l ∈ st.out := by
  obtain ⟨r, hr⟩ := h.rank
  intro l
  induction l using (measure r).wf.induction with
  | _ l ih =>
    intro hl
    have hops : ∀ o ∈ G.pre l, o ∈ st.out := fun o ho => ih o (hr l hl o ho) (h.closed l hl o ho)
    have hz : st.indeg l = 0 := by rw [inv.deg l hl]; exact (pending_zero _ _).mpr hops
    rcases inv.zero l hl hz with ho | hq'
    · exact ho
    · rw [hq] at hq'; cases hq'

theorem init_inv {G : Graph} (h : GWF G) : KInv G (initState G) := by
  refine ⟨?_, ?_, ?_, ?_, ?_, ?_, ?_⟩
  · intro l _; simp [initState, pending_nil]
  · intro l hl
    simp only [initState, List.mem_filter, decide_eq_true_eq] at hl
    exact ⟨hl.1, hl.2, by simp [initState]⟩
  · exact (List.filter_sublist).nodup h.nodup
  · simp [initState]
  · intro l hl hz
    right
    simp only [initState, List.mem_filter, decide_eq_true_eq]
    exact ⟨hl, hz⟩
  · intro l hl; simp [initState] at hl
  · intro pre l post hs; simp [initState] at hs

theorem kahn_final {G : Graph} (h : GWF G) :
    KInv G (kahnLoop G G.nodes.length (initState G)) ∧ (kahnLoop G G.nodes.length (initState G)).queue = [] :=
  kahnLoop_spec h _ _ (init_inv h) (by simp [initState])

theorem kahn_perm {G : Graph} (h : GWF G) : (kahn G).Perm G.nodes := by
  obtain ⟨inv, hq⟩ := kahn_final h
  show (kahnLoop G G.nodes.length (initState G)).out.Perm G.nodes
  rw [List.perm_ext_iff_of_nodup inv.oND h.nodup]
  exact fun l => ⟨inv.oL l, complete_of_empty h inv hq l⟩

theorem kahn_order {G : Graph} (h : GWF G) : OpsFirst G.pre (kahn G) :=
  (kahn_final h).1.order

theorem kahn_nodup {G : Graph} (h : GWF G) : (kahn G).Nodup :=
  (kahn_final h).1.oND

end Cirbo
