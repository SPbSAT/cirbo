import Cirbo.Proofs.Norm
import Cirbo.Proofs.Gen
/-!
# `NormalizationInfo.denormalize` on a circuit (C17): the returned outputs compute the denormalised
values of the stored circuit's outputs
-/
namespace Cirbo
namespace Norm
open GateType Circuit

theorem undelete_map {α β} (f : α → β) {mapping : List Nat} {outs l : List α} (h : undelete mapping outs = .ok l) :
    undelete mapping (outs.map f) = .ok (l.map f) :=
  undelete_ok_iff.mpr (map_getElem?_map f (undelete_ok_iff.mp h))

theorem foldl_set_map {α β} (f : α → β) : ∀ (ps : List (Nat × α)) (acc : List α),
    (ps.foldl (fun acc (p : Nat × α) => acc.set p.1 p.2) acc).map f =
      (ps.map (fun p => (p.1, f p.2))).foldl (fun acc (p : Nat × β) => acc.set p.1 p.2) (acc.map f) := by
  intro ps
  induction ps with
  | nil => intro acc; rfl
  | cons p r ih =>
    intro acc
    simp only [List.foldl_cons, List.map_cons]
    rw [ih, List.map_set]

theorem unsort_map {α β} (f : α → β) {d : α} {perm : List Nat} {outs l : List α} (h : unsort d perm outs = .ok l) :
    unsort (f d) perm (outs.map f) = .ok (l.map f) := by
  unfold unsort at h ⊢
  rw [List.length_map]
  split at h
  · cases h
  · rename_i hl
    cases h
    rw [if_neg hl, foldl_set_map, List.zip_map_right, List.map_replicate]
    rfl

theorem unsort_length {α} {d : α} {perm : List Nat} {outs l : List α} (h : unsort d perm outs = .ok l) :
    l.length = outs.length ∧ perm.length = outs.length := by
  unfold unsort at h
  split at h
  · cases h
  · rename_i hl
    cases h
    exact ⟨by rw [foldl_set_length]; simp, by simpa using hl⟩

def negVec (xs : List Bool) (negs : List Bool) : List Bool :=
  (xs.zip negs).map (fun p => if p.2 then !p.1 else p.1)

/-- `denormalize` on the vector of output values of the stored circuit (for one input assignment); `d` is what
`unsort` pads with -/
def denormVec (d : Bool) (info : Info) (xs : List Bool) : R (List Bool) :=
  match undelete info.mapping xs with
  | .error e => .error e
  | .ok u =>
    match unsort d info.permutation u with
    | .error e => .error e
    | .ok s =>
      if info.negations.length != s.length then .error "CircuitIsNotCompatibleWithNormalizationParameters" else
      .ok (negVec s info.negations)

theorem denormVec_ok {d : Bool} {info : Info} {xs u s : List Bool} (hu : undelete info.mapping xs = .ok u)
    (hs : unsort d info.permutation u = .ok s) (hl : info.negations.length = s.length) :
    denormVec d info xs = .ok (negVec s info.negations) := by
  unfold denormVec
  rw [hu]
  simp only
  rw [hs]
  simp only
  rw [if_neg (by simp [hl])]

def col (j : Nat) (t : List Row) : List Bool := t.map (fun r => r.getD j false)

theorem negVec_col {rows : List Row} {negs : List Bool} {j : Nat}
    (hlen : ∀ r ∈ (rows.zip negs).map flipIf, j < r.length) :
    negVec (col j rows) negs = col j ((rows.zip negs).map flipIf) := by
  unfold negVec col
  rw [List.zip_map_left, List.map_map, List.map_map]
  refine List.map_congr_left fun p hp => ?_
  have hrow := hlen _ (List.mem_map.mpr ⟨p, hp, rfl⟩)
  obtain ⟨r, n⟩ := p
  cases n
  · rfl
  · have hj : j < r.length := by simpa [flipIf] using hrow
    simp [flipIf, List.getD_eq_getElem?_getD, hj]

/-- the loop's (implicit) assumption: a gate called `not_<o>` is the negation of `o` -/
def NotOK (c : Circuit) : Prop := ∀ o, ("not_" ++ o) ∈ c.labels → (⟨"not_" ++ o, NOT, [o]⟩ : Gate) ∈ c.gates

theorem not_gate_val {c : Circuit} {o : Label} {b v : Label → Bool} (hv : IsValB c b v)
    (hg : (⟨"not_" ++ o, NOT, [o]⟩ : Gate) ∈ c.gates) : v ("not_" ++ o) = !v o := by
  have := hv _ hg
  simp [bfun] at this
  rw [this]; simp

/-- one round of `_denormalize_outputs`: the circuit stays or grows by the gate `not_<o>`; the label appended to the
outputs carries the value of `o`, negated if asked -/
theorem negateOutputs_step {c : Circuit} {o : Label} (hw : WFS c) (hn : NotOK c) (ho : o ∈ c.labels) (neg : Bool)
    (rest : List (Label × Bool)) (acc : List Label) :
    ∃ c1 o', negateOutputs ((o, neg) :: rest) c acc = negateOutputs rest c1 (acc ++ [o']) ∧
      GenFrame c c1 ∧ NotOK c1 ∧ o' ∈ c1.labels ∧ ∀ b v, IsValB c1 b v → v o' = if neg then !v o else v o := by
  cases neg with
  | false => exact ⟨c, o, by simp [negateOutputs], .refl hw, hn, ho, fun _ _ _ => by simp⟩
  | true =>
    by_cases hex : c.hasGate ("not_" ++ o) = true
    · have hng := (hasGate_iff c _).mp hex
      exact ⟨c, "not_" ++ o, by simp [negateOutputs, hex], .refl hw, hn, hng,
        fun b v hv => by simpa using not_gate_val hv (hn o hng)⟩
    · obtain ⟨c1, hadd, hlab⟩ := addGate_returns (n := c) (g := ⟨"not_" ++ o, NOT, [o]⟩)
        (fun h => hex ((hasGate_iff c _).mpr h)) (by simpa using ho)
      have hf := GenFrame.of_addGate hw rfl hadd
      have hg : (⟨"not_" ++ o, NOT, [o]⟩ : Gate) ∈ c1.gates := by rw [(addGate_fields hadd).gates]; simp
      refine ⟨c1, "not_" ++ o, by simp [negateOutputs, hex, hadd], hf, fun x hx => ?_, mem_labels_of_mem hg,
        fun b v hv => by simpa using not_gate_val hv hg⟩
      rw [hlab, List.mem_append, List.mem_singleton] at hx
      rcases hx with hx | hx
      · exact hf.mem_gates (hn x hx)
      · rwa [(String.append_right_inj _).mp hx]

theorem negateOutputs_spec : ∀ (pairs : List (Label × Bool)) {c : Circuit} (acc : List Label), WFS c → NotOK c →
    (∀ p ∈ pairs, p.1 ∈ c.labels) →
    ∃ c3 tail, negateOutputs pairs c acc = .ok (c3, acc ++ tail) ∧ tail.length = pairs.length ∧ GenFrame c c3 ∧
      (∀ l ∈ tail, l ∈ c3.labels) ∧
      ∀ b v, IsValB c3 b v → tail.map v = pairs.map (fun p => if p.2 then !v p.1 else v p.1)
  | [], c, acc, hw, _, _ => ⟨c, [], by simp [negateOutputs], rfl, .refl hw, by simp, fun _ _ _ => rfl⟩
  | (o, neg) :: rest, c, acc, hw, hn, hin => by
    obtain ⟨c1, o', hstep, f1, n1, ho', val1⟩ := negateOutputs_step hw hn (hin (o, neg) (by simp)) neg rest acc
    obtain ⟨c3, tail, hrun, hlen, f3, lt, val3⟩ := negateOutputs_spec rest (acc ++ [o']) f1.wfs n1
      (fun q hq => f1.mem_labels (hin q (by simp [hq])))
    refine ⟨c3, o' :: tail, by rw [hstep, hrun, List.append_assoc]; rfl, by simp [hlen], f1.trans f3, ?_,
      fun b v hv => ?_⟩
    · intro l hl
      rcases List.mem_cons.mp hl with rfl | hl
      · exact f3.mem_labels ho'
      · exact lt l hl
    · rw [List.map_cons, List.map_cons, val3 b v hv, val1 b v fun g hg => hv g (f3.mem_gates hg)]

/-- `v ""`: `denormalizeCircuit` pads the label list with `""` in `unsort`, so the value list is padded with the value
there -/
theorem denormalizeCircuit_sem {info : Info} {c c' : Circuit} (hw : WFS c) (hn : NotOK c)
    (h : denormalizeCircuit info c = .ok c') :
    c'.inputs = c.inputs ∧ WFS c' ∧ c'.outputs.length = info.negations.length ∧
    ∀ b v, IsValB c b v → ∃ v', IsValB c' b v' ∧ (∀ l ∈ c.labels, v' l = v l) ∧
      denormVec (v "") info (c.outputs.map v) = .ok (c'.outputs.map v') := by
  unfold denormalizeCircuit at h
  split at h
  · cases h
  · rename_i o1 hu
    simp only at h
    split at h
    · cases h
    · rename_i o2 hs
      unfold Circuit.orderOutputs at h
      split at h
      · cases h
      · rename_i c2 hord
        split at hord
        · cases hord
        · rename_i l hol
          cases hord
          -- `o2` has the length of `o1`, so `order_outputs` installs it as it stands
          have := orderList_full hol (unsort_length hs).1
          subst this
          have ho2 : ∀ x ∈ l, x ∈ c.labels := fun x hx =>
            hw.outputsOK x (undelete_mem hu x ((orderList_perm hol).mem_iff.mp hx))
          obtain ⟨c3, tail, hrun, hlen, f3, lt, val⟩ := negateOutputs_spec (l.zip info.negations)
            (c := { c with outputs := l }) [] (hw.withOutputs ho2) hn (fun p hp => ho2 _ (List.of_mem_zip hp).1)
          simp only at h
          split at h
          · cases h
          · rename_i hnl
            have hnl' : info.negations.length = l.length := by simpa using hnl
            rw [hrun] at h
            cases h
            refine ⟨f3.inputs, f3.wfs.withOutputs lt, by simp [hlen, hnl'], fun b v hv => ?_⟩
            obtain ⟨v', a1, a2⟩ := f3.ext b v hv
            refine ⟨v', a1, a2, ?_⟩
            rw [denormVec_ok (undelete_map v hu) (unsort_map v hs) (by simpa using hnl')]
            congr 1
            show negVec (l.map v) info.negations = tail.map v'
            rw [val b v' a1, negVec, List.zip_map_left, List.map_map]
            exact List.map_congr_left fun p hp => by simp [a2 _ (ho2 _ (List.of_mem_zip hp).1)]

/-! ## Totality: no error branch of `denormalizeCircuit` is reachable when `info` comes from `normalize` and the stored
circuit has as many outputs as the normalised table has rows, all of them existing gates -/

theorem normalize_shape {tt : List Row} {info : Info} (h : normalize tt = .ok info) :
    (∀ i ∈ info.mapping, i < info.table.length) ∧
    info.permutation.length = info.mapping.length ∧ info.negations.length = info.mapping.length ∧
    info.mapping.length = tt.length ∧ 0 < tt.length ∧ 0 < info.table.length := by
  obtain ⟨rows, sorted, hne, n2, n1, -, hperm, hp, hm⟩ := normalize_spec h
  have h0 := List.length_pos_iff.mpr hne
  have h1 := hperm.length_eq
  have h2 := congrArg List.length hp
  have h3 := congrArg List.length hm
  simp only [List.length_map, List.length_range] at h1 h2 h3
  have hb := lt_length_of_map_getElem? hm
  refine ⟨hb, by omega, by omega, by omega, by omega, ?_⟩
  cases hmp : info.mapping with
  | nil => rw [hmp] at h3; simp at h3; omega
  | cons m ms => have := hb m (by rw [hmp]; simp); omega

theorem denormalize_total {tt : List Row} {info : Info} {c : Circuit} (hnorm : normalize tt = .ok info)
    (hw : WFS c) (hn : NotOK c) (hout : c.outputs.length = info.table.length) :
    ∃ c', denormalizeCircuit info c = .ok c' := by
  obtain ⟨hmb, hpl, hnl, -⟩ := normalize_shape hnorm
  obtain ⟨o1, hu⟩ := undelete_total (outs := c.outputs) fun i hi => hout ▸ hmb i hi
  have hl1 : o1.length = info.mapping.length := by
    simpa using (congrArg List.length (undelete_ok_iff.mp hu)).symm
  obtain ⟨o2, hs, hp2⟩ := unsort_perm "" (normalize_perm hnorm) (hpl.trans hl1.symm)
  have ho2 : ∀ x ∈ o2, x ∈ c.labels := fun x hx => hw.outputsOK x (undelete_mem hu _ (hp2.mem_iff.mp hx))
  obtain ⟨c3, tail, hrun, -⟩ := negateOutputs_spec (o2.zip info.negations) (c := { c with outputs := o2 }) []
    (hw.withOutputs ho2) hn (fun p hp => ho2 _ (List.of_mem_zip hp).1)
  unfold denormalizeCircuit
  rw [hu]
  simp only
  rw [hs]
  unfold Circuit.orderOutputs
  simp only
  rw [orderList_of_perm hp2]
  simp only
  rw [if_neg (by simp [hp2.length_eq]; omega), hrun]
  exact ⟨_, rfl⟩

end Norm
end Cirbo
