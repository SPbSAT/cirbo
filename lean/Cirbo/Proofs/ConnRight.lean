import Cirbo.Proofs.ConnFull
/-! `connect_circuit(right_connect=True)`: what `connect_spec` says, read for the right direction. -/
namespace Cirbo
open GateType

theorem connect_right_semantics {c other c' : Circuit} {thisC otherC : List Label} {name : Label} {addP : Bool}
    (hwo : WFG other) (hndc : c.labels.Nodup)
    (h : c.connectCircuit other thisC otherC true name addP = .ok c') :
    ∃ φ : Label → Label,
      (∀ b v, IsValB c' b v → IsValB other (v ∘ φ) (v ∘ φ)) ∧
      (∀ b v, IsValB c' b v → IsValB c v v) ∧
      (∀ l x, Dict.get? (connMapping thisC otherC) l = some x → φ l = x) ∧
      (∀ g ∈ other.gates, Dict.contains (connMapping thisC otherC) g.label = false → φ g.label = connPre name addP ++ g.label) ∧
      (∀ g ∈ c.gates, g.label ∉ thisC → g ∈ c'.gates) ∧
      c'.outputs = c.outputs.filter (fun o => !thisC.contains o) ++ (other.outputs.filter (fun o => !otherC.contains o)).map φ ∧
      c'.inputs = c.inputs.filter (fun i => ((c'.find? i).map (·.ty)) == some INPUT) ++
        (other.inputs.filter (fun i => !otherC.contains i)).map φ ∧
      (name ≠ "" → ∃ fb, c'.getBlock name = .ok ⟨name, other.inputs.map φ, fb, other.outputs.map φ⟩) ∧
      (∀ n b, n ≠ name → c.getBlock n = .ok b → c'.getBlock n = .ok b) := by
  have hc := connect_spec hwo h
  refine ⟨_, hc.sem hwo.nodup, fun b v hv g hgm => ?_, hc.mapped, fun g _ => hc.copy _, fun g hg hn => hc.kept g hg fun _ => hn,
    hc.outputs, hc.inputs, fun hn => (hc.block hn).imp fun fb hfb => hfb.1, hc.older⟩
  by_cases ht : g.ty = INPUT
  · simp [ht]
  · -- a fed input is an INPUT gate, so `g` is kept
    have hn : g.label ∉ thisC := fun hmem => ht (ty_of_find_ty hndc hgm (hc.connTy g.label hmem))
    simpa [ht] using hv g (hc.kept g hgm fun _ => hn)

end Cirbo
