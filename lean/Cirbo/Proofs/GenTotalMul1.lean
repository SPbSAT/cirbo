import Cirbo.Proofs.GenTotalW2
import Cirbo.Proofs.GenSquare
import Cirbo.Proofs.GenMulWidth
/-!
# Totality of the multipliers and squarers built on partial products (`multiplication.py`, `square.py`)

The 2^k−1 schemes sum the partial products column by column and index `out[j][0][0]`, `out[j][i - j]`: no column that is
indexed may be empty.  `g i` is a lower bound on the number of bits column `i` receives: its operand bits, plus a carried
bit when the column before had two or more (two bits or more always give a second column).
-/
namespace Cirbo

theorem mem_ppWeighted {rows : List (List Label)} {x : Nat × Label} (h : x ∈ ppWeighted rows) : x.2 ∈ rows.flatten := by
  simp only [ppWeighted, List.mem_flatten, List.mem_map] at h
  obtain ⟨l, ⟨⟨row, i⟩, hri, rfl⟩, hp⟩ := h
  obtain ⟨⟨y, j⟩, hxj, rfl⟩ := List.mem_map.mp hp
  rw [List.mem_zipIdx_iff_getElem?] at hri hxj
  exact List.mem_flatten.mpr ⟨row, List.mem_of_getElem? hri, List.mem_of_getElem? hxj⟩

theorem ppWeighted_ne {rows : List (List Label)} (h1 : 1 ≤ rows.length) (h2 : ∀ r ∈ rows, 1 ≤ r.length) :
    ppWeighted rows ≠ [] := by
  match rows, h1, h2 with
  | [] :: _, _, h2 => exact absurd (h2 [] (by simp)) (by simp)
  | (x :: t) :: rs, _, _ => simp [ppWeighted]

theorem yields_ppRow (bi : Label) : ∀ (a acc : List Label), YieldsL (bi :: a ++ acc) (ppRow bi a acc) id
  | [], _ => .ret (by lmem) trivial
  | aj :: r, acc => by
    unfold ppRow
    refine Yields.emitTT_bind (by decide) (by lmem) (by lmem) fun g => ?_
    exact (yields_ppRow bi r (acc ++ [g])).sub (by lmem)

theorem yields_ppRows (a : List Label) : ∀ (b : List Label) (acc : List (List Label)),
    YieldsL (a ++ b ++ acc.flatten) (ppRows a b acc) (fun r => r.flatten)
  | [], _ => .ret (by lmem) trivial
  | bi :: r, acc => by
    unfold ppRows
    refine (yields_ppRow bi a []).bind (by lmem) fun row _ => ?_
    exact (yields_ppRows a r (acc ++ [row])).sub (by lmem [List.flatten_append, List.flatten_cons, List.flatten_nil])

theorem yields_ppRows_rect (a b : List Label) : Yields (a ++ b) (ppRows a b []) (fun r => r.flatten)
    (fun r => r.length = b.length ∧ ∀ row ∈ r, row.length = a.length) :=
  ((yields_ppRows a b []).sub (by lmem [List.flatten_nil])).shapeR fun r _ hr =>
    let ⟨_, s⟩ := hr.sem
    let ⟨_, e, h1, h2, _⟩ := sem_ppRows b [] r s
    (List.nil_append _ ▸ e) ▸ ⟨h1, h2⟩

theorem withShift_pos {shift : Nat} {a b r : List Label} (hb : 1 ≤ b.length)
    (h1 : a.length ≤ shift → r.length = shift + b.length)
    (h2 : shift < a.length → r.length = max a.length (b.length + shift) + 1) : 1 ≤ r.length := by
  rcases Nat.lt_or_ge shift a.length with h | h
  · rw [h2 h]; omega
  · rw [h1 h]; omega

theorem yields_addMul {a b : List Label} (be : Bool) (hna : 1 ≤ a.length) (hnb : 1 ≤ b.length) :
    Yields (a ++ b) (addMul a b be) id
      (fun r => r.length = if a.length = 1 ∨ b.length = 1 then a.length + b.length - 1 else a.length + b.length) := by
  have h : YieldsL (a ++ b) (addMul a b be) id := by
    unfold addMul
    refine (yields_ppRows_rect _ _).bind (by lmem [mem_revIf]) fun rows ⟨h1, h2⟩ => ?_
    refine (yields_addSumWeighted (sa_resolve_enum .xaig)
      (ppWeighted_ne (by rw [h1, revIf_length]; exact hnb) (fun r hr => by rw [h2 r hr, revIf_length]; exact hna))).bind
      (fun l hl => ?_) fun out _ => .ret (by lmem [mem_revIf]) trivial
    obtain ⟨x, hx, rfl⟩ := List.mem_map.mp hl
    exact List.mem_append_right _ (mem_ppWeighted hx)
  exact h.shapeR fun _ _ hr => let ⟨_, c⟩ := hr.cost; shape_addMul c hna hnb

theorem yields_alterLoop : ∀ (rows : List (List Label)) (i : Nat) (res : List Label), (∀ r ∈ rows, 1 ≤ r.length) →
    1 ≤ res.length → Yields (rows.flatten ++ res) (alterLoop rows i res) id (fun r => 1 ≤ r.length)
  | [], _, _, _, hne => .ret (by lmem) hne
  | row :: r, i, res, hrne, hne => by
    unfold alterLoop
    have hrow := hrne row (by simp)
    refine (yields_addSumTwoNumbersWithShift (shift := i) false (fun _ => hne) (fun _ => hrow)).bind
      (by lmem [List.flatten_cons]) fun res' ⟨h1, h2⟩ => ?_
    exact (yields_alterLoop r (i + 1) res' (fun r' hr' => hrne r' (by simp [hr'])) (withShift_pos hrow h1 h2)).sub
      (by lmem [List.flatten_cons])

theorem yields_addMulAlter {a b : List Label} (be : Bool) (hna : 1 ≤ a.length) (hnb : 1 ≤ b.length) :
    Yields (a ++ b) (addMulAlter a b be) id (fun r => 1 ≤ r.length) := by
  unfold addMulAlter
  refine (yields_ppRows_rect _ _).bind (by lmem [mem_revIf]) fun rows ⟨h1, h2⟩ => ?_
  rw [revIf_length] at h1
  have hrne : ∀ r ∈ rows, 1 ≤ r.length := fun r hr => by rw [h2 r hr, revIf_length]; exact hna
  match rows, h1, hrne with
  | [], h1, _ => rw [← h1] at hnb; cases hnb
  | [r0], _, hrne => exact .ret (by lmem [mem_revIf, List.flatten_cons]) ((revIf_length _ _).symm ▸ hrne r0 (by simp))
  | r0 :: r1 :: rest, _, hrne =>
    have hr1 := hrne r1 (by simp)
    refine (yields_addSumTwoNumbersWithShift (shift := 1) (a := r0) (b := r1) false (fun _ => hrne r0 (by simp))
      (fun _ => hr1)).bind (by lmem [List.flatten_cons]) fun res ⟨c1, c2⟩ => ?_
    refine (yields_alterLoop rest 2 res (fun r hr => hrne r (by simp [hr])) (withShift_pos hr1 c1 c2)).bind
      (by lmem [List.flatten_cons]) fun res' h3 => ?_
    exact .ret (by lmem [mem_revIf]) ((revIf_length _ _).symm ▸ h3)

theorem mem_carriedInto {out : List (List (List Label))} {i : Nat} {l : Label} (h : l ∈ carriedInto out i) :
    l ∈ out.flatten.flatten := by
  unfold carriedInto at h
  obtain ⟨c, hc, hl⟩ := List.mem_flatten.mp h
  obtain ⟨⟨o, j⟩, hoj, rfl⟩ := List.mem_map.mp hc
  have ho : o ∈ out := (List.mem_zipIdx hoj).2.2 ▸ List.getElem_mem _
  dsimp only at hl
  split at hl
  · obtain ⟨c', hc', hl'⟩ := List.mem_flatten.mp (List.mem_flatten_getD.mpr ⟨_, hl⟩)
    exact List.mem_flatten.mpr ⟨c', List.mem_flatten.mpr ⟨o, ho, hc'⟩, hl'⟩
  · cases hl

/-- the previous column, when it has a second (non-empty) column, pushes a bit to weight `i` -/
theorem carriedInto_ne {pre : List (List (List Label))} {c0 c1 : List Label} {rest : List (List Label)} {i : Nat}
    (hlen : pre.length + 1 = i) (hc1 : c1 ≠ []) : carriedInto (pre ++ [c0 :: c1 :: rest]) i ≠ [] := by
  unfold carriedInto
  rw [List.zipIdx_append, List.map_append, List.flatten_append]
  apply List.append_ne_nil_of_right_ne_nil
  have h1 : (pre.length < i && pre.length + (c0 :: c1 :: rest).length > i) = true := by
    simp only [List.length_cons, Bool.and_eq_true, decide_eq_true_eq]; omega
  have h2 : i - pre.length = 1 := by omega
  simp only [List.zipIdx_cons, List.zipIdx_nil, List.map_cons, List.map_nil, Nat.zero_add, h1, if_true, h2,
    List.flatten_cons, List.flatten_nil, List.append_nil]
  exact hc1

/-- `g i ≥ 1`: the contract of `add_sum_pow2_m1` needs a non-empty list -/
theorem yields_pow2Columns {own : Nat → List Label} {basis : BasisArg} {b : Basis} (hb : basis.resolve = .ok b)
    (g : Nat → Nat) (s0 : Nat) {I : List Label} :
    ∀ (idx : List Nat) (out : List (List (List Label))) (s : Nat),
    idx = List.range' s idx.length → out.length = s → (∀ o ∈ out, Pow2Cols o) → (∀ i ∈ idx, ∀ l ∈ own i, l ∈ I) →
    (∀ i ∈ idx, 1 ≤ g i ∧ (g i ≤ (own i).length ∨ (g i ≤ (own i).length + 1 ∧ s0 < i ∧ 2 ≤ g (i - 1)))) →
    (s0 < s → 2 ≤ g (s - 1) → ∃ pre o, out = pre ++ [o] ∧ 2 ≤ o.length) →
    Yields (I ++ out.flatten.flatten) (pow2Columns own basis idx out) (fun r => r.flatten.flatten)
      (fun r => ∀ o ∈ r, Pow2Cols o)
  | [], _, _, _, _, hs, _, _, _ => .ret (fun _ => List.mem_append_right _) hs
  | i :: r, out, s, hidx, hl, hs, hown, hg, hflag => by
    simp only [List.length_cons, List.range'_succ, List.cons.injEq] at hidx
    obtain ⟨his, hr⟩ := hidx
    obtain ⟨hg1, hg2⟩ := hg i (by simp)
    have hcnt : g i ≤ (own i ++ carriedInto out i).length := by
      rw [List.length_append]
      rcases hg2 with h | ⟨h, h0, h2⟩
      · omega
      · obtain ⟨pre, o, e, ho2⟩ := hflag (by omega) (by rw [← his]; exact h2)
        obtain ⟨z, rest, eo, hrest⟩ := hs o (by rw [e]; simp)
        subst eo
        match rest, ho2, hrest with
        | c1 :: rest', _, hrest =>
          have hne := carriedInto_ne (pre := pre) (c0 := [z]) (rest := rest') (i := i)
            (by rw [e, List.length_append, List.length_singleton] at hl; omega) (hrest c1 (by simp))
          rw [← e] at hne
          have := List.length_pos_iff.mpr hne
          omega
    have hinp : ∀ l ∈ own i ++ carriedInto out i, l ∈ I ++ out.flatten.flatten := fun l hl' =>
      (List.mem_append.mp hl').elim (fun h => List.mem_append_left _ (hown i (by simp) l h))
        (fun h => List.mem_append_right _ (mem_carriedInto h))
    have hcols : ∀ {o}, Pow2Cols o → ∀ o' ∈ out ++ [o], Pow2Cols o' := fun ho o' ho' =>
      (List.mem_append.mp ho').elim (hs o') (fun h => List.mem_singleton.mp h ▸ ho)
    have hrec := fun o => yields_pow2Columns (own := own) hb g s0 (I := I) r (out ++ [o]) (s + 1) hr (by simp [hl])
    clear hr
    simp only [pow2Columns]
    split
    · rename_i x hx
      rw [hx] at hcnt hinp
      refine (hrec [[x]] (hcols (pow2Cols_single x)) (fun i' hi' => hown i' (by simp [hi']))
        (fun i' hi' => hg i' (by simp [hi'])) fun _ h2 => ?_).sub
        (by have := List.mem_append.mp (hinp x (by simp)); lmem [List.flatten_append, List.flatten_cons, List.flatten_nil])
      simp only [Nat.add_sub_cancel, List.length_cons, List.length_nil] at h2 hcnt
      rw [← his] at h2; omega
    · rename_i hnot
      have hlen2 : 2 ≤ (own i ++ carriedInto out i).length := by
        match hinp' : own i ++ carriedInto out i with
        | [] => rw [hinp'] at hcnt; simp only [List.length_nil] at hcnt; omega
        | [x] => exact absurd hinp' (hnot x)
        | _ :: _ :: _ => simp
      refine (yields_addSumPow2M1 false hb (List.length_pos_iff.mp (by omega))).bind hinp fun o ⟨hcol, h2⟩ => ?_
      exact (hrec o (hcols hcol) (fun i' hi' => hown i' (by simp [hi'])) (fun i' hi' => hg i' (by simp [hi']))
        fun _ _ => ⟨out, o, rfl, h2 hlen2⟩).sub (by lmem [List.flatten_append, List.flatten_cons, List.flatten_nil])

/-- `[o[0][0] for o in out]` -/
theorem yields_firstBits {out : List (List (List Label))} (hc : ∀ o ∈ out, Pow2Cols o) :
    Yields out.flatten.flatten (firstBits out) id (fun r => r.length = out.length) :=
  .foldl_pick _ out fun o ho => by
    obtain ⟨z, rest, rfl, _⟩ := hc o ho
    exact ⟨z, List.mem_flatten.mpr ⟨[z], List.mem_flatten.mpr ⟨_, ho, by simp⟩, by simp⟩, fun _ => rfl⟩

/-- `add_mul_pow2_m1` and `last_step_sum_with_new_powers_sum` start alike and differ in `rest`, their summation for widths
`≥ 2` -/
theorem yields_ppShort {a b : List Label} {rest : List (List Label) → Prog (List Label)}
    (hrest : a.length ≠ 1 → b.length ≠ 1 → ∀ rows : List (List Label), rows.length = b.length →
      (∀ row ∈ rows, row.length = a.length) →
      Yields rows.flatten (rest rows) id (fun r => r.length = a.length + b.length)) :
    Yields (a ++ b) (ppRows a b [] >>= fun rows =>
      if a.length == 1 then heads rows
      else if b.length == 1 then
        match rows with
        | r0 :: _ => pure r0
        | [] => .fail "Py:IndexError"
      else rest rows) id
      (fun r => r.length = if a.length = 1 then b.length else if b.length = 1 then a.length else a.length + b.length) := by
  refine (yields_ppRows_rect a b).bind (fun _ => id) fun rows ⟨h1, h2⟩ => ?_
  by_cases hn1 : a.length = 1
  · simp only [hn1, beq_self_eq_true, if_true]
    exact (yields_heads fun r hr => List.length_pos_iff.mp (by rw [h2 r hr, hn1]; exact Nat.le_refl 1)).mono (by lmem)
      fun r h => h.trans h1
  · simp only [beq_iff_eq, hn1, if_false]
    by_cases hm1 : b.length = 1
    · simp only [hm1, if_true]
      match rows, h1, h2 with
      | [], h1, _ => exact absurd h1 (by rw [hm1]; decide)
      | r0 :: rs, _, h2 => exact .ret (by lmem [List.flatten_cons]) (h2 r0 (by simp))
    · simp only [hm1, if_false]
      exact (hrest hn1 hm1 rows h1 h2).sub (by lmem)

theorem mem_mulOwn {rows : List (List Label)} {n m w : Nat} (hl : rows.length = m) (hr : ∀ r ∈ rows, r.length = n)
    {l : Label} (h : l ∈ mulOwn rows n m w) : l ∈ rows.flatten := by
  unfold mulOwn at h
  obtain ⟨j, hj, rfl⟩ := List.mem_map.mp h
  have hp := (List.mem_filter.mp hj).2
  simp only [Bool.and_eq_true, decide_eq_true_eq] at hp
  exact List.mem_flatten_getD.mpr ⟨j, List.getD_mem_of_lt PH (by rw [getD_mem_len hr (by omega)]; exact hp.2)⟩

theorem mulOwn_ne {rows : List (List Label)} {n m w : Nat} (hn : 1 ≤ n) (hm : 1 ≤ m) (hw : w + 1 < n + m) :
    1 ≤ (mulOwn rows n m w).length := by
  unfold mulOwn
  rw [List.length_map]
  apply List.length_pos_iff.mpr
  apply List.filter_range_ne (j := min w (m - 1)) (by omega)
  simp only [Bool.and_eq_true, decide_eq_true_eq]
  omega

theorem mulOwn_two {rows : List (List Label)} {n m w : Nat} (hn : 2 ≤ n) (hm : 2 ≤ m) (hw : w + 3 = n + m) :
    2 ≤ (mulOwn rows n m w).length := by
  unfold mulOwn
  rw [List.length_map]
  apply List.filter_range_two (a := m - 2) (b := m - 1) (by omega) (by omega)
  · simp only [Bool.and_eq_true, decide_eq_true_eq]; omega
  · simp only [Bool.and_eq_true, decide_eq_true_eq]; omega

theorem yields_pow2Result {own : Nat → List Label} {basis : BasisArg} {b : Basis} (hb : basis.resolve = .ok b)
    (g : Nat → Nat) {d N : Nat} (hd : d ≤ N) {init : List (List (List Label))} {I : List Label}
    (hlen : init.length = d) (hinit : ∀ o ∈ init, Pow2Cols o) (hown : ∀ i ∈ List.range' d (N - d), ∀ l ∈ own i, l ∈ I)
    (hg : ∀ i ∈ List.range' d (N - d),
      1 ≤ g i ∧ (g i ≤ (own i).length ∨ (g i ≤ (own i).length + 1 ∧ d < i ∧ 2 ≤ g (i - 1)))) :
    Yields (I ++ init.flatten.flatten) (pow2Columns own basis ((List.range N).drop d) init >>= firstBits) id
      (fun r => r.length = N) := by
  rw [List.range_drop]
  refine (yields_pow2Columns hb g d (List.range' d (N - d)) init d (by simp) hlen hinit hown hg
    (fun h => absurd h (Nat.lt_irrefl d))).bindR (fun _ => id) fun out o2 hr => ?_
  refine (yields_firstBits o2).mono (by lmem) fun r h3 => ?_
  obtain ⟨_, s⟩ := hr.sem
  rw [h3, (sem_pow2Columns _ _ _ d (by simp) hlen s).1, List.length_range']; omega

/-- bits that column `j` of an `N`-column product is known to receive -/
def mulBits (N j : Nat) : Nat := if j + 3 = N ∨ j + 2 = N then 2 else 1

theorem mulBits_spec {N i len : Nat} (hN : 4 ≤ N) (h1 : 1 ≤ i) (hi : i < N) (e1 : i + 1 < N → 1 ≤ len)
    (e2 : i + 3 = N → 2 ≤ len) :
    1 ≤ mulBits N i ∧ (mulBits N i ≤ len ∨ (mulBits N i ≤ len + 1 ∧ 1 < i ∧ 2 ≤ mulBits N (i - 1))) := by
  unfold mulBits
  split <;> split <;> omega

/-- the top column `n + m - 1` has no operand bit: it is fed by the carry of column `n + m - 2`, which has one operand bit
and the carry of column `n + m - 3`, which has two -/
theorem yields_mulPow2M1Core {a b : List Label} (hna : 1 ≤ a.length) (hnb : 1 ≤ b.length) :
    Yields (a ++ b) (mulPow2M1Core a b) id (fun r => r.length =
      if a.length = 1 then b.length else if b.length = 1 then a.length else a.length + b.length) := by
  unfold mulPow2M1Core
  refine yields_ppShort fun hn1 hm1 rows h1 h2 => ?_
  have hn : 2 ≤ a.length := by omega
  have hm : 2 ≤ b.length := by omega
  match rows, h1, h2 with
  | [], h1, _ => rw [List.length_nil] at h1; omega
  | [] :: rs, _, h2 => have := h2 [] (by simp); simp only [List.length_nil] at this; omega
  | (c00 :: r0) :: rs, h1, h2 =>
    have hc00 : c00 ∈ ((c00 :: r0) :: rs).flatten := by simp
    dsimp only
    generalize (c00 :: r0) :: rs = rows at *
    exact (yields_pow2Result (own := mulOwn rows a.length b.length) (sa_resolve_enum .xaig) (mulBits (a.length + b.length))
      (d := 1) (by omega) rfl (fun o ho => List.mem_singleton.mp ho ▸ pow2Cols_single c00)
      (fun i _ l hl => mem_mulOwn h1 h2 hl)
      (fun i hi => mulBits_spec (by omega) (List.mem_range'_1.mp hi).1 (by have := (List.mem_range'_1.mp hi).2; omega)
        (mulOwn_ne (by omega) (by omega)) (mulOwn_two hn hm))).sub
      (by lmem [List.flatten_cons, List.flatten_nil, List.append_nil])

theorem yields_addMulPow2M1 {a b : List Label} (be : Bool) (hna : 1 ≤ a.length) (hnb : 1 ≤ b.length) :
    Yields (a ++ b) (addMulPow2M1 a b be) id (fun r => r.length =
      if a.length = 1 then b.length else if b.length = 1 then a.length else a.length + b.length) := by
  unfold addMulPow2M1
  refine (yields_mulPow2M1Core ((revIf_length a be).symm ▸ hna) ((revIf_length b be).symm ▸ hnb)).bind (by lmem [mem_revIf])
    fun r h1 => .ret (by lmem [mem_revIf]) (by simpa only [revIf_length] using h1)

/-- `c[i][j] = AND(x[i], x[j])`, `i < j`; which entries of the matrix are gates is read off `along_triangle` -/
theorem yields_triangle (x : List Label) :
    YieldsL x (progFold (List.range x.length) (List.replicate x.length (List.replicate x.length PH)) (fun c i =>
      progFold ((List.range x.length).drop (i + 1)) c (fun c j => do
        let g ← emitTT (x.getD i PH) (x.getD j PH) t0001
        pure (c.set i ((c.getD i []).set j g))))) (fun _ => []) := by
  refine Yields.sub (I := x ++ []) (Yields.progFold (fun _ => []) (fun _ => True) _ (fun i hi c _ => ?_) _ trivial) (by lmem)
  refine Yields.progFold (fun _ => []) (fun _ => True) _ (fun j hj c _ => ?_) c trivial
  exact (Yields.emitTT (by decide) (List.mem_append_left _ (List.getD_mem_of_lt PH (List.mem_range.mp hi)))
    (List.mem_append_left _ (List.getD_mem_of_lt PH (List.mem_range.mp (List.mem_of_mem_drop hj))))).bind (fun _ => id)
    fun g _ => .ret (by lmem) trivial

theorem mem_sqOwn {c : List (List Label)} {n i : Nat} {Q : Label → Prop}
    (hE : ∀ a b, a ≤ b → b < n → Q (entry c a b)) (hi : i < 2 * n) {l : Label} (h : l ∈ sqOwn c n i) : Q l := by
  unfold sqOwn at h
  rcases List.mem_append.mp h with h | h
  · obtain ⟨j, hj, rfl⟩ := List.mem_map.mp h
    obtain ⟨hj1, hp⟩ := List.mem_filter.mp hj
    simp only [Bool.and_eq_true, decide_eq_true_eq] at hp
    have := List.mem_range.mp hj1
    exact hE j (i - j - 1) (by omega) hp.2
  · split at h
    · rw [List.mem_singleton.mp h]
      exact hE (i / 2) (i / 2) (Nat.le_refl _) (by omega)
    · cases h

theorem sqOwn_ne {c : List (List Label)} {n i : Nat} (hi : 2 ≤ i) (h : i + 2 ≤ 2 * n) : 1 ≤ (sqOwn c n i).length := by
  unfold sqOwn
  rw [List.length_append, List.length_map]
  by_cases he : i % 2 = 0
  · simp only [he, beq_self_eq_true, if_true, List.length_cons, List.length_nil]; omega
  · have := List.length_pos_iff.mpr (List.filter_range_ne (p := fun j => decide (j < n) && decide (i - j - 1 < n))
      (N := i / 2) (j := i / 2 - 1) (by omega) (by simp only [Bool.and_eq_true, decide_eq_true_eq]; omega))
    omega

theorem sqOwn_two {c : List (List Label)} {n i : Nat} (hn : 2 ≤ n) (h : i + 2 = 2 * n) : 2 ≤ (sqOwn c n i).length := by
  unfold sqOwn
  rw [List.length_append, List.length_map]
  have he : i % 2 = 0 := by omega
  have := List.length_pos_iff.mpr (List.filter_range_ne (p := fun j => decide (j < n) && decide (i - j - 1 < n))
    (N := i / 2) (j := n - 2) (by omega) (by simp only [Bool.and_eq_true, decide_eq_true_eq]; omega))
  simp only [he, beq_self_eq_true, if_true, List.length_cons, List.length_nil]; omega

/-- bits that column `j` of the `N`-column square is known to receive -/
def sqBits (N j : Nat) : Nat := if j + 2 = N then 2 else 1

theorem sqBits_spec {N i len : Nat} (hN : 4 ≤ N) (h2 : 2 ≤ i) (hi : i < N) (e1 : i + 2 ≤ N → 1 ≤ len)
    (e2 : i + 2 = N → 2 ≤ len) :
    1 ≤ sqBits N i ∧ (sqBits N i ≤ len ∨ (sqBits N i ≤ len + 1 ∧ 2 < i ∧ 2 ≤ sqBits N (i - 1))) := by
  unfold sqBits
  split <;> split <;> omega

/-- `add_square_pow2_m1` once the matrix `c` stands -/
theorem yields_squareColumns {c : List (List Label)} {n : Nat} {x0 : Label} {I : List Label} (hn : 2 ≤ n) (hx0 : x0 ∈ I)
    (hown : ∀ i ∈ List.range' 2 (2 * n - 2), ∀ l ∈ sqOwn c n i, l ∈ I) :
    Yields I (emitTT x0 x0 t0000 >>= fun zero =>
      pow2Columns (sqOwn c n) (.enum .xaig) ((List.range (2 * n)).drop 2) [[[x0]], [[zero]]] >>= firstBits) id
      (fun r => r.length = 2 * n) := by
  refine Yields.emitTT_bind (by decide) hx0 hx0 fun zero => ?_
  exact (yields_pow2Result (own := sqOwn c n) (I := I ++ [zero]) (sa_resolve_enum .xaig) (sqBits (2 * n)) (d := 2) (by omega) rfl
    (fun o ho => by
      rcases (by simpa using ho : o = [[x0]] ∨ o = [[zero]]) with rfl | rfl
      · exact pow2Cols_single x0
      · exact pow2Cols_single zero)
    (fun i hi l hl => List.mem_append_left _ (hown i hi l hl))
    (fun i hi => sqBits_spec (by omega) (List.mem_range'_1.mp hi).1 (by have := (List.mem_range'_1.mp hi).2; omega)
      (sqOwn_ne (List.mem_range'_1.mp hi).1) (sqOwn_two hn))).sub
    (by lmem [List.flatten_cons, List.flatten_nil, List.append_nil, List.flatten_append])

/-- the top column `2n - 1` has no operand bit: it is fed by the carry of column `2n - 2`, which has two -/
theorem yields_squarePow2M1Core {x : List Label} (hne : 1 ≤ x.length) :
    Yields x (squarePow2M1Core x) id (fun r => r.length = if x.length = 1 then 1 else 2 * x.length) := by
  unfold squarePow2M1Core
  split
  · cases hne
  · exact .ret (fun _ => id) rfl
  · rename_i x0 xr hns
    have hn2 : 2 ≤ (x0 :: xr).length := by
      cases xr with
      | nil => exact (hns rfl).elim
      | cons _ _ => simp
    have hx0 : x0 ∈ x0 :: xr := by simp
    generalize x0 :: xr = x at *
    dsimp only
    -- the operand bits of the columns are gates: the entries on and above the diagonal are, by the `SemF` witness
    refine ((yields_triangle x).semF (S' := fun _ => True) (lab' := fun c => ((List.range' 2 (2 * x.length - 2)).map
      (sqOwn (c.zipIdx.map (fun (ri : List Label × Nat) => ri.1.set ri.2 (x.getD ri.2 PH))) x.length)).flatten)
      fun c v H hI _ w => ⟨fun l hl => ?_, trivial⟩).bind (fun _ => id) fun c _ => ?_
    · have hM := along_triangle (R := fun _ _ l => H l) (fun _ _ _ hg => (semF_emitTT hg).2) w
      obtain ⟨o, ho, hl⟩ := List.mem_flatten.mp hl
      obtain ⟨i, hi, rfl⟩ := List.mem_map.mp ho
      refine mem_sqOwn (fun a b hab hb => ?_) (by have := (List.mem_range'_1.mp hi).2; omega) hl
      rw [entry_diag x c hM.len hM.rows a b (by omega) hb]
      split
      · exact hI _ (List.getD_mem_of_lt PH (by omega))
      · exact hM.ok a b ⟨by omega, hb⟩
    · refine (yields_squareColumns hn2 (List.mem_append_left _ hx0) fun i hi l hl => List.mem_append_right _
        (List.mem_flatten.mpr ⟨_, List.mem_map_of_mem hi, hl⟩)).shape fun r h3 => by rw [h3, if_neg (by omega)]

theorem yields_addSquarePow2M1 {x : List Label} (be : Bool) (hne : 1 ≤ x.length) :
    Yields x (addSquarePow2M1 x be) id (fun r => r.length = if x.length = 1 then 1 else 2 * x.length) := by
  unfold addSquarePow2M1
  refine (yields_squarePow2M1Core ((revIf_length x be).symm ▸ hne)).bind (by lmem [mem_revIf])
    fun r h1 => .ret (by lmem [mem_revIf]) (by simpa only [revIf_length] using h1)

end Cirbo
