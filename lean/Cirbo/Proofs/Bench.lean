import Cirbo.Model.Bench
/-! # Bench printer/parser (C11): identifiers, keywords, and what `strip`, `split` and `find` do on
`xs ++ sep :: ys` -/
namespace Cirbo
open GateType

/-- a character the parser gives no meaning to -/
def identChar (ch : Char) : Bool :=
  ch != ' ' && ch != '(' && ch != ')' && ch != ',' && ch != '=' && ch != '#' && ch != '\n'

def IsIdent (s : Str) : Prop := s ≠ [] ∧ ∀ ch ∈ s, identChar ch = true

theorem IsIdent.ne {s : Str} (h : IsIdent s) {c ch : Char} (hc : identChar c = false) (hm : ch ∈ s) : ch ≠ c := by
  intro e; have := h.2 ch hm; rw [e, hc] at this; cases this

theorem IsIdent.not_mem {s : Str} (h : IsIdent s) {c : Char} (hc : identChar c = false) : c ∉ s :=
  fun hm => h.ne hc hm rfl

theorem keyword_roundtrip (ty : GateType) (h : ty ≠ INPUT) :
    gateTypeOfKeyword (upperS (printedKeyword ty)) = some ty ∧
    upperS ((printedKeyword ty).take 3) ≠ strOf "VDD" ∧
    (∀ ch ∈ printedKeyword ty, ch ≠ '(' ∧ ch ≠ ')' ∧ ch ≠ ' ' ∧ ch ≠ '=') := by
  cases ty <;> first | exact absurd rfl h | decide

theorem upperS_append (a b : Str) : upperS (a ++ b) = upperS a ++ upperS b := List.map_append

theorem upperS_cons (a : Char) (r : Str) : upperS (a :: r) = a.toUpper :: upperS r := rfl

theorem toUpper_ne_paren (ch : Char) (h : ch ≠ '(') : ch.toUpper ≠ '(' := by
  unfold Char.toUpper
  split
  · -- a lower-case letter goes to `ch + ('A' - 'a')`, which is at least 65
    rename_i hr
    intro e
    have hv := congrArg (fun c => c.val.toNat) e
    simp only [UInt32.toNat_add] at hv
    have h1 : 97 ≤ ch.val.toNat := by simpa using UInt32.le_iff_toNat_le.mp hr.1
    have h2 : ch.val.toNat ≤ 122 := by simpa using UInt32.le_iff_toNat_le.mp hr.2
    have hx : ('A'.val - 'a'.val).toNat = 4294967264 := by decide
    have hp : ('('.val).toNat = 40 := by decide
    rw [hx, hp] at hv
    omega
  · exact h

theorem not_mem_of_upperS {c : Char} (hc : c.toUpper = c) {kw K : Str} (hk : upperS kw = K) (hK : c ∉ K) : c ∉ kw :=
  fun hm => hK (by rw [← hk, ← hc]; exact List.mem_map_of_mem hm)

theorem not_prefix_of_sep {p a t : Str} {c x : Char} (hx : x ∈ p) (hxa : x ∉ a) (hxc : x ≠ c) (hc : c ∉ p) :
    p.isPrefixOf (a ++ c :: t) = false := by
  rw [Bool.eq_false_iff]
  intro h
  rcases List.prefix_or_prefix_of_prefix (List.isPrefixOf_iff_prefix.mp h) (l₂ := a ++ [c]) ⟨t, by simp⟩ with h1 | h1
  · rcases List.mem_append.mp (h1.subset hx) with h2 | h2
    · exact hxa h2
    · exact hxc (List.mem_singleton.mp h2)
  · exact hc (h1.subset (by simp))

theorem findIdx_append_cons {c : Char} {a r : Str} (h : c ∉ a) : findIdx c (a ++ c :: r) = some a.length := by
  unfold findIdx
  rw [List.idxOf_append]
  simp [h]

theorem paren_split {K A T : Str} (hK1 : '(' ∉ K) (hK2 : ')' ∉ K) (hA : ')' ∉ A) :
    findIdx '(' (K ++ '(' :: (A ++ ')' :: T)) = some K.length ∧
    findIdx ')' (K ++ '(' :: (A ++ ')' :: T)) = some (K.length + 1 + A.length) ∧
    (K ++ '(' :: (A ++ ')' :: T)).take K.length = K ∧
    ((K ++ '(' :: (A ++ ')' :: T)).take (K.length + 1 + A.length)).drop (K.length + 1) = A := by
  have e : K ++ '(' :: (A ++ ')' :: T) = (K ++ '(' :: A) ++ ')' :: T := by simp
  have hl : (K ++ '(' :: A).length = K.length + 1 + A.length := by simp; omega
  refine ⟨findIdx_append_cons hK1, ?_, List.take_left' rfl, ?_⟩
  · rw [e, ← hl]
    apply findIdx_append_cons
    simp only [List.mem_append, List.mem_cons, not_or]
    exact ⟨hK2, by decide, hA⟩
  · rw [e, List.take_left' hl]
    have : K ++ '(' :: A = (K ++ ['(']) ++ A := by simp
    rw [this]
    exact List.drop_left' (by simp)

theorem splitOn_ne_nil (sep : Char) (a : Str) : splitOn sep a ≠ [] := by
  cases a with
  | nil => simp [splitOn]
  | cons ch r =>
    unfold splitOn
    split
    · simp
    · split <;> simp

theorem splitOn_no_sep {sep : Char} {a : Str} (h : sep ∉ a) : splitOn sep a = [a] := by
  induction a with
  | nil => rfl
  | cons ch r ih =>
    simp only [List.mem_cons, not_or] at h
    simp [splitOn, Ne.symm h.1, ih h.2]

theorem splitOn_append_sep {sep : Char} {a b : Str} (h : sep ∉ a) :
    splitOn sep (a ++ sep :: b) = a :: splitOn sep b := by
  induction a with
  | nil => simp [splitOn]
  | cons ch r ih =>
    simp only [List.mem_cons, not_or] at h
    simp [splitOn, Ne.symm h.1, ih h.2]

theorem join_cons_cons (sep o o' : Str) (r : List Str) :
    joinWith sep (o :: o' :: r) = o ++ sep ++ joinWith sep (o' :: r) := rfl

theorem splitOn_join {sep : Char} : ∀ (xs : List Str), xs ≠ [] → (∀ x ∈ xs, sep ∉ x) →
    splitOn sep (joinWith [sep] xs) = xs := by
  intro xs
  induction xs with
  | nil => intro h; exact absurd rfl h
  | cons x r ih =>
    intro _ h
    cases r with
    | nil => exact splitOn_no_sep (h x (by simp))
    | cons y r' =>
      rw [join_cons_cons, List.append_assoc, List.singleton_append, splitOn_append_sep (h x (by simp)),
        ih (by simp) (fun z hz => h z (by simp [hz]))]

theorem joinWith_chars (sep : Str) : ∀ (xs : List Str) (ch : Char), ch ∈ joinWith sep xs →
    (∃ x ∈ xs, ch ∈ x) ∨ ch ∈ sep := by
  intro xs
  induction xs with
  | nil => intro ch h; cases h
  | cons x r ih =>
    intro ch h
    cases r with
    | nil => exact Or.inl ⟨x, by simp, h⟩
    | cons y r' =>
      rw [join_cons_cons] at h
      simp only [List.mem_append] at h
      rcases h with (h | h) | h
      · exact Or.inl ⟨x, by simp, h⟩
      · exact Or.inr h
      · rcases ih ch h with ⟨z, hz, hc⟩ | hc
        · exact Or.inl ⟨z, by simp [hz], hc⟩
        · exact Or.inr hc

theorem joinWith_sepCS (o : Str) (r : List Str) :
    joinWith sepCS (o :: r) = joinWith [','] (o :: r.map (' ' :: ·)) := by
  induction r generalizing o with
  | nil => rfl
  | cons o' r ih =>
    have hd : ∀ l : List Str, joinWith [','] ((' ' :: o') :: l) = ' ' :: joinWith [','] (o' :: l) := by
      intro l; cases l <;> rfl
    rw [List.map_cons, join_cons_cons, join_cons_cons, ih, hd]
    simp [sepCS]

/-- `s.rstrip(set)` -/
def stripR (set s : Str) : Str := (s.reverse.dropWhile (fun ch => set.contains ch)).reverse

theorem dropWhile_all {p : Char → Bool} : ∀ {l : Str}, (∀ ch ∈ l, p ch = true) → l.dropWhile p = []
  | [], _ => rfl
  | a :: r, h => by
    rw [List.dropWhile_cons, if_pos (h a (by simp))]
    exact dropWhile_all (fun ch hch => h ch (by simp [hch]))

theorem stripR_all {set s : Str} (h : ∀ ch ∈ s, set.contains ch = true) : stripR set s = [] := by
  unfold stripR
  rw [dropWhile_all (fun ch hch => h ch (List.mem_reverse.mp hch))]
  rfl

theorem stripR_append_cons {set : Str} {b : Char} (hb : set.contains b = false) (Y T : Str) :
    stripR set (Y ++ b :: T) = Y ++ b :: stripR set T := by
  unfold stripR
  rw [List.reverse_append, List.reverse_cons, List.append_assoc, List.dropWhile_append]
  split
  · rename_i he
    rw [List.isEmpty_iff.mp he, List.singleton_append, List.dropWhile_cons_of_neg (Bool.eq_false_iff.mp hb)]
    simp
  · simp

theorem stripSet_word_append {set pre X : Str} (hne : X ≠ []) (hX : ∀ ch ∈ X, set.contains ch = false)
    (hpre : ∀ ch ∈ pre, set.contains ch = true) (T : Str) :
    stripSet set (pre ++ X ++ T) = X ++ stripR set T := by
  rcases List.eq_nil_or_concat X with rfl | ⟨Y, b, rfl⟩
  · exact absurd rfl hne
  · have hl : (pre ++ Y.concat b ++ T).dropWhile (fun ch => set.contains ch) = Y ++ b :: T := by
      rw [List.append_assoc, List.dropWhile_append_of_pos hpre, List.concat_eq_append, List.append_assoc]
      cases Y with
      | nil => exact List.dropWhile_cons_of_neg (Bool.eq_false_iff.mp (hX b (by simp)))
      | cons a Y' => exact List.dropWhile_cons_of_neg (Bool.eq_false_iff.mp (hX a (by simp)))
    show stripR set _ = _
    rw [hl, stripR_append_cons (hX b (by simp)), List.concat_eq_append, List.append_assoc]
    rfl

theorem stripSet_word {set pre X post : Str} (hne : X ≠ []) (hX : ∀ ch ∈ X, set.contains ch = false)
    (hpre : ∀ ch ∈ pre, set.contains ch = true) (hpost : ∀ ch ∈ post, set.contains ch = true) :
    stripSet set (pre ++ X ++ post) = X := by
  rw [stripSet_word_append hne hX hpre, stripR_all hpost, List.append_nil]

theorem stripSet_all {set s : Str} (h : ∀ ch ∈ s, set.contains ch = true) : stripSet set s = [] := by
  unfold stripSet
  rw [dropWhile_all h]
  rfl

theorem stripSet_cons {set : Str} {a : Char} (ha : set.contains a = true) (x : Str) :
    stripSet set (a :: x) = stripSet set x := by
  unfold stripSet
  rw [List.dropWhile_cons, if_pos ha]

theorem stripSet_concat {set : Str} {b : Char} (hb : set.contains b = true) (x : Str) :
    stripSet set (x ++ [b]) = stripSet set x := by
  unfold stripSet
  rw [List.dropWhile_append]
  split
  · rename_i he
    rw [List.isEmpty_iff.mp he, List.dropWhile_cons_of_pos hb]
    rfl
  · rw [List.reverse_append, List.reverse_singleton, List.singleton_append, List.dropWhile_cons_of_pos hb]

theorem contains_space_false {ch : Char} (h : ch ≠ ' ') : ([' '] : Str).contains ch = false := by
  simp [h]
theorem contains_space_true : ([' '] : Str).contains ' ' = true := by decide

theorem IsIdent.no_space {s : Str} (h : IsIdent s) : ∀ ch ∈ s, ([' '] : Str).contains ch = false :=
  fun _ hm => contains_space_false (h.ne (by decide) hm)

end Cirbo
