import Cirbo.Proofs.ConnFull
/-!
# `build_miter`, whenever it returns

The call is three left connections, one gate and `set_outputs`; `miter_correct` follows them and reads the
comparison stage through the third renaming.
-/
namespace Cirbo
open GateType

theorem genLabels_zip (n : Nat) : ((genLabels "x" n).zip (genLabels "y" n)).zip (genLabels "xor" n) =
    (List.range n).map fun i => (("x" ++ "_" ++ toString i, "y" ++ "_" ++ toString i), "xor" ++ "_" ++ toString i) := by
  simp only [genLabels, List.zip_map']

theorem pairwiseXor_spec {n : Nat} {px : Circuit} (h : pairwiseXorCircuit n = .ok px) :
    WFS px ∧ px.inputs = genLabels "x" n ++ genLabels "y" n ∧ px.outputs = genLabels "xor" n ∧
    (∀ i < n, (⟨"xor" ++ "_" ++ toString i, XOR, ["x" ++ "_" ++ toString i, "y" ++ "_" ++ toString i]⟩ : Gate) ∈ px.gates) ∧
    px.blocks = [] := by
  simp only [pairwiseXorCircuit, R.bind_ok_iff] at h
  obtain ⟨c1, h1, c2, h2, hfold⟩ := h
  obtain ⟨_, i1, o1⟩ := addInputs_spec _ _ _ h1
  obtain ⟨_, i2, o2⟩ := addInputs_spec _ _ _ h2
  obtain ⟨w3, i3, o3, b3, x3⟩ := foldlR_ok (fun _ _ => rfl) (I := fun done c => WFS c ∧ c.inputs = c2.inputs ∧
    c.outputs = c2.outputs ++ done.map (·.2) ∧ c.blocks = c2.blocks ∧
    ∀ p ∈ done, (⟨p.2, XOR, [p.1.1, p.1.2]⟩ : Gate) ∈ c.gates) (by
      rintro done p c c' ⟨w, i, o, b, x⟩ hs
      cases ha : c.addGate ⟨p.2, XOR, [p.1.1, p.1.2]⟩ with
      | error e => simp [ha] at hs
      | ok ca =>
        simp only [ha] at hs
        obtain ⟨_, _, hg1, hi1, ho1, hb1, _⟩ := addGate_fields ha
        have w' := markAsOutput_wfs (addGate_wfs w (by intro e; cases e) ha) hs
        obtain ⟨_, rfl⟩ := markAsOutput_ok_iff.mp hs
        refine ⟨w', hi1.trans i, by simp [ho1, o], hb1.trans b, fun q hq => ?_⟩
        rcases List.mem_append.mp hq with hq | hq
        · simp [hg1, x q hq]
        · simp [hg1, List.mem_singleton.mp hq])
    ⟨addInputs_wfs _ (addInputs_wfs _ wfs_empty h1) h2, rfl, by simp, rfl, nofun⟩ hfold
  refine ⟨w3, by rw [i3, i2, i1]; rfl, ?_, fun i hi => ?_,
    by rw [b3, addInputs_blocks _ _ _ h2, addInputs_blocks _ _ _ h1]; rfl⟩
  · rw [o3, o2, o1, List.map_snd_zip (by simp [genLabels])]; rfl
  · exact x3 _ (genLabels_zip n ▸ List.mem_map.mpr ⟨i, List.mem_range.mpr hi, rfl⟩)

theorem buildMiter_ok_iff {left right m : Circuit} {ln rn : Label} :
    buildMiter left right ln rn = .ok m ↔
    left.inputs.length = right.inputs.length ∧ left.outputs.length = right.outputs.length ∧
    ∃ m0, Circuit.empty.connectCircuit left [] [] false ln true = .ok m0 ∧
    ∃ bl, m0.getBlock ln = .ok bl ∧
    ∃ m1, m0.connectCircuit right bl.inputs right.inputs false rn true = .ok m1 ∧
    ∃ px, pairwiseXorCircuit left.outputs.length = .ok px ∧
    ∃ bl1, m1.getBlock ln = .ok bl1 ∧ ∃ br1, m1.getBlock rn = .ok br1 ∧
    ∃ m2, m1.connectCircuit px (bl1.outputs ++ br1.outputs) px.inputs false "pairwise_xor" true = .ok m2 ∧
    ∃ bx, m2.getBlock "pairwise_xor" = .ok bx ∧
    ∃ m3, m2.addGate ⟨"big_or", if bx.outputs.length = 1 then IFF else OR, bx.outputs⟩ = .ok m3 ∧
    m3.setOutputs ["big_or"] = .ok m := by
  have hty : ∀ k : Nat, (if k != 1 then OR else IFF) = if k = 1 then IFF else OR := fun k => by
    by_cases hk : k = 1 <;> simp [hk]
  unfold buildMiter
  split
  · rename_i hs
    simp only [Bool.or_eq_true, bne_iff_ne, ne_eq] at hs
    exact ⟨nofun, fun h => (hs.elim (absurd h.1) (absurd h.2.1))⟩
  · rename_i hs
    simp only [Bool.or_eq_true, bne_iff_ne, ne_eq, not_or, Decidable.not_not] at hs
    simp only [R.bind_ok_iff, hty, hs, true_and]

theorem any_map_xor (v : Label → Bool) : ∀ (ps : List (Label × Label × Label)),
    (∀ p ∈ ps, v p.1 = xor (v p.2.1) (v p.2.2)) →
    ((ps.map (fun p => v p.1)).any id = true ↔ ∃ p ∈ ps, v p.2.1 ≠ v p.2.2) := by
  intro ps
  induction ps with
  | nil => intro _; simp
  | cons p r ih =>
    intro h
    have h1 := h p (by simp)
    have h2 := ih (fun q hq => h q (by simp [hq]))
    simp only [List.map_cons, List.any_cons, id, Bool.or_eq_true, h2, List.mem_cons, exists_eq_or_imp]
    rw [h1]
    cases v p.2.1 <;> cases v p.2.2 <;> simp

theorem miter_stage {c : Circuit} {b v : Label → Bool} (hv : IsValB c b v)
    (ps : List (Label × Label × Label)) (out : Label)
    (hx : ∀ p ∈ ps, (⟨p.1, XOR, [p.2.1, p.2.2]⟩ : Gate) ∈ c.gates)
    (hout : (⟨out, if ps.length = 1 then IFF else OR, ps.map (·.1)⟩ : Gate) ∈ c.gates)
    (hm : 1 ≤ ps.length) :
    v out = true ↔ ∃ p ∈ ps, v p.2.1 ≠ v p.2.2 := by
  have hxs : ∀ p ∈ ps, v p.1 = xor (v p.2.1) (v p.2.2) := by
    intro p hp
    have := hv _ (hx p hp)
    simp [bfun, xorAll] at this
    exact this.symm
  rw [← any_map_xor v ps hxs]
  have ho := hv _ hout
  by_cases h1 : ps.length = 1
  · simp only [h1, if_true] at ho
    obtain ⟨p, hp⟩ : ∃ p, ps = [p] := by
      rcases ps with _ | ⟨p, _ | ⟨q, r⟩⟩ <;> simp at h1
      exact ⟨p, rfl⟩
    subst hp
    simp [bfun] at ho
    simp [ho]
  · simp only [h1, if_false] at ho
    rcases ps with _ | ⟨p, _ | ⟨q, r⟩⟩
    · simp at hm
    · simp at h1
    · simp [bfun] at ho
      rw [← ho]; simp [List.any_cons]

theorem genLabels_length (s : String) (n : Nat) : (genLabels s n).length = n := by simp [genLabels]

theorem getBlock_name {c : Circuit} {n : Label} {b : Block} (h : c.getBlock n = .ok b) :
    b ∈ c.blocks ∧ b.name = n := by
  unfold Circuit.getBlock at h
  cases hf : c.blocks.find? (fun x => x.name == n) with
  | none => simp [hf] at h
  | some b0 =>
    simp only [hf, Except.ok.injEq] at h
    subst h
    exact ⟨List.mem_of_find?_eq_some hf, by simpa using List.find?_some hf⟩

theorem filter_inputs_id {c : Circuit} (hnd : c.labels.Nodup) {ls : List Label}
    (h : ∀ i ∈ ls, ∃ g ∈ c.gates, g.label = i ∧ g.ty = INPUT) :
    ls.filter (fun i => ((c.find? i).map (·.ty)) == some INPUT) = ls := by
  apply List.filter_eq_self.mpr
  intro i hi
  obtain ⟨g, hg, hgl, hty⟩ := h i hi
  rw [← hgl, find_label hnd hg]
  simp [hty]

theorem miter_correct {left right m : Circuit} {ln rn : Label} (hwl : WFG left) (hwr : WFG right)
    (hli : ∀ i ∈ left.inputs, ∃ g ∈ left.gates, g.label = i ∧ g.ty = INPUT)
    (hln : ln ≠ "") (hrn : rn ≠ "") (h : buildMiter left right ln rn = .ok m) :
    ∃ φ0 φ1 : Label → Label,
      m.inputs = left.inputs.map φ0 ∧ m.outputs = ["big_or"] ∧
      ∀ b v, IsValB m b v →
        IsValB left (v ∘ φ0) (v ∘ φ0) ∧ IsValB right (v ∘ φ1) (v ∘ φ1) ∧
        right.inputs.map (v ∘ φ1) = left.inputs.map (v ∘ φ0) ∧
        (1 ≤ left.outputs.length →
          (v "big_or" = true ↔ left.outputs.map (v ∘ φ0) ≠ right.outputs.map (v ∘ φ1))) := by
  obtain ⟨_, _, m0, e0, bl, e1, m1, e2, px, e3, bl1, e4, br1, e5, m2, e6, bx, e7, m3, e8, e9⟩ := buildMiter_ok_iff.mp h
  obtain ⟨hwx, hxi, hxo, hxg, _⟩ := pairwiseXor_spec e3
  have hc0 := connect_spec hwl e0
  generalize connRen _ _ = φ0 at hc0
  obtain ⟨fb0, hb0, _⟩ := hc0.block hln
  obtain rfl : bl = ⟨ln, left.inputs.map φ0, fb0, left.outputs.map φ0⟩ := Except.ok.inj (e1.symm.trans hb0)
  have hnd0 : m0.labels.Nodup := hc0.nodup List.nodup_nil
  have hi0 : m0.inputs = left.inputs.map φ0 := by
    rw [hc0.inputs, (List.filter_eq_self (l := left.inputs)).mpr (fun a _ => by simp)]; rfl
  have hc1 := connect_spec hwr e2
  generalize connRen _ _ = φ1 at hc1
  obtain ⟨fb1, hb1, _⟩ := hc1.block hrn
  obtain ⟨x1, g1⟩ := hc1.appends rfl
  have hnd1 : m1.labels.Nodup := hc1.nodup hnd0
  have hlr : ln ≠ rn := fun e => by
    -- `m0` has the block `ln`, and the second connection found no block `rn`
    have hblk := (connectCircuit_ok_iff.mp e2).1
    rw [List.any_eq_true.mpr ⟨_, (getBlock_name e1).1, by simp [e]⟩] at hblk
    cases hblk
  obtain rfl : bl1 = ⟨ln, left.inputs.map φ0, fb0, left.outputs.map φ0⟩ :=
    Except.ok.inj (e4.symm.trans (hc1.older ln _ hlr e1))
  obtain rfl : br1 = ⟨rn, right.inputs.map φ1, fb1, right.outputs.map φ1⟩ := Except.ok.inj (e5.symm.trans hb1)
  have hc2 := connect_spec hwx.toWFG e6
  generalize connRen _ _ = φ2 at hc2
  obtain ⟨fb2, hb2, _⟩ := hc2.block (by decide)
  obtain ⟨x2, g2⟩ := hc2.appends rfl
  obtain rfl : bx = ⟨"pairwise_xor", px.inputs.map φ2, fb2, px.outputs.map φ2⟩ := Except.ok.inj (e7.symm.trans hb2)
  obtain ⟨_, _, g3, i3, _⟩ := addGate_fields e8
  have g4 := setOutputs_gates e9
  obtain ⟨o4, i4⟩ := setOutputs_interface e9
  have sub0 : ∀ g ∈ m0.gates, g ∈ m1.gates := fun g hg => by rw [g1]; simp [hg]
  have sub1 : ∀ g ∈ m1.gates, g ∈ m2.gates := fun g hg => by rw [g2]; simp [hg]
  have sub2 : ∀ g ∈ m2.gates, g ∈ m.gates := fun g hg => by rw [g4, g3]; simp [hg]
  -- the left inputs stay inputs all the way
  have hin0 : ∀ i ∈ left.inputs.map φ0, ∃ g ∈ m0.gates, g.label = i ∧ g.ty = INPUT := by
    intro i hi
    obtain ⟨i', hi', rfl⟩ := List.mem_map.mp hi
    obtain ⟨g, hg, rfl, hty⟩ := hli i' hi'
    exact ⟨_, hc0.placed g hg nofun, rfl, hty⟩
  have hi1 : m1.inputs = left.inputs.map φ0 := by
    rw [hc1.inputs, filter_not_self, hi0, List.map_nil, List.append_nil]
    exact filter_inputs_id hnd1 fun i hi => (hin0 i hi).imp fun g hg => ⟨sub0 g hg.1, hg.2⟩
  have hi2 : m2.inputs = left.inputs.map φ0 := by
    rw [hc2.inputs, filter_not_self, hi1, List.map_nil, List.append_nil]
    exact filter_inputs_id (hc2.nodup hnd1) fun i hi => (hin0 i hi).imp fun g hg => ⟨sub1 g (sub0 g hg.1), hg.2⟩
  have him : m.inputs = left.inputs.map φ0 := by
    rw [i4, i3, if_neg (by dsimp only; split <;> decide)]; exact hi2
  refine ⟨φ0, φ1, him, o4, fun b v hv => ?_⟩
  have hv2 : IsValB m2 b v := fun g hg => hv g (sub2 g hg)
  have hv1 : IsValB m1 b v := fun g hg => hv2 g (sub1 g hg)
  refine ⟨hc0.sem hwl.nodup b v fun g hg => hv1 g (sub0 g hg), hc1.sem hwr.nodup b v hv1, ?_, fun hn1 => ?_⟩
  · simpa [List.map_map] using congrArg (List.map v) hc1.conn
  -- the comparison stage, read through φ2: its `i`-th gate compares the `i`-th outputs
  let n := left.outputs.length
  let ps : List (Label × Label × Label) := (List.range n).map fun i =>
    (φ2 ("xor" ++ "_" ++ toString i), φ2 ("x" ++ "_" ++ toString i), φ2 ("y" ++ "_" ++ toString i))
  have hxy : (genLabels "x" n).map (v ∘ φ2) ++ (genLabels "y" n).map (v ∘ φ2) =
      left.outputs.map (v ∘ φ0) ++ right.outputs.map (v ∘ φ1) := by
    simpa [hxi, List.map_map] using congrArg (List.map v) hc2.conn
  obtain ⟨hA, hB⟩ := List.append_inj hxy (by simp [genLabels_length, n])
  have hxg' : ∀ p ∈ ps, (⟨p.1, XOR, [p.2.1, p.2.2]⟩ : Gate) ∈ m.gates := by
    intro p hp
    obtain ⟨i, hi, rfl⟩ := List.mem_map.mp hp
    have hg := hxg i (List.mem_range.mp hi)
    exact sub2 _ (hc2.placed _ hg fun hm => absurd hm (hwx.gate_not_input hg (by simp)))
  have hout : (⟨"big_or", if ps.length = 1 then IFF else OR, ps.map (·.1)⟩ : Gate) ∈ m.gates := by
    have : ps.map (·.1) = px.outputs.map φ2 := by simp only [ps, hxo, genLabels, List.map_map]; rfl
    rw [g4, g3, this]
    simp [ps, hxo, genLabels_length, n]
  rw [miter_stage hv ps "big_or" hxg' hout (by simpa [ps] using hn1), ← hA, ← hB]
  simp only [genLabels, ps, List.map_map, ne_eq, List.map_inj_left, Classical.not_forall, List.mem_map,
    Function.comp_apply, exists_prop]
  exact ⟨fun ⟨_, ⟨i, hi, rfl⟩, hne⟩ => ⟨i, hi, hne⟩, fun ⟨i, hi, hne⟩ => ⟨_, ⟨i, hi, rfl⟩, hne⟩⟩

end Cirbo
