import Cirbo.Proofs.GenCostX
/-!
# The shape of the XAIG weighted sum: which levels are output (C08: result width of `add_mul`)
-/
namespace Cirbo

/-- the number of levels the loop outputs, from the level profile: `c l` own bits at level `l` and `t` bits
carried into the current level (a carried pair counts as two); a level holding `n` bits sends `n / 2` up -/
def levelsCount (c : Nat → Nat) : Nat → Nat → Nat → Nat
  | 0, _, _ => 0
  | f + 1, L, t => if c L + t = 0 then 0 else 1 + levelsCount c f (L + 1) ((c L + t) / 2)

theorem levelsCount_succ (c : Nat → Nat) (f L t : Nat) :
    levelsCount c (f + 1) L t = if c L + t = 0 then 0 else 1 + levelsCount c f (L + 1) ((c L + t) / 2) := rfl

/-- the state of the weighted loop about to process level `L`, against the profile `c` with `t` bits carried in -/
structure Shape (c : Nat → Nat) (L t : Nat) (single : List (Nat × Label)) (pairs : List (Nat × Label × Label)) : Prop where
  sS : LSorted (fun (x : Nat × Label) => x.1) single
  geS : ∀ x ∈ single, L ≤ x.1
  atP : ∀ p ∈ pairs, p.1 = L
  cur : cntL (fun (x : Nat × Label) => x.1) single L + 2 * pairs.length = c L + t
  above : ∀ k, L < k → cntL (fun (x : Nat × Label) => x.1) single k = c k

theorem Shape.head {c : Nat → Nat} {L t : Nat} {single : List (Nat × Label)}
    {pairs : List (Nat × Label × Label)} (sh : Shape c L t single pairs) (hT : c L + t ≠ 0) :
    (∃ x r, single = x :: r ∧ x.1 = L) ∨ (∃ p r, pairs = p :: r ∧ p.1 = L) := by
  cases hpg : pairs with
  | cons p r => exact .inr ⟨p, r, rfl, sh.atP p (by rw [hpg]; exact List.mem_cons_self)⟩
  | nil =>
    left
    obtain ⟨y, hym, hyl⟩ := exists_mem_of_cntL_pos (fun (x : Nat × Label) => x.1) single L
      (by have := sh.cur; rw [hpg, List.length_nil] at this; omega)
    cases hsg : single with
    | nil => rw [hsg] at hym; cases hym
    | cons x r =>
      refine ⟨x, r, rfl, ?_⟩
      have hge := sh.geS x (by rw [hsg]; exact List.mem_cons_self)
      rw [hsg] at hym
      rcases List.mem_cons.mp hym with e | hym
      · rw [← e]; exact hyl
      · have := (List.pairwise_cons.mp (hsg ▸ sh.sS)).1 y hym
        simp only at this
        omega

theorem minLevel_of_shape {c : Nat → Nat} {L t : Nat} {single : List (Nat × Label)}
    {pairs : List (Nat × Label × Label)} (sh : Shape c L t single pairs) (hT : c L + t ≠ 0)
    {inf : Nat} (hinf : L < inf) : minLevel single pairs inf = L := by
  unfold minLevel
  rcases Shape.head sh hT with ⟨x, r, rfl, hx⟩ | ⟨p, r, rfl, hp⟩
  · cases pairs with
    | nil => simp only; omega
    | cons p r2 => have := sh.atP p List.mem_cons_self; simp only; omega
  · cases single with
    | nil => simp only; omega
    | cons x r2 => have := sh.geS x List.mem_cons_self; simp only; omega

namespace Shape
variable {c : Nat → Nat} {L t : Nat} {single : List (Nat × Label)} {pairs : List (Nat × Label × Label)}

/-- in a profile without holes, nothing at the current level means nothing at all -/
theorem empty (sh : Shape c L t single pairs) (hc : NoHoles c)
    (hT : c L + t = 0) : single = [] ∧ pairs = [] := by
  have hcur := sh.cur
  refine ⟨nil_of_cntL_zero (fun (x : Nat × Label) => x.1) _ fun k' => ?_,
    List.eq_nil_of_length_eq_zero (by omega)⟩
  rcases Nat.lt_trichotomy k' L with hk | rfl | hk
  · exact cntL_zero_of_all _ _ _ (fun x hx => by have := sh.geS x hx; omega)
  · omega
  · rw [sh.above k' hk]; exact hc L (by omega) k' (by omega)

theorem taken (sh : Shape c L t single pairs) :
    (takeLevel (fun (x : Nat × Label) => x.1) L single).1.length +
      2 * (takeLevel (fun (x : Nat × Label × Label) => x.1) L pairs).1.length = c L + t := by
  rw [(takeLevel_counts _ L single sh.sS sh.geS).1, takeLevel_all _ L pairs sh.atP]
  exact sh.cur

theorem next (sh : Shape c L t single pairs) {nextS : List Label} {nextP : List (Label × Label)}
    (hn : nextS.length + 2 * nextP.length = (c L + t) / 2) :
    Shape c (L + 1) ((c L + t) / 2)
      (insertS (L + 1) nextS (takeLevel (fun (x : Nat × Label) => x.1) L single).2)
      (insertP (L + 1) nextP (takeLevel (fun (x : Nat × Label × Label) => x.1) L pairs).2) := by
  obtain ⟨_, tS2⟩ := takeLevel_counts (fun (x : Nat × Label) => x.1) L single sh.sS sh.geS
  obtain ⟨rS_gt, rS_sorted, _⟩ := takeLevel_rest (fun (x : Nat × Label) => x.1) L single sh.sS sh.geS
  obtain ⟨fmem, _, fsorted⟩ := ins_insertS (L + 1) nextS (takeLevel (fun (x : Nat × Label) => x.1) L single).2
  rw [takeLevel_all _ L pairs sh.atP]
  have gl := length_insertP (L + 1) nextP []
  obtain ⟨gmem, _, _⟩ := ins_insertP (L + 1) nextP []
  refine ⟨fsorted rS_sorted, ?_, ?_, ?_, ?_⟩
  · intro y hy
    rcases fmem y hy with h5 | h5
    · exact rS_gt y h5
    · exact Nat.le_of_eq h5.symm
  · intro q hq
    rcases gmem q hq with h5 | h5
    · cases h5
    · exact h5
  · rw [cntL_foldl_insert (fun (x : Nat × Label) => x.1) ltSingle (fun l => (L + 1, l)), cntL_const, tS2 (L + 1),
      if_neg (Nat.succ_ne_self L), if_pos rfl, sh.above (L + 1) (Nat.lt_succ_self L), gl, List.length_nil]
    omega
  · intro k' hk'
    rw [cntL_foldl_insert (fun (x : Nat × Label) => x.1) ltSingle (fun l => (L + 1, l)), cntL_const, tS2 k',
      if_neg (by omega), if_neg (by omega), sh.above k' (by omega)]
    rfl

end Shape

/-- the XAIG weighted loop outputs exactly the levels the profile predicts -/
theorem shape_weightedLoop {c : Nat → Nat} (hc : NoHoles c) (inf : Nat) :
    ∀ (fuel : Nat) (single : List (Nat × Label)) (pairs : List (Nat × Label × Label)) (res r : List (Nat × Label))
      (k L t : Nat), Cost (weightedLoop .xaig inf fuel single pairs res) r k → Shape c L t single pairs →
      L + levelsCount c fuel L t ≤ inf → r.length = res.length + levelsCount c fuel L t := by
  intro fuel
  induction fuel with
  | zero => intro single pairs res r k L t h; unfold weightedLoop at h; exact absurd h cost_fail
  | succ f ih =>
    intro single pairs res r k L t h sh hb
    rw [levelsCount_succ] at hb ⊢
    unfold weightedLoop at h
    by_cases hT : c L + t = 0
    · obtain ⟨rfl, rfl⟩ := sh.empty hc hT
      simp only [List.isEmpty_nil, Bool.and_self, if_true] at h
      obtain ⟨rfl, _⟩ := cost_pure.mp h
      rw [if_pos hT]; rfl
    · rw [if_neg hT] at hb ⊢
      have hne : (single.isEmpty && pairs.isEmpty) = false := by
        rcases Shape.head sh hT with ⟨x, r, e, _⟩ | ⟨p, r, e, _⟩ <;>
          simp only [e, List.isEmpty_cons, Bool.false_and, Bool.and_false]
      simp only [hne, Bool.false_eq_true, if_false, minLevel_of_shape sh hT (show L < inf by omega),
        show ¬ (L ≥ inf) by omega, cost_bind] at h
      obtain ⟨⟨soloR, pairsR⟩, k1, _, h1, ⟨⟨x, nextS, nextP⟩, k2, k3, h2, h3, rfl⟩, rfl⟩ := h
      simp only at h2 h3
      have ht := sh.taken
      obtain ⟨a1, a3, a2⟩ := shape_pairUp _ _ _ _ _ _ h1
      simp only [List.length_reverse, List.length_map] at a1 a2 a3
      replace a2 := a2 (by omega)
      obtain ⟨_, b1, b2, _⟩ := shape_xaigLevel h2
      rw [ih _ _ _ _ _ _ _ h3 (sh.next (by omega)) (by omega), List.length_append, List.length_singleton]
      omega

end Cirbo
