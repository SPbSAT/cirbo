import Cirbo.Proofs.PassMuo
import Cirbo.Proofs.PassMdg
import Cirbo.Proofs.PassMeg
import Cirbo.Proofs.RrgIdem
/-!
A pipeline is a fold of atomic passes; each returns and `Preserves` on a well-formed circuit with accepted arities
(`WFS`, `ArOK`), so the fold does, and with
`rrg_idem` the well-formed circuits are a `PassClass`: pipelines equal sequencing.
-/
namespace Cirbo

/-- `t` is an atomic pass, not `.comp` -/
def Proved : Tr → Prop
  | .rrg _ => True
  | .muo => True
  | .mdg => True
  | .meg => True
  | .comp _ => False

theorem Proved.of_ok {t : Tr} {c c' : Circuit} (h : transform1 t c = .ok c') : Proved t := by
  cases t with
  | comp ts => cases h
  | _ => trivial

theorem Closed.proved {l : List Tr} (h : Closed l) : ∀ x ∈ l, Proved x := by
  induction h with
  | nil => exact fun _ h => nomatch h
  | rrg a r _ ih => exact fun x hx => (List.mem_cons.mp hx).elim (· ▸ trivial) (ih x)
  | muo r _ ih | mdg r _ ih | meg r _ ih =>
    exact fun x hx => (List.mem_cons.mp hx).elim (· ▸ trivial) fun hx => (List.mem_cons.mp hx).elim (· ▸ trivial) (ih x)

theorem transform1_run {t : Tr} (ht : Proved t) {c : Circuit} (hw : WFS c) (har : ArOK c) :
    ∃ c', transform1 t c = .ok c' ∧ Preserves c c' := by
  cases t with
  | rrg a => exact let ⟨c', h⟩ := rrg_total (allow := a) hw; ⟨c', h, (rrg_spec hw h).preserves⟩
  | muo => exact let ⟨c', h⟩ := muo_total hw har; ⟨c', h, (muo_spec hw h).preserves⟩
  | mdg => exact let ⟨c', r, _⟩ := mdg_run hw; ⟨c', r.ok, r.preserves⟩
  | meg => exact let ⟨c', r, _⟩ := meg_run hw har; ⟨c', r.ok, r.preserves⟩
  | comp ts => exact absurd ht id

theorem passClass_wf : PassClass fun c => WFS c ∧ ArOK c :=
  ⟨fun _ _ _ hc h => by
    obtain ⟨c1, h1, p⟩ := transform1_run (.of_ok h) hc.1 hc.2
    cases h.symm.trans h1
    exact ⟨p.wfs, p.ar hc.2⟩, fun _ _ _ hc h => rrg_idem hc.1 h⟩

theorem applyTransformers_eq_seq_wf {c : Circuit} (hw : WFS c) (har : ArOK c) (ts : List Tr) :
    applyTransformers c ts = runSeq (.ok c) (linearize.linearizeList ts) :=
  applyTransformers_eq_seq passClass_wf ⟨hw, har⟩ ts

theorem runSeq_run (ts : List Tr) (hts : ∀ t ∈ ts, Proved t) {c : Circuit} (hw : WFS c) (har : ArOK c) :
    ∃ c', runSeq (.ok c) ts = .ok c' ∧ Preserves c c' ∧ ArOK c' :=
  foldlR_total (P := fun _ c1 => Preserves c c1 ∧ ArOK c1) (L := ts) (fun p t q c1 hL h => by
    obtain ⟨c2, h2, pr⟩ := transform1_run (hts t (by simp [hL])) h.1.wfs h.2
    exact ⟨c2, h2, h.1.trans pr, pr.ar h.2⟩) ts [] c rfl ⟨.refl hw, har⟩

theorem pipeline_run (ts : List Tr) {c : Circuit} (hw : WFS c) (har : ArOK c) :
    ∃ c', applyTransformers c ts = .ok c' ∧ Preserves c c' := by
  rw [applyTransformers_eq_seq_wf hw har]
  exact let ⟨c', h, hp, _⟩ := runSeq_run _ (linearizeList_closed ts).proved hw har; ⟨c', h, hp⟩

theorem pipeline_preserves (ts : List Tr) {c c' : Circuit} (hw : WFS c) (har : ArOK c)
    (h : applyTransformers c ts = .ok c') : Preserves c c' := by
  obtain ⟨c1, h1, hp⟩ := pipeline_run ts hw har
  cases h.symm.trans h1
  exact hp

theorem pipeline_total (ts : List Tr) {c : Circuit} (hw : WFS c) (har : ArOK c) :
    ∃ c', applyTransformers c ts = .ok c' :=
  let ⟨c', h, _⟩ := pipeline_run ts hw har; ⟨c', h⟩

/-! The linearisation facts on well-formed circuits (`runSeq_relinearize` of Proofs/Passes.lean without its hypothesis). -/

theorem linearize_proved : ∀ t : Tr, ∀ x ∈ linearize t, Proved x := fun t => (linearize_closed t).proved

/-- what a pipeline hands to its next pass -/
def GoodR (c : R Circuit) : Prop := ∀ c0, c = .ok c0 → WFS c0 ∧ ArOK c0

theorem runSeq_relinearize_wf {l : List Tr} (hl : Closed l) :
    ∀ c : R Circuit, GoodR c → runSeq c (linearize.linearizeList l) = runSeq c l :=
  runSeq_relinearize_on passClass_wf hl

end Cirbo
