import Cirbo.Proofs.Mutate
import Cirbo.Proofs.Val
/-! # Local rewrites (C19): replace_inputs is the cofactor -/
namespace Cirbo
open GateType

theorem constStep_val {ty : GateType} {val : Bool} (hconst : ∀ xs, bfun ty xs = some val) (hty : ty ≠ INPUT)
    {c c' : Circuit} {l : Label} (h : constStep ty (.ok c) l = .ok c')
    {b b' v : Label → Bool} (hv : IsValB c b v) (hbl : b l = val) (hbb : ∀ x, x ≠ l → b' x = b x) :
    IsValB c' b' v := by
  obtain ⟨g, hf, hgI, _, rfl⟩ := constStep_fields h
  obtain ⟨hgm, hgl⟩ := find_some_mem hf
  intro y hy
  rcases mem_map_replG_cases hy with ⟨hx, hne⟩ | rfl
  · have := hv y hx
    by_cases ht : y.ty = INPUT
    · simp only [ht, if_true] at this ⊢; rw [this, hbb _ hne]
    · simpa [ht] using this
  · have := hv g hgm
    simp only [hgI, if_true] at this
    simp only [hty, if_false, hconst]
    rw [← hgl, this, hgl, hbl]

theorem foldl_constStep_val {ty : GateType} {val : Bool} (hconst : ∀ xs, bfun ty xs = some val) (hty : ty ≠ INPUT)
    {b v : Label → Bool} : ∀ (ls : List Label) {c c' : Circuit}, WFS c →
    ls.foldl (constStep ty) (.ok c) = .ok c' → IsValB c b v → (∀ l ∈ ls, b l = val) →
    IsValB c' b v ∧ c'.outputs = c.outputs ∧ (∀ x, x ∈ c'.inputs ↔ x ∈ c.inputs ∧ x ∉ ls) ∧
    c'.inputs.Sublist c.inputs := by
  intro ls
  induction ls with
  | nil => intro c c' hw h hv _; simp at h; subst h; exact ⟨hv, rfl, by simp, List.Sublist.refl _⟩
  | cons l r ih =>
    intro c c' hw h hv hb
    obtain ⟨c1, hs, h⟩ := foldlR_cons_ok (constStep_error ty) h
    have hv1 := constStep_val hconst hty hs hv (hb l (by simp)) (fun _ _ => rfl)
    obtain ⟨_, _, _, _, hc1⟩ := constStep_fields hs
    have hi1 : c1.inputs = c.inputs.erase l := by rw [hc1]
    have ho1 : c1.outputs = c.outputs := by rw [hc1]
    obtain ⟨a1, a2, a3, a4⟩ := ih (constStep_wfs hty hw hs) h hv1 (fun x hx => hb x (by simp [hx]))
    refine ⟨a1, a2.trans ho1, fun x => ?_, a4.trans (by rw [hi1]; exact List.erase_sublist)⟩
    rw [a3, hi1, List.Nodup.mem_erase_iff hw.inputsNodup, List.mem_cons, not_or, and_comm (a := x ≠ l), and_assoc]

theorem replaceInputs_cofactor {c c' : Circuit} {t f : List Label} (hw : WFS c)
    (h : c.replaceInputs t f = .ok c') {b v : Label → Bool} (hv : IsValB c b v)
    (ht : ∀ l ∈ t, b l = true) (hf : ∀ l ∈ f, b l = false) :
    WFS c' ∧ c'.outputs = c.outputs ∧ (∀ x, x ∈ c'.inputs ↔ x ∈ c.inputs ∧ x ∉ t ∧ x ∉ f) ∧
    c'.inputs.Sublist c.inputs ∧
    ∀ b', (∀ x ∈ c'.inputs, b' x = b x) → IsValB c' b' v := by
  have hw' := replaceInputs_wfs hw h
  rw [replaceInputs_eq] at h
  obtain ⟨c1, h1⟩ := foldlR_start (constStep_error _) h
  rw [h1] at h
  have hw1 := foldl_constStep_wfs (ty := ALWAYS_TRUE) (by decide) t hw h1
  obtain ⟨a1, a2, a3, a4⟩ := foldl_constStep_val (ty := ALWAYS_TRUE) (val := true) (fun _ => rfl) (by decide) t hw h1 hv ht
  obtain ⟨b1, b2, b3, b4⟩ := foldl_constStep_val (ty := ALWAYS_FALSE) (val := false) (fun _ => rfl) (by decide) f hw1 h a1 hf
  refine ⟨hw', b2.trans a2, fun x => ?_, b4.trans a4, fun b' hb' => isValB_congr (fun g hg hgt => ?_) b1⟩
  · rw [b3, a3, and_assoc]
  · exact (hb' g.label ((hw'.inputsOK g.label).mpr ⟨g, hg, rfl, hgt⟩)).symm

end Cirbo
