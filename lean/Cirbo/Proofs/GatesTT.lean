import Cirbo.Proofs.EvalCor
import Cirbo.Proofs.BoolVec
import Cirbo.Proofs.FoldR
/-!
# `get_gates_truth_table`: rows are the denotation over all input vectors; equal rows mean equal functions
-/
namespace Cirbo
open V3

/-- the assignment dictionary of `zipInputs` and of `get_gates_truth_table`: the `i`-th input label gets `vals[i]` -/
abbrev zipAsg (c : Circuit) (vals : List V3) : Asg := (c.inputs.zip vals).foldl (fun d p => d.set p.1 p.2) []

theorem rowsStep_spec : ∀ (full : Dict V3) (acc : Dict (List V3)), NodupKeys full → ∀ l,
    ((full.foldl (fun acc p => acc.set p.1 ((acc.get? p.1).getD [] ++ [p.2])) acc).get? l).getD [] =
      (acc.get? l).getD [] ++ (full.get? l).toList := by
  intro full
  induction full with
  | nil => intro acc _ l; simp [Dict.get?]
  | cons p r ih =>
    intro acc hn l
    obtain ⟨a, b⟩ := p
    have h' : a ∉ r.map (·.1) ∧ (r.map (·.1)).Nodup := List.nodup_cons.mp hn
    simp only [List.foldl_cons]
    rw [ih _ h'.2 l, Dict.get?_set]
    simp only [Dict.get?]
    by_cases hl : l = a
    · subst hl
      have : Dict.get? r l = none := get?_eq_none_of_not_mem_keys h'.1
      simp [this]
    · simp [hl]

theorem rows_spec : ∀ (fulls : List (Dict V3)) (acc : Dict (List V3)), (∀ f ∈ fulls, NodupKeys f) → ∀ l,
    ((fulls.foldl (fun acc full => full.foldl (fun acc p => acc.set p.1 ((acc.get? p.1).getD [] ++ [p.2])) acc) acc).get? l).getD [] =
      (acc.get? l).getD [] ++ fulls.flatMap (fun f => (f.get? l).toList) := by
  intro fulls
  induction fulls with
  | nil => intro acc _ l; simp
  | cons f r ih =>
    intro acc hn l
    simp only [List.foldl_cons]
    rw [ih _ (fun g hg => hn g (by simp [hg])) l, rowsStep_spec f acc (hn f (by simp)) l]
    simp [List.flatMap_cons]

theorem zip_map_self (f : Label → V3) (ls : List Label) : ls.zip (ls.map f) = ls.map (fun i => (i, f i)) := by
  induction ls with
  | nil => rfl
  | cons i r ih => simp [ih]

theorem full_is_denotation {c : Circuit} (h : WFU c) {b v : Label → Bool} (hv : IsValB c b v) {d : Asg}
    (hev : evalFull c (zipAsg c ((c.inputs.map b).map V3.ofBool)) = .ok d) :
    ∀ g ∈ c.gates, valOf d g.label = ofBool (v g.label) := by
  obtain ⟨d', hev', hval, _⟩ := evalFull_spec h (zipAsg c ((c.inputs.map b).map V3.ofBool))
  rw [hev] at hev'
  cases hev'
  have hv3 : IsVal3 c (fun x => ofBool (b x)) (valOf d) := by
    apply isVal3_congr _ hval
    intro g hgm hty
    have hin : g.label ∈ c.inputs := (h.inputsOK g.label).mpr ⟨g, hgm, rfl, hty⟩
    unfold asgFun zipAsg
    rw [List.map_map, zip_map_self, get?_foldSet_pairs]
    simp [hin]
  exact val3_unique h.toWF hv3 (isVal3_of_isValB hv)

theorem flatMap_get?_toList (x : Label) : ∀ (L : List (Dict V3)), (∀ f ∈ L, (f.get? x).isSome = true) →
    L.flatMap (fun f => (f.get? x).toList) = L.map (fun f => valOf f x)
  | [], _ => rfl
  | f :: r, hs => by
    rw [List.flatMap_cons, List.map_cons, flatMap_get?_toList x r (fun g hg => hs g (by simp [hg])),
      get?_eq_some_valOf (hs f (by simp))]
    rfl

theorem gatesTruthTable_rows {c : Circuit} (h : WFU c) {gtt : Dict (List V3)} (hg : gatesTruthTable c = .ok gtt) :
    ∃ fulls, All2 (fun bs f => evalFull c (zipAsg c (bs.map V3.ofBool)) = .ok f)
        (allInputs c.inputs.length) fulls ∧
      ∀ l ∈ c.labels, (gtt.get? l).getD [] = fulls.map (fun f => valOf f l) := by
  unfold gatesTruthTable at hg
  simp only [bind, Except.bind] at hg
  cases hm : (allInputs c.inputs.length).mapM (fun bs => evalFull c (zipAsg c (bs.map V3.ofBool))) with
  | error e => simp [hm] at hg
  | ok fulls =>
    simp only [hm, Except.ok.injEq] at hg
    subst hg
    have hall := mapM_all2 _ _ _ hm
    refine ⟨fulls, hall, fun l hl => ?_⟩
    -- every full assignment has an entry for every gate, each key once, so rows are value lists
    have hfull : ∀ f ∈ fulls, (f.get? l).isSome = true ∧ NodupKeys f := by
      intro f hf
      obtain ⟨bs, _, hbs⟩ := all2_mem_right hall f hf
      obtain ⟨d2, hev2, _, hs2, hk⟩ := evalFull_spec h (zipAsg c (bs.map V3.ofBool))
      rw [hbs] at hev2; cases hev2
      obtain ⟨gx, hgx, rfl⟩ := List.mem_map.mp hl
      exact ⟨hs2 gx hgx, hk (nodupKeys_foldSet _ _ (by simp [NodupKeys]))⟩
    rw [rows_spec fulls [] (fun f hf => (hfull f hf).2) l, flatMap_get?_toList l fulls fun f hf => (hfull f hf).1]
    simp only [Dict.get?, Option.getD_none, List.nil_append]

/-- the assignment that gives the inputs, in order, the bits `bs` -/
def asgOfBits (ins : List Label) (bs : List Bool) : Label → Bool :=
  fun l => (bs[ins.idxOf l]?).getD false

theorem map_asgOfBits : ∀ (ins : List Label) (bs : List Bool), ins.Nodup → bs.length = ins.length →
    ins.map (asgOfBits ins bs) = bs := by
  intro ins
  induction ins with
  | nil => intro bs _ h; cases bs with
    | nil => rfl
    | cons a t => simp at h
  | cons i r ih =>
    intro bs hnd hl
    cases bs with
    | nil => simp at hl
    | cons b t =>
      have hnd' := List.nodup_cons.mp hnd
      simp only [List.map_cons, List.cons.injEq]
      constructor
      · simp [asgOfBits, List.idxOf_cons_self]
      · have := ih t hnd'.2 (by simpa using hl)
        rw [← this]
        apply List.map_congr_left
        intro x hx
        have hxi : x ≠ i := by intro e; subst e; exact hnd'.1 hx
        have hxi' : (i == x) = false := by simpa using fun e : i = x => hxi e.symm
        simp only [asgOfBits, List.idxOf_cons, hxi', cond_false, List.getElem?_cons_succ]
        rw [this]

/-- the rows list one family `V` of valuations, one per input vector in counting order, and every valuation of the
circuit is its member at its input vector -/
theorem gtt_valuations {c : Circuit} (h : WFU c) {gtt : Dict (List V3)} (hg : gatesTruthTable c = .ok gtt) :
    ∃ V : List Bool → Label → Bool,
      (∀ l ∈ c.labels, (gtt.get? l).getD [] = (allInputs c.inputs.length).map (fun bs => ofBool (V bs l))) ∧
      (∀ bs, ∃ b, IsValB c b (V bs)) ∧
      ∀ b v, IsValB c b v → ∀ g ∈ c.gates, v g.label = V (c.inputs.map b) g.label := by
  have hex : ∀ bs : List Bool, ∃ v, IsValB c (asgOfBits c.inputs bs) v := fun bs => valB_exists h _
  have hbits : ∀ bs, bs.length = c.inputs.length → c.inputs.map (asgOfBits c.inputs bs) = bs :=
    fun bs => map_asgOfBits _ bs h.inputsNodup
  refine ⟨fun bs => (hex bs).choose, fun l hl => ?_, fun bs => ⟨_, (hex bs).choose_spec⟩, fun b v hv => ?_⟩
  · obtain ⟨fulls, hall, hrows⟩ := gatesTruthTable_rows h hg
    rw [hrows l hl]
    obtain ⟨gl, hgl, rfl⟩ := List.mem_map.mp hl
    symm
    apply all2_map_eq hall
    intro bs hbs d hd
    rw [← hbits bs ((mem_allInputs bs _).mp hbs)] at hd
    exact (full_is_denotation h (hex bs).choose_spec hd gl hgl).symm
  · exact valB_unique_of_inputs h.closed h.rank h.inputsOK hv (hex (c.inputs.map b)).choose_spec (hbits _ (by simp)).symm

theorem gtt_equal_rows_sound {c : Circuit} (h : WFU c) {gtt : Dict (List V3)} (hg : gatesTruthTable c = .ok gtt)
    {l l' : Label} (hl : l ∈ c.labels) (hl' : l' ∈ c.labels)
    (hrow : (gtt.get? l).getD [] = (gtt.get? l').getD []) {b v : Label → Bool} (hv : IsValB c b v) : v l = v l' := by
  obtain ⟨V, hrows, -, hV⟩ := gtt_valuations h hg
  rw [hrows l hl, hrows l' hl'] at hrow
  obtain ⟨g1, hg1, rfl⟩ := List.mem_map.mp hl
  obtain ⟨g2, hg2, rfl⟩ := List.mem_map.mp hl'
  rw [hV b v hv g1 hg1, hV b v hv g2 hg2]
  exact ofBool_inj (List.map_inj_left.mp hrow _ ((mem_allInputs _ _).mpr (by simp)))

theorem nodupKeys_row_fold : ∀ (ps : List (Label × V3)) (acc : Dict (List V3)), NodupKeys acc →
    NodupKeys (ps.foldl (fun acc p => acc.set p.1 ((acc.get? p.1).getD [] ++ [p.2])) acc)
  | [], _, h => h
  | _ :: t, _, h => nodupKeys_row_fold t _ (nodupKeys_set _ _ _ h)

theorem nodupKeys_gtt_fold : ∀ (fulls : List (Dict V3)) (acc : Dict (List V3)), NodupKeys acc →
    NodupKeys (fulls.foldl (fun acc full => full.foldl (fun acc p => acc.set p.1 ((acc.get? p.1).getD [] ++ [p.2])) acc) acc)
  | [], _, h => h
  | f :: r, _, h => nodupKeys_gtt_fold r _ (nodupKeys_row_fold f _ h)

theorem gtt_nodupKeys {c : Circuit} {gtt : Dict (List V3)} (hg : gatesTruthTable c = .ok gtt) : NodupKeys gtt := by
  unfold gatesTruthTable at hg
  simp only [bind, Except.bind] at hg
  split at hg
  · cases hg
  · simp only [Except.ok.injEq] at hg; subst hg
    exact nodupKeys_gtt_fold _ _ (by simp [NodupKeys])

theorem gatesTruthTable_ok {c : Circuit} (hu : WFU c) : ∃ gtt, gatesTruthTable c = .ok gtt := by
  unfold gatesTruthTable
  simp only [bind, Except.bind]
  obtain ⟨fulls, hf⟩ := mapM_total (fun bs => evalFull c (zipAsg c (bs.map V3.ofBool)))
    (allInputs c.inputs.length) (fun bs _ => by
      obtain ⟨d, hd, _⟩ := evalFull_spec hu (zipAsg c (bs.map V3.ofBool))
      exact ⟨d, hd⟩)
  rw [hf]
  exact ⟨_, rfl⟩

end Cirbo
