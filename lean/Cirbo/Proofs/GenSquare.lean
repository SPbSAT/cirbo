import Cirbo.Proofs.GenKara
/-!
# Squarers (`add_square_pow2_m1`, `add_square`)
-/
namespace Cirbo

/-- `c[a][b]`, the placeholder outside the matrix -/
def entry (c : List (List Label)) (a b : Nat) : Label := (c.getD a []).getD b PH

theorem entry_set (c : List (List Label)) (i j : Nat) (g : Label) (hi : i < c.length) (hj : j < (c.getD i []).length) (a b : Nat) :
    entry (c.set i ((c.getD i []).set j g)) a b = if a = i ∧ b = j then g else entry c a b := by
  unfold entry
  simp only [List.getD_eq_getElem?_getD, List.getElem?_set]
  by_cases ha : i = a
  · subst ha
    simp only [hi, if_true, Option.getD_some, true_and, List.getElem?_set]
    by_cases hb : j = b
    · subst hb
      simp only [List.getD_eq_getElem?_getD] at hj
      simp [hj]
    · rw [if_neg hb, if_neg (fun h => hb h.symm)]
  · rw [if_neg ha, if_neg (fun h => ha h.1.symm)]

/-- an `n × n` matrix whose entries at the positions `S` satisfy `R` (the other entries may be placeholders) -/
structure MatOK (R : Nat → Nat → Label → Prop) (n : Nat) (c : List (List Label)) (S : Nat → Nat → Prop) : Prop where
  len : c.length = n
  rows : ∀ r ∈ c, r.length = n
  ok : ∀ a b, S a b → R a b (entry c a b)

theorem MatOK.set {R : Nat → Nat → Label → Prop} {n : Nat} {c : List (List Label)} {S : Nat → Nat → Prop} {i j : Nat}
    {g : Label} (hm : MatOK R n c S) (hi : i < n) (hj : j < n) (hg : R i j g) :
    MatOK R n (c.set i ((c.getD i []).set j g)) (fun a b => S a b ∨ (a = i ∧ b = j)) := by
  have hil : i < c.length := by rw [hm.len]; exact hi
  have hrl := getD_mem_len hm.rows hil
  refine ⟨by simp [hm.len], ?_, ?_⟩
  · intro r hr
    rcases List.mem_or_eq_of_mem_set hr with h1 | h1
    · exact hm.rows r h1
    · rw [h1, List.length_set, hrl]
  · intro a b hab
    rw [entry_set c i j g hil (by rw [hrl]; exact hj)]
    by_cases he : a = i ∧ b = j
    · rw [if_pos he, he.1, he.2]
      exact hg
    · rw [if_neg he]
      exact hm.ok a b (hab.resolve_right he)

/-- the upper triangle `c[i][j] = AND(x[i], x[j])`, `i < j`, after the two nested loops -/
theorem along_triangle {F : Label → Prop} {G : Gate → Prop} {x : List Label} {c : List (List Label)}
    {R : Nat → Nat → Label → Prop}
    (hR : ∀ i j g, Along F G (emitTT (x.getD i PH) (x.getD j PH) t0001) g → R i j g)
    (h : Along F G (progFold (List.range x.length) (List.replicate x.length (List.replicate x.length PH)) (fun c i =>
      progFold ((List.range x.length).drop (i + 1)) c (fun c j => do
        let g ← emitTT (x.getD i PH) (x.getD j PH) t0001
        pure (c.set i ((c.getD i []).set j g))))) c) :
    MatOK R x.length c (fun a b => a < b ∧ b < x.length) := by
  rw [List.range_eq_range'] at h
  have := along_progFold_range' (fun i c => MatOK R x.length c (fun a b => a < b ∧ b < x.length ∧ a < i)) x.length 0 _ c
    ⟨by simp, by intro r hr; rw [List.eq_of_mem_replicate hr]; simp, by intro a b hab; omega⟩ ?_ h
  · refine ⟨this.len, this.rows, fun a b hab => this.ok a b ⟨hab.1, hab.2, by omega⟩⟩
  · intro i c1 c2 _ hi hP hs
    rw [← List.range_eq_range', List.range_eq_range', List.drop_range'] at hs
    simp only [Nat.zero_add, Nat.mul_one] at hs hi
    have := along_progFold_range'
      (fun j c => MatOK R x.length c (fun a b => a < b ∧ b < x.length ∧ (a < i ∨ (a = i ∧ b < j)))) (x.length - (i + 1)) (i + 1) c1 c2
      ⟨hP.len, hP.rows, fun a b hab => hP.ok a b ⟨hab.1, hab.2.1, by omega⟩⟩ ?_ hs
    · refine ⟨this.len, this.rows, fun a b hab => this.ok a b ⟨hab.1, hab.2.1, by omega⟩⟩
    · intro j c3 c4 hj1 hj2 hP2 hs2
      simp only [along_bind, along_pure] at hs2
      obtain ⟨g, hg, rfl⟩ := hs2
      have := hP2.set hi (by omega) (hR i j g hg)
      refine ⟨this.len, this.rows, fun a b hab => this.ok a b ?_⟩
      by_cases he : a = i ∧ b = j
      · exact Or.inr he
      · exact Or.inl ⟨hab.1, hab.2.1, by omega⟩

theorem entry_diag (x : List Label) (c : List (List Label)) (hl : c.length = x.length) (hr : ∀ r ∈ c, r.length = x.length)
    (a b : Nat) (ha : a < x.length) (hb : b < x.length) :
    entry (c.zipIdx.map (fun (ri : List Label × Nat) => ri.1.set ri.2 (x.getD ri.2 PH))) a b =
      if a = b then x.getD a PH else entry c a b := by
  unfold entry
  have hrow : (c.zipIdx.map (fun (ri : List Label × Nat) => ri.1.set ri.2 (x.getD ri.2 PH))).getD a [] =
      (c.getD a []).set a (x.getD a PH) := by
    simp only [List.getD_eq_getElem?_getD, List.getElem?_map, List.getElem?_zipIdx]
    rw [List.getElem?_eq_getElem (by omega)]
    simp
  rw [hrow]
  have hlen := getD_mem_len hr (show a < c.length by omega)
  simp only [List.getD_eq_getElem?_getD, List.getElem?_set] at hlen ⊢
  by_cases hab : a = b
  · subst hab; simp [hlen, ha]
  · rw [if_neg hab, if_neg hab]

/-- the columns of the squarer: `b i` are the bits of `x`; weight `w` holds the products `b j * b k`, `j < k`,
`j + k + 1 = w` (the two equal cross terms) and, for even `w`, the bit `b (w/2)`, its own square -/
theorem square_sum (b : Nat → Nat) (hb : ∀ i, b i * b i = b i) (n : Nat) :
    sumR (2 * n) (fun w => 2 ^ w * (sumR (w / 2) (fun j => if j < n ∧ w - j - 1 < n then b j * b (w - j - 1) else 0) +
      (if w % 2 = 0 then b (w / 2) else 0))) = sumR n (fun i => 2 ^ i * b i) * sumR n (fun i => 2 ^ i * b i) := by
  let s : Nat → Nat → Nat := fun i k => 2 ^ i * b i * (2 ^ k * b k)
  have hR : sumR n (fun i => 2 ^ i * b i) * sumR n (fun i => 2 ^ i * b i) =
      2 * sumR n (fun i => sumR n (fun k => if i < k then s i k else 0)) + sumR n (fun i => s i i) := by
    rw [← sumR_mul_right, ← sumR_square_symm n s (fun i k => Nat.mul_comm _ _)]
    exact sumR_congr (fun i _ => (sumR_mul _ _ _).symm)
  rw [hR, sumR_congr (fun w _ => Nat.mul_add _ _ _), sumR_add]
  -- the pairs `j < k` lie on the anti-diagonal `j + (k + 1) = w`, with weight `2·2^j·2^k = 2^w`
  have hL : ∀ w, w < 2 * n → 2 ^ w * sumR (w / 2) (fun j => if j < n ∧ w - j - 1 < n then b j * b (w - j - 1) else 0) =
      sumR (w + 1) (fun j => if j < n ∧ w - j < n + 1 then (if j + 1 < w - j then 2 * s j (w - j - 1) else 0) else 0) := by
    intro w _
    rw [sumR_restrict (w + 1) (w / 2) (by omega), ← sumR_mul]
    apply sumR_congr; intro j hj
    simp only [ite_and_zero]
    split
    · have : 2 ^ w = 2 * (2 ^ j * 2 ^ (w - j - 1)) := by
        rw [← Nat.pow_add, ← Nat.pow_succ']; congr 1; omega
      rw [if_pos (by omega), this, Nat.mul_assoc 2, Nat.mul_mul_mul_comm]
    · rw [if_neg (by omega), Nat.mul_zero]
  congr 1
  · rw [sumR_congr hL, sumR_antidiag n (n + 1) (2 * n) (by omega) (fun j k => if j + 1 < k then 2 * s j (k - 1) else 0),
      ← sumR_mul]
    apply sumR_congr; intro i _
    rw [sumR_succ', if_neg (by omega), Nat.zero_add, ← sumR_mul]
    apply sumR_congr; intro k _
    simp only [Nat.add_sub_cancel, Nat.add_lt_add_iff_right]
    by_cases h : i < k
    · rw [if_pos h, if_pos h]
    · rw [if_neg h, if_neg h]
  · rw [← sumR_even n (fun k => s k k)]
    apply sumR_congr; intro w _
    split
    · have : 2 ^ w = 2 ^ (w / 2) * 2 ^ (w / 2) := by rw [← Nat.pow_add]; congr 1; omega
      rw [this, ← hb (w / 2)]
      exact Nat.mul_mul_mul_comm _ _ _ _
    · rfl

/-- the bits of weight `i` in the triangle `c` of the squarer (`PH`: a mere `getD` default) -/
def sqOwn (c : List (List Label)) (n : Nat) (i : Nat) : List Label :=
  (((List.range (i / 2)).filter (fun j => j < n && i - j - 1 < n)).map (fun j => (c.getD j []).getD (i - j - 1) PH)) ++
    (if i % 2 == 0 then [(c.getD (i / 2) []).getD (i / 2) PH] else [])

theorem cnt_sqOwn (v : Label → Bool) (x : List Label) (c : List (List Label))
    (hE : ∀ a b, a < x.length → b < x.length → a ≤ b →
      bv v (entry c a b) = if a = b then bv v (x.getD a PH) else bv v (x.getD a PH) * bv v (x.getD b PH))
    (w : Nat) (hw : w < 2 * x.length) :
    cnt v (sqOwn c x.length w) =
      sumR (w / 2) (fun j => if j < x.length ∧ w - j - 1 < x.length then bv v (x.getD j PH) * bv v (x.getD (w - j - 1) PH) else 0) +
        (if w % 2 = 0 then bv v (x.getD (w / 2) PH) else 0) := by
  unfold sqOwn
  rw [cnt_append, cnt_filter_range]
  congr 1
  · apply sumR_congr; intro j hj
    simp only [Bool.and_eq_true, decide_eq_true_eq]
    by_cases h : j < x.length ∧ w - j - 1 < x.length
    · rw [if_pos h, if_pos h]
      have := hE j (w - j - 1) h.1 h.2 (by omega)
      rw [if_neg (by omega)] at this
      exact this
    · rw [if_neg h, if_neg h]
  · by_cases h : w % 2 = 0
    · have hb : (w % 2 == 0) = true := by simpa using h
      rw [hb, if_pos rfl, if_pos h, cnt_cons, cnt_nil, Nat.add_zero]
      have := hE (w / 2) (w / 2) (by omega) (by omega) (Nat.le_refl _)
      rw [if_pos rfl] at this
      exact this
    · have hb : (w % 2 == 0) = false := by simpa using h
      rw [hb, if_neg h]; rfl

theorem bv_sq (v : Label → Bool) (l : Label) : bv v l * bv v l = bv v l := by
  unfold bv; cases v l <;> rfl

theorem sem_squarePow2M1Core {v : Label → Bool} {x out : List Label} (h : Sem (squarePow2M1Core x) v out) :
    valLE v out = valLE v x * valLE v x ∧ out.length = (if x.length = 1 then 1 else 2 * x.length) := by
  unfold squarePow2M1Core at h
  split at h
  · exact absurd h sem_fail
  · rename_i x0
    rw [sem_pure] at h; subst h
    simp [valLE, bv_sq]
  · rename_i x0 xr hns
    have hn2 : 2 ≤ (x0 :: xr).length := by
      cases xr with
      | nil => exact absurd rfl hns
      | cons _ _ => simp
    generalize hx : x0 :: xr = x at *
    simp only [sem_bind] at h
    obtain ⟨c, hc, zero, hz, cols, hcols, hf⟩ := h
    have hM := along_triangle (R := fun a b l => bv v l = bv v (x.getD a PH) * bv v (x.getD b PH))
      (fun _ _ _ hg => bv_emitAnd (sem_iff_along.mpr hg)) (sem_iff_along.mp hc)
    have hzv : v zero = false := by rw [sem_emitTT hz]; cases v x0 <;> rfl
    generalize hc' : c.zipIdx.map (fun (ri : List Label × Nat) => ri.1.set ri.2 (x.getD ri.2 PH)) = c' at *
    have hE : ∀ a b, a < x.length → b < x.length → a ≤ b →
        bv v (entry c' a b) = if a = b then bv v (x.getD a PH) else bv v (x.getD a PH) * bv v (x.getD b PH) := by
      intro a b ha hb hab
      rw [← hc', entry_diag x c hM.len hM.rows a b ha hb]
      by_cases he : a = b
      · rw [if_pos he, if_pos he]
      · rw [if_neg he, if_neg he]; exact hM.ok a b ⟨by omega, hb⟩
    have hcols' : Sem (pow2Columns (sqOwn c' x.length) (.enum .xaig) ((List.range (2 * x.length)).drop 2) [[[x0]], [[zero]]]) v cols := hcols
    -- the whole sum of the operand columns is the square
    have htot : sumR (2 * x.length) (fun w => 2 ^ w * cnt v (sqOwn c' x.length w)) = valLE v x * valLE v x := by
      rw [sumR_congr (fun w hw => by rw [cnt_sqOwn v x c' hE w hw]), square_sum _ (fun i => bv_sq v _), ← valLE_sumR]
    have h0 := cnt_sqOwn v x c' hE 0 (by omega)
    have h1 := cnt_sqOwn v x c' hE 1 (by omega)
    have hx0 : x.getD 0 PH = x0 := by rw [← hx]; rfl
    simp only [sumR_zero, Nat.zero_mod, if_true, hx0, Nat.zero_add, show 1 / 2 = 0 from rfl,
      show 1 % 2 = 1 from rfl, if_neg (show ¬ 1 = 0 by omega)] at h0 h1
    have hres := sem_pow2Result (d := 2) rfl (by omega)
      (by simp [sumR_succ, sumR_zero, h0, h1, headsVal, headBit, bv, hzv]) rfl hcols' hf
      (by rw [htot, Nat.two_mul]; exact valLE_mul_lt v x x)
    rw [htot] at hres
    rwa [if_neg (show ¬ x.length = 1 by omega)]

theorem square_split (A B M : Nat) : A * A + 2 ^ (M + 1) * (A * B) + 2 ^ (2 * M) * (B * B) = (A + 2 ^ M * B) * (A + 2 ^ M * B) := by
  rw [split_mul, Nat.pow_succ', Nat.two_mul M, Nat.pow_add, Nat.mul_assoc 2, Nat.mul_add, Nat.mul_comm B A]
  omega

/-- one splitting step of `add_square` at `mid`, over any squarer `sq` for the two parts: with
`x = a + 2^mid·b` the sum `a² + 2^(mid+1)·ab + 2^(2·mid)·b²` is `x²`, on at least `2n` bits -/
theorem sem_squareStep {v : Label → Bool} {sq : List Label → Prog (List Label)}
    (hsq : ∀ p r, 2 ≤ p.length → Sem (sq p) v r → valLE v r = valLE v p * valLE v p ∧ r.length = 2 * p.length)
    {x aa bb ab res fin : List Label} {mid : Nat} (h2 : 2 ≤ mid) (hmid : 2 * mid ≤ x.length)
    (haa : Sem (sq (x.take mid)) v aa) (hbb : Sem (sq (x.drop mid)) v bb)
    (hab : Sem (addMulKaratsuba (x.take mid) (x.drop mid) false) v ab)
    (hres : Sem (addSumTwoNumbersWithShift (mid + 1) aa ab false) v res)
    (hfin : Sem (addSumTwoNumbersWithShift (2 * mid) res bb false) v fin) :
    valLE v fin = valLE v x * valLE v x ∧ 2 * x.length ≤ fin.length := by
  obtain ⟨vaa, -⟩ := hsq _ _ (by rw [List.length_take]; omega) haa
  obtain ⟨vbb, lbb⟩ := hsq _ _ (by rw [List.length_drop]; omega) hbb
  obtain ⟨vfin, lfin⟩ := sem_addSumTwoNumbersWithShift hfin
  refine ⟨?_, by rw [lfin, lbb, List.length_drop]; split <;> omega⟩
  obtain ⟨vab, -⟩ := sem_addMulKaratsuba hab (by rw [List.length_take]; omega)
  have vres := (sem_addSumTwoNumbersWithShift hres).1
  simp only [revIf, Bool.false_eq_true, if_false] at vab vres vfin
  rw [vfin, vres, vaa, vab, vbb, valLE_take_drop v x mid, square_split]

theorem sem_squareCore {v : Label → Bool} : ∀ (fuel : Nat) (x out : List Label), Sem (squareCore fuel x) v out →
    valLE v out = valLE v x * valLE v x ∧ out.length = (if x.length = 1 then 1 else 2 * x.length) := by
  intro fuel
  induction fuel with
  | zero => intro x out h; exact absurd h sem_fail
  | succ fuel ih =>
    intro x out h
    unfold squareCore at h
    simp only [] at h
    split at h
    · exact sem_squarePow2M1Core h
    · rename_i hbig
      simp only [Bool.or_eq_true, decide_eq_true_eq, beq_iff_eq, not_or] at hbig
      simp only [sem_bind, sem_pure] at h
      obtain ⟨aa, haa, bb, hbb, ab, hab, res, hres, fin, hfin, rfl⟩ := h
      obtain ⟨hv, hl⟩ := sem_squareStep (sq := squareCore fuel) (fun p r hp hs => by
        obtain ⟨e1, e2⟩ := ih p r hs
        exact ⟨e1, by rw [e2, if_neg (by omega)]⟩) (by omega) (by omega) haa hbb hab hres hfin
      have hprod := valLE_mul_lt v x x
      rw [← Nat.two_mul] at hprod
      rw [if_neg (by omega), List.length_take, valLE_take_of_lt v fin _ (by rw [hv]; exact hprod)]
      exact ⟨hv, by omega⟩

theorem sem_addSquare {v : Label → Bool} {x out : List Label} {be : Bool} (h : Sem (addSquare x be) v out) :
    valLE v (revIf out be) = valLE v (revIf x be) * valLE v (revIf x be) ∧
      out.length = (if x.length = 1 then 1 else 2 * x.length) := by
  have := sem_squareCore _ _ _ (sem_revIf_bind h)
  rwa [revIf_length, revIf_length] at this

theorem sem_addSquarePow2M1 {v : Label → Bool} {x out : List Label} {be : Bool} (h : Sem (addSquarePow2M1 x be) v out) :
    valLE v (revIf out be) = valLE v (revIf x be) * valLE v (revIf x be) ∧
      out.length = (if x.length = 1 then 1 else 2 * x.length) := by
  have := sem_squarePow2M1Core (sem_revIf_bind h)
  rwa [revIf_length, revIf_length] at this

end Cirbo
