import Cirbo.Proofs.Gen
import Cirbo.Proofs.GenQueue
/-!
# Which gate types a generator can emit (basis clause of C07)
-/
namespace Cirbo
open GateType

/-- every gate the program can add has a type in `S`, whatever labels are drawn -/
inductive Emits {α : Type} (S : GateType → Prop) : Prog α → Prop
  | pure (a : α) : Emits S (.pure a)
  | fresh (r k) : (∀ l, Emits S (k l)) → Emits S (.fresh r k)
  | add (g ok k) : S g.ty → Emits S k → Emits S (.add g ok k)
  | mark (l k) : Emits S k → Emits S (.mark l k)
  | fail (e) : Emits S (.fail e)

theorem emits_pure {α} {S} (a : α) : Emits S (Pure.pure a : Prog α) := .pure a

theorem emits_bind {α β} {S} {p : Prog α} {f : α → Prog β} (hp : Emits S p) (hf : ∀ a, Emits S (f a)) :
    Emits S (p >>= f) := by
  show Emits S (p.bind f)
  induction hp with
  | pure a => exact hf a
  | fresh r k _ ih => exact .fresh _ _ ih
  | add g ok k hs _ ih => exact .add _ _ _ hs ih
  | mark l k _ ih => exact .mark _ _ ih
  | fail e => exact .fail e

theorem Emits.of_path {α} {S : GateType → Prop} {F : Label → Prop} {p : Prog α} {a : α} {gs : List Gate}
    (hp : Emits S p) (h : Path F p a gs) : ∀ g ∈ gs, S g.ty := by
  induction h with
  | pure => nofun
  | fresh l _ _ ih => cases hp with | fresh _ _ hk => exact ih (hk l)
  | add _ ih => cases hp with | add _ _ _ hs hk => exact List.forall_mem_cons.mpr ⟨hs, ih hk⟩
  | mark _ ih => cases hp with | mark _ _ hk => exact ih hk

theorem run_emits {α} {S} {p : Prog α} (hp : Emits S p) {st : GSt} {a : α} {st' : GSt} (h : p.run st = .ok (a, st')) :
    ∃ new, st'.c.gates = st.c.gates ++ new ∧ ∀ g ∈ new, S g.ty := by
  obtain ⟨gs, h1, h2, _⟩ := run_path h
  exact ⟨gs, h2, hp.of_path h1⟩

/-- AIG basis: anything but XOR / NXOR -/
def NoXor (ty : GateType) : Prop := ty ≠ XOR ∧ ty ≠ NXOR

theorem emits_emitTT {S : GateType → Prop} (x y : Label) (t : TT)
    (h : ∀ ty, Gen.ttType t.1 t.2.1 t.2.2.1 t.2.2.2 = some ty → S ty) : Emits S (emitTT x y t) := by
  unfold emitTT
  split
  · exact .fresh _ _ (fun _ => .fail _)
  · rename_i ty hty
    exact .fresh _ _ (fun l => .add _ _ _ (h ty hty) (.pure l))

theorem emits_or (x y) : Emits NoXor (emitTT x y t0111) :=
  emits_emitTT x y _ (by intro ty h; simp only [t0111, Gen.ttType, Option.some.injEq] at h; subst h; exact ⟨by decide, by decide⟩)
theorem emits_and (x y) : Emits NoXor (emitTT x y t0001) :=
  emits_emitTT x y _ (by intro ty h; simp only [t0001, Gen.ttType, Option.some.injEq] at h; subst h; exact ⟨by decide, by decide⟩)
theorem emits_gt (x y) : Emits NoXor (emitTT x y t0010) :=
  emits_emitTT x y _ (by intro ty h; simp only [t0010, Gen.ttType, Option.some.injEq] at h; subst h; exact ⟨by decide, by decide⟩)

theorem emits_addSum2Aig (ins) : Emits NoXor (addSum2Aig ins) := by
  unfold addSum2Aig
  split
  · exact emits_bind (emits_or _ _) fun _ => emits_bind (emits_and _ _) fun _ => emits_bind (emits_gt _ _) fun _ => emits_pure _
  · exact .fail _

theorem emits_addSum3Aig (ins) : Emits NoXor (addSum3Aig ins) := by
  unfold addSum3Aig
  split
  · exact emits_bind (emits_or _ _) fun _ => emits_bind (emits_and _ _) fun _ => emits_bind (emits_gt _ _) fun _ =>
      emits_bind (emits_or _ _) fun _ => emits_bind (emits_and _ _) fun _ => emits_bind (emits_gt _ _) fun _ =>
      emits_bind (emits_or _ _) fun _ => emits_pure _
  · exact .fail _

theorem emits_pair2 {S} (r) : Emits S (pair2 r) := by
  unfold pair2; split
  · exact emits_pure _
  · exact .fail _

theorem emits_firstOfRev {S} (r) : Emits S (firstOfRev r) := by
  unfold firstOfRev; split
  · exact emits_pure _
  · exact .fail _

theorem emits_reduce3With {S} {σ : Type} {blk3} (hb : ∀ ins, Emits S (blk3 ins)) {push : Label → σ → σ} :
    ∀ fuel nowR s, Emits S (reduce3With blk3 push fuel nowR s) := by
  intro fuel
  induction fuel with
  | zero => intro nowR s; unfold reduce3With; exact emits_pure _
  | succ fuel ih =>
    intro nowR s
    rcases nowR with _ | ⟨a, _ | ⟨b, _ | ⟨c, rest⟩⟩⟩ <;> simp only [reduce3With]
    case cons.cons.cons => exact emits_bind (hb _) fun _ => emits_bind (emits_pair2 _) fun _ => ih _ _
    all_goals exact emits_pure _

theorem emits_reduce2 {S} {blk2} (hb : ∀ ins, Emits S (blk2 ins)) (nowR next) : Emits S (reduce2 blk2 nowR next) := by
  unfold reduce2
  split
  · exact emits_bind (hb _) fun _ => emits_bind (emits_pair2 _) fun _ => emits_pure _
  · exact emits_pure _

theorem emits_levelsSimple {S} {blk3 blk2} (h3 : ∀ ins, Emits S (blk3 ins)) (h2 : ∀ ins, Emits S (blk2 ins)) :
    ∀ fuel nowR res, Emits S (levelsSimple blk3 blk2 fuel nowR res) := by
  intro fuel
  induction fuel with
  | zero => intro nowR res; unfold levelsSimple; exact .fail _
  | succ fuel ih =>
    intro nowR res
    unfold levelsSimple
    split
    · exact emits_pure _
    · exact emits_bind (reduce3_eq _ _ _ _ ▸ emits_reduce3With h3 _ _ _) fun _ => emits_bind (emits_reduce2 h2 _ _) fun _ =>
        emits_bind (emits_firstOfRev _) fun _ => ih _ _

theorem emits_addSumNBits_aig {ins : List Label} {basis : BasisArg} {be : Bool} (hb : basis.resolve = .ok .aig) :
    Emits NoXor (addSumNBits ins basis be) := by
  unfold addSumNBits
  rw [hb]
  exact emits_bind (emits_levelsSimple emits_addSum3Aig emits_addSum2Aig _ _ _) fun _ => emits_pure _

theorem emits_wReduce2 {S} {blk2} (hb : ∀ ins, Emits S (blk2 ins)) (lvl nowR single) : Emits S (wReduce2 blk2 lvl nowR single) := by
  unfold wReduce2
  split
  · exact emits_bind (hb _) fun _ => emits_bind (emits_pair2 _) fun _ => emits_pure _
  · exact emits_pure _

theorem emits_wSimpleLevel_aig (lvl nowS single) : Emits NoXor (wSimpleLevel .aig lvl nowS single) := by
  simp only [wSimpleLevel, wSimpleLevelWith]
  exact emits_bind (wReduce3_eq _ _ _ _ _ ▸ emits_reduce3With emits_addSum3Aig _ _ _) fun _ => emits_bind (emits_wReduce2 emits_addSum2Aig _ _ _) fun _ =>
    emits_bind (emits_firstOfRev _) fun _ => emits_pure _

theorem emits_weightedNaiveLoop_aig (inf) : ∀ fuel single res, Emits NoXor (weightedNaiveLoop .aig inf fuel single res) := by
  intro fuel
  induction fuel with
  | zero => intro single res; unfold weightedNaiveLoop; exact .fail _
  | succ fuel ih =>
    intro single res
    unfold weightedNaiveLoop
    split
    · exact emits_pure _
    · simp only
      split
      · exact emits_pure _
      · exact emits_bind (emits_wSimpleLevel_aig _ _ _) fun _ => ih _ _

theorem emits_addSumWeighted_aig {ins : List (Nat × Label)} {basis : BasisArg} (hb : basis.resolve = .ok .aig) :
    Emits NoXor (addSumWeighted ins basis) ∧ Emits NoXor (addSumWeightedNaive ins basis) := by
  unfold addSumWeighted addSumWeightedNaive
  rw [hb]
  constructor
  · simp only; split
    · exact .fail _
    · rw [weightedLoop_aig_eq]; exact emits_weightedNaiveLoop_aig _ _ _ _
  · simp only; split
    · exact .fail _
    · exact emits_weightedNaiveLoop_aig _ _ _ _

theorem resolve_str_aig (s : String) (h : asciiUpper s = "AIG") : (BasisArg.str s).resolve = .ok .aig := by
  simp only [BasisArg.resolve, h]
  have : ("AIG" == "XAIG") = false := by decide
  simp [this]

example : asciiUpper "aig" = "AIG" ∧ asciiUpper "Aig" = "AIG" ∧ asciiUpper "AIG" = "AIG" := by decide

end Cirbo
