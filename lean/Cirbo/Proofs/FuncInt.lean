import Cirbo.Proofs.FuncIdx
/-!
# Integer-function wrappers: the stated bit order
-/
namespace Cirbo
namespace FRep

/-- `bin(k)[2:]` read as a big-endian number is `k` -/
theorem canonicalIndex_binDigits (k : Nat) : canonicalIndex (binDigits k) = k := by
  have digits : ∀ k, canonicalIndex ((Nat.toDigits 2 k).map (· == '1')) = k := by
    intro k
    induction k using Nat.base_induction 2 (by decide) with
    | single m hm =>
      rw [Nat.toDigits_of_lt_base hm]
      obtain rfl | rfl : m = 0 ∨ m = 1 := by omega
      all_goals decide
    | digit m d hd hm ih =>
      rw [← Nat.toDigits_append_toDigits (by decide) hm hd, List.map_append, canonicalIndex_append, ih,
        Nat.toDigits_of_lt_base hd]
      obtain rfl | rfl : d = 0 ∨ d = 1 := by omega
      all_goals simp [canonicalIndex, Nat.mul_comm]
  unfold binDigits
  split
  · subst k; rfl
  · exact digits k

/-- `canonical_index_to_input(index, size)` for `size ≥ 1`: `size` bits whose big-endian value is `index mod 2^size` -/
theorem indexToInput_spec (k size : Nat) (hs : 1 ≤ size) :
    (indexToInput k size).length = size ∧ canonicalIndex (indexToInput k size) = k % 2 ^ size := by
  unfold indexToInput
  simp only [show ¬ size = 0 by omega, if_false]
  generalize hs' : List.replicate (size - (binDigits k).length) false ++ binDigits k = s'
  have hv : canonicalIndex s' = k := by
    rw [← hs', canonicalIndex_append, canonicalIndex_replicate_false, canonicalIndex_binDigits]; simp
  have hl : size ≤ s'.length := by rw [← hs']; simp; omega
  exact ⟨by rw [List.length_drop]; omega, hv ▸ canonicalIndex_drop s' size hl⟩

end FRep
end Cirbo
