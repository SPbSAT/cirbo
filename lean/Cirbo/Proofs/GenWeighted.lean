import Cirbo.Proofs.GenSum
/-!
# Weighted sums (`add_sum_n_weighted_bits`, `…_naive`): value and distinct levels
-/
namespace Cirbo

def wsum (v : Label → Bool) (l : List (Nat × Label)) : Nat := (l.map (fun p => 2 ^ p.1 * bv v p.2)).sum
def pwsum (v : Label → Bool) (l : List (Nat × Label × Label)) : Nat := (l.map (fun p => 2 ^ p.1 * pbv v p.2)).sum

theorem wsum_nil (v) : wsum v [] = 0 := rfl
theorem wsum_cons (v p r) : wsum v (p :: r) = 2 ^ p.1 * bv v p.2 + wsum v r := by simp [wsum]
theorem wsum_append (v a b) : wsum v (a ++ b) = wsum v a + wsum v b := by simp [wsum]
theorem pwsum_nil (v) : pwsum v [] = 0 := rfl
theorem wsum_insertBy (v) (lt) (x : Nat × Label) (l) : wsum v (insertBy lt x l) = 2 ^ x.1 * bv v x.2 + wsum v l :=
  sum_map_insertBy _ lt x l

theorem wsum_congr {v v' : Label → Bool} {ls : List (Nat × Label)} (h : ∀ p ∈ ls, v' p.2 = v p.2) : wsum v' ls = wsum v ls := by
  unfold wsum; congr 1; apply List.map_congr_left; intro p hp; simp [bv, h p hp]

theorem wsum_split (v) (now : Nat) (l : List (Nat × Label)) :
    wsum v l = 2 ^ now * cnt v ((takeLevel (·.1) now l).1.map (·.2)) +
      wsum v (takeLevel (·.1) now l).2 := by
  rw [cnt, List.map_map]; exact sum_map_takeLevel _ (fun x => bv v x.2) now l

theorem pwsum_split (v) (now : Nat) (l : List (Nat × Label × Label)) :
    pwsum v l = 2 ^ now * pcnt v ((takeLevel (·.1) now l).1.map (·.2)) +
      pwsum v (takeLevel (·.1) now l).2 := by
  rw [pcnt, List.map_map]; exact sum_map_takeLevel _ (fun x => pbv v x.2) now l

theorem wsum_sortBy (v) (l : List (Nat × Label)) : wsum v (sortBy ltSingle l) = wsum v l :=
  ((foldInsert_facts ltSingle_le ltSingle_ge id l []).sum _).trans (Nat.zero_add _)

theorem sem_wReduce2 {blk2} (hb : Counts blk2) {v : Label → Bool} (lvl : Nat) {nowR : List Label}
    {single : List (Nat × Label)} {n' : List Label} {s' : List (Nat × Label)}
    (h : Sem (wReduce2 blk2 lvl nowR single) v (n', s')) :
    ∃ ys, s' = insertS (lvl + 1) ys single ∧ cnt v n' + 2 * cnt v ys = cnt v nowR := by
  rcases nowR with _ | ⟨a, _ | ⟨b, _ | ⟨c, rest⟩⟩⟩
  case cons.cons.nil =>
    simp only [wReduce2, sem_bind, sem_pure] at h
    obtain ⟨r, hr, ⟨x, y⟩, hp, heq⟩ := h
    cases sem_pair2 hp
    cases heq
    have hval := hb _ _ _ hr
    refine ⟨[y], rfl, ?_⟩
    simp only [valLE, cnt_cons, cnt_nil] at hval ⊢; omega
  all_goals
    simp only [wReduce2, sem_pure, Prod.mk.injEq] at h
    obtain ⟨rfl, rfl⟩ := h
    exact ⟨[], rfl, rfl⟩

theorem sem_wSimpleLevel {v : Label → Bool} {b : Basis} {lvl : Nat} {nowS : List Label}
    {single : List (Nat × Label)} {r : Label} {s' : List (Nat × Label)}
    (h : Sem (wSimpleLevel b lvl nowS single) v (r, s')) :
    ∃ ys, s' = insertS (lvl + 1) ys single ∧ bv v r + 2 * cnt v ys = cnt v nowS := by
  obtain ⟨blk3, blk2, h3, h2, h⟩ : ∃ blk3 blk2, Counts blk3 ∧ Counts blk2 ∧
      Sem (wSimpleLevelWith blk3 blk2 lvl nowS single) v (r, s') := by
    cases b
    · exact ⟨_, _, counts_sum3, counts_sum2, h⟩
    · exact ⟨_, _, counts_sum3Aig, counts_sum2Aig, h⟩
  simp only [wSimpleLevelWith, sem_bind, sem_pure, Prod.mk.injEq] at h
  obtain ⟨⟨n1, s1⟩, hr3, ⟨n2, s2⟩, hr2, r', hf, e1, e2⟩ := h
  subst e1 e2
  obtain ⟨_, c3⟩ := hr3.cost
  obtain ⟨_, c2⟩ := hr2.cost
  obtain ⟨_, cf⟩ := hf.cost
  have hn : n2 = [r] := single_of_getLast (sem_firstOfRev hf) (Nat.le_of_eq (shape_wLevel c3 c2 cf).1)
  subst hn
  rw [wReduce3_eq] at hr3
  obtain ⟨y3, rfl, a1⟩ := sem_reduce3With h3 _ _ _ _ _ hr3
  obtain ⟨y2, rfl, b1⟩ := sem_wReduce2 h2 lvl hr2
  refine ⟨y3 ++ y2, (List.foldl_append ..).symm, ?_⟩
  simp only [cnt_cons, cnt_nil, cnt_append, cnt_reverse] at a1 b1 ⊢; omega

/-- the state of the weighted-sum loop between two iterations: sorted queues; every queued level plus the number of
queued bits stays below the sentinel `inf` (`bS`, `bP`); the results lie below the queue, strictly increasing -/
structure WInv (inf : Nat) (single : List (Nat × Label)) (pairs : List (Nat × Label × Label))
    (res : List (Nat × Label)) : Prop where
  sS : LSorted (·.1) single
  sP : LSorted (·.1) pairs
  bS : ∀ x ∈ single, x.1 + (single.length + 2 * pairs.length) < inf
  bP : ∀ p ∈ pairs, p.1 + (single.length + 2 * pairs.length) < inf
  rS : ∀ y ∈ res, ∀ x ∈ single, y.1 < x.1
  rP : ∀ y ∈ res, ∀ p ∈ pairs, y.1 < p.1
  rr : (res.map (·.1)).Pairwise (· < ·)

theorem WInv.minLevel_lt {inf : Nat} {single : List (Nat × Label)} {pairs : List (Nat × Label × Label)}
    {res : List (Nat × Label)} (inv : WInv inf single pairs res) (hne : single ≠ [] ∨ pairs ≠ []) :
    minLevel single pairs inf < inf := by
  rcases single with _ | ⟨y, r⟩ <;> rcases pairs with _ | ⟨q, qr⟩
  · simp at hne
  all_goals
    have hy := inv.bS
    have hq := inv.bP
    simp only [List.mem_cons, forall_eq_or_imp, List.not_mem_nil, false_imp_iff, implies_true] at hy hq
    simp only [minLevel]; omega

theorem wsum_insertS (v : Label → Bool) (k : Nat) (ls : List Label) (rest : List (Nat × Label)) :
    wsum v (insertS k ls rest) = wsum v rest + 2 ^ k * cnt v ls :=
  ((foldInsert_facts ltSingle_le ltSingle_ge (fun l => (k, l)) ls rest).sum _).trans
    (congrArg _ (sum_map_mul (2 ^ k) (bv v) ls))

theorem pwsum_insertP (v : Label → Bool) (k : Nat) (ls : List (Label × Label)) (rest : List (Nat × Label × Label)) :
    pwsum v (insertP k ls rest) = pwsum v rest + 2 ^ k * pcnt v ls :=
  ((foldInsert_facts ltPair_le ltPair_ge (fun (l : Label × Label) => (k, l.1, l.2)) ls rest).sum _).trans
    (congrArg _ (sum_map_mul (2 ^ k) (pbv v) ls))

/-- one level of a weighted sum, whichever scheme computed it; that fewer bits are queued afterwards (`hlen`) is a
fact of shape -/
theorem wloop_step {v : Label → Bool} {inf lvl : Nat} {single nowS restS : List (Nat × Label)}
    {pairs nowP restP : List (Nat × Label × Label)} {res : List (Nat × Label)} (inv : WInv inf single pairs res)
    (hne : single ≠ [] ∨ pairs ≠ []) (hl : minLevel single pairs inf = lvl)
    (hS : takeLevel (·.1) lvl single = (nowS, restS)) (hP : takeLevel (·.1) lvl pairs = (nowP, restP))
    {r : Label} {nextS : List Label} {nextP : List (Label × Label)}
    (hval : bv v r + 2 * (cnt v nextS + pcnt v nextP) = cnt v (nowS.map (·.2)) + pcnt v (nowP.map (·.2)))
    (hlen : 1 + (insertS (lvl + 1) nextS restS).length + 2 * (insertP (lvl + 1) nextP restP).length ≤
      single.length + 2 * pairs.length) :
    WInv inf (insertS (lvl + 1) nextS restS) (insertP (lvl + 1) nextP restP) (res ++ [(lvl, r)]) ∧
      Inserted (·.1) (lvl + 1) restS (insertS (lvl + 1) nextS restS) ∧
      Inserted (·.1) (lvl + 1) restP (insertP (lvl + 1) nextP restP) ∧
      2 ^ lvl * bv v r + wsum v (insertS (lvl + 1) nextS restS) + pwsum v (insertP (lvl + 1) nextP restP) =
        wsum v single + pwsum v pairs := by
  subst hl
  obtain ⟨hminS, hminP, hhead⟩ := minLevel_facts inv.sS inv.sP (inv.minLevel_lt hne)
  obtain ⟨s1, s2, s3⟩ := takeLevel_rest (·.1) _ single inv.sS hminS
  obtain ⟨p1, p2, p3⟩ := takeLevel_rest (·.1) _ pairs inv.sP hminP
  have hsS := wsum_split v (minLevel single pairs inf) single
  have hsP := pwsum_split v (minLevel single pairs inf) pairs
  simp only [hS, hP] at s1 s2 s3 p1 p2 p3 hsS hsP
  -- the head that gives the least level carries the bound on the sentinel and lies above the results so far
  obtain ⟨hb, hres⟩ : minLevel single pairs inf + (single.length + 2 * pairs.length) < inf ∧
      ∀ y ∈ res, y.1 < minLevel single pairs inf := by
    rcases hhead with ⟨z, r, rfl, hz⟩ | ⟨z, r, rfl, hz⟩
    · exact ⟨hz ▸ inv.bS z List.mem_cons_self, fun y hy => hz ▸ inv.rS y hy z List.mem_cons_self⟩
    · exact ⟨hz ▸ inv.bP z List.mem_cons_self, fun y hy => hz ▸ inv.rP y hy z List.mem_cons_self⟩
  have iS := ins_insertS (minLevel single pairs inf + 1) nextS restS
  have iP := ins_insertP (minLevel single pairs inf + 1) nextP restP
  have lvS : ∀ x ∈ insertS (minLevel single pairs inf + 1) nextS restS, minLevel single pairs inf < x.1 :=
    fun x hx => (iS.new x hx).elim (s1 x) fun h => Nat.lt_of_lt_of_eq (Nat.lt_succ_self _) h.symm
  have lvP : ∀ x ∈ insertP (minLevel single pairs inf + 1) nextP restP, minLevel single pairs inf < x.1 :=
    fun x hx => (iP.new x hx).elim (p1 x) fun h => Nat.lt_of_lt_of_eq (Nat.lt_succ_self _) h.symm
  have hle : ∀ y ∈ res ++ [(minLevel single pairs inf, r)], y.1 ≤ minLevel single pairs inf := by
    intro y hy
    rcases List.mem_append.mp hy with h | h
    · exact Nat.le_of_lt (hres y h)
    · rw [List.mem_singleton.mp h]; exact Nat.le_refl _
  refine ⟨⟨iS.sorted s2, iP.sorted p2, ?_, ?_, fun y hy x hx => Nat.lt_of_le_of_lt (hle y hy) (lvS x hx),
    fun y hy x hx => Nat.lt_of_le_of_lt (hle y hy) (lvP x hx), ?_⟩, iS, iP, ?_⟩
  · intro x hx
    rcases iS.new x hx with h | h
    · have := inv.bS x (s3 x h); omega
    · omega
  · intro x hx
    rcases iP.new x hx with h | h
    · have := inv.bP x (p3 x h); omega
    · omega
  · rw [List.map_append, List.pairwise_append]
    refine ⟨inv.rr, by simp, ?_⟩
    intro a ha b hb
    obtain ⟨y, hy, rfl⟩ := List.mem_map.mp ha
    rw [List.mem_singleton.mp hb]
    exact hres y hy
  · rw [wsum_insertS, pwsum_insertP, hsS, hsP, pow_succ_mul, pow_succ_mul]
    have := congrArg (2 ^ minLevel single pairs inf * ·) hval
    simp only [Nat.mul_add, Nat.mul_left_comm _ 2] at this
    omega

theorem sem_weightedNaiveLoop {v : Label → Bool} {b : Basis} {inf : Nat} :
    ∀ (fuel : Nat) (single res out : List (Nat × Label)), Sem (weightedNaiveLoop b inf fuel single res) v out →
      WInv inf single [] res →
      wsum v out = wsum v res + wsum v single ∧ (out.map (·.1)).Pairwise (· < ·) := by
  intro fuel
  induction fuel with
  | zero => intro single res out h; unfold weightedNaiveLoop at h; exact absurd h sem_fail
  | succ fuel ih =>
    intro single res out h inv
    unfold weightedNaiveLoop at h
    split at h
    · rename_i he
      rw [sem_pure] at h; subst h
      have : single = [] := by simpa using he
      subst this
      exact ⟨by simp [wsum_nil], inv.rr⟩
    · rename_i he
      have hne : single ≠ [] := by intro e; subst e; simp at he
      have hlt := inv.minLevel_lt (Or.inl hne)
      simp only at h
      split at h
      · rename_i hge; omega
      · generalize hts : takeLevel (·.1) (minLevel single [] inf) single = t at h
        obtain ⟨nowS, rest⟩ := t
        simp only [sem_bind] at h
        obtain ⟨⟨r, s'⟩, hlev, hrec⟩ := h
        obtain ⟨_, hc⟩ := hlev.cost
        obtain ⟨ys, rfl, l1⟩ := sem_wSimpleLevel hlev
        obtain ⟨j, f, _, _, c1, c2⟩ := cost_wSimpleLevel hc
        have tl := takeLevel_length (fun (x : Nat × Label) => x.1) (minLevel single [] inf) single
        simp only [hts] at tl
        obtain ⟨inv', _, _, hval⟩ := wloop_step (v := v) (r := r) (nextS := ys) (nextP := []) inv (Or.inl hne) rfl hts rfl
          (by simpa [pcnt_nil] using l1) (by simp only [List.length_map, insertP, List.foldl_nil, List.length_nil] at c2 ⊢; omega)
        obtain ⟨i1, i2⟩ := ih _ _ _ hrec inv'
        refine ⟨?_, i2⟩
        rw [i1, wsum_append, wsum_cons, wsum_nil]
        simp only [insertP, List.foldl_nil, pwsum_nil] at hval ⊢
        omega

theorem maxLevel_ge (l : List (Nat × Label)) : ∀ x ∈ l, x.1 ≤ maxLevel l := fun x hx => by
  have := (List.le_foldl_max (l.map (·.1)) 0).2 x.1 (List.mem_map_of_mem hx)
  rwa [List.foldl_map] at this

/-- `inf = max level + number of bits + 1` is the sentinel of the Python (queued with a dummy label in both sorted lists,
where the loop stops); no carry can climb that high -/
theorem winv_init (ins : List (Nat × Label)) :
    WInv (maxLevel ins + ins.length + 1) (sortBy ltSingle ins) [] [] := by
  obtain ⟨a, b, c⟩ := sortBy_facts ins
  refine ⟨a, by simp [LSorted], ?_, by simp, by simp, by simp, by simp⟩
  intro x hx
  have := maxLevel_ge ins x ((c x).mp hx)
  simp only [b, List.length_nil]; omega

theorem sem_addSumWeightedNaive {v : Label → Bool} {ins out : List (Nat × Label)} {basis : BasisArg}
    (h : Sem (addSumWeightedNaive ins basis) v out) :
    wsum v out = wsum v ins ∧ (out.map (·.1)).Pairwise (· < ·) := by
  unfold addSumWeightedNaive at h
  split at h
  · exact absurd h sem_fail
  · split at h
    · exact absurd h sem_fail
    · obtain ⟨a, b⟩ := sem_weightedNaiveLoop _ _ _ _ h (winv_init ins)
      exact ⟨by rw [a, wsum_nil, wsum_sortBy]; simp, b⟩

theorem sem_weightedLoop_succ {v : Label → Bool} {b : Basis} {inf fuel : Nat} {single : List (Nat × Label)}
    {pairs : List (Nat × Label × Label)} {res out : List (Nat × Label)}
    (h : Sem (weightedLoop b inf (fuel + 1) single pairs res) v out) (inv : WInv inf single pairs res)
    (haig : b = .aig → pairs = []) :
    (single = [] ∧ pairs = [] ∧ out = res) ∨
    ∃ r s' p', (single ≠ [] ∨ pairs ≠ []) ∧
      Sem (weightedLoop b inf fuel s' p' (res ++ [(minLevel single pairs inf, r)])) v out ∧
      WInv inf s' p' (res ++ [(minLevel single pairs inf, r)]) ∧ (b = .aig → p' = []) ∧
      Inserted (·.1) (minLevel single pairs inf + 1)
        (takeLevel (·.1) (minLevel single pairs inf) single).2 s' ∧
      Inserted (·.1) (minLevel single pairs inf + 1)
        (takeLevel (·.1) (minLevel single pairs inf) pairs).2 p' ∧
      2 ^ minLevel single pairs inf * bv v r + wsum v s' + pwsum v p' = wsum v single + pwsum v pairs := by
  unfold weightedLoop at h
  split at h
  · rename_i he
    rw [sem_pure] at h
    simp only [Bool.and_eq_true, List.isEmpty_iff] at he
    exact Or.inl ⟨he.1, he.2, h⟩
  · rename_i he
    have hne := ne_nil_or_of_not_isEmpty he
    right
    have hlt := inv.minLevel_lt hne
    simp only at h
    split at h
    · rename_i hge; omega
    · generalize hts : takeLevel (·.1) (minLevel single pairs inf) single = tS at h ⊢
      generalize htp : takeLevel (·.1) (minLevel single pairs inf) pairs = tP at h ⊢
      obtain ⟨nowS, restS⟩ := tS
      obtain ⟨nowP, restP⟩ := tP
      simp only at h ⊢
      have tlS := takeLevel_length (fun (x : Nat × Label) => x.1) (minLevel single pairs inf) single
      have tlP := takeLevel_length (fun (x : Nat × Label × Label) => x.1) (minLevel single pairs inf) pairs
      simp only [hts] at tlS
      simp only [htp] at tlP
      -- either scheme yields a result bit and carries `nextS`, `nextP`; `wloop_step` does the rest
      obtain ⟨r, nextS, nextP, hrec, hp, hval, hlen⟩ : ∃ r nextS nextP,
          Sem (weightedLoop b inf fuel (insertS (minLevel single pairs inf + 1) nextS restS)
            (insertP (minLevel single pairs inf + 1) nextP restP) (res ++ [(minLevel single pairs inf, r)])) v out ∧
          (b = .aig → nextP = [] ∧ restP = []) ∧
          bv v r + 2 * (cnt v nextS + pcnt v nextP) = cnt v (nowS.map (·.2)) + pcnt v (nowP.map (·.2)) ∧
          1 + (insertS (minLevel single pairs inf + 1) nextS restS).length +
            2 * (insertP (minLevel single pairs inf + 1) nextP restP).length ≤ single.length + 2 * pairs.length := by
        cases b with
        | aig =>
          obtain rfl := haig rfl
          cases htp
          simp only [sem_bind] at h
          obtain ⟨⟨r, s'⟩, hlev, hrec⟩ := h
          obtain ⟨_, hc⟩ := hlev.cost
          obtain ⟨ys, rfl, l1⟩ := sem_wSimpleLevel hlev
          obtain ⟨j, f, _, _, c1, c2⟩ := cost_wSimpleLevel hc
          exact ⟨r, ys, [], hrec, fun _ => ⟨rfl, rfl⟩, by simpa [pcnt_nil] using l1,
            by simp only [List.length_map, insertP, List.foldl_nil, List.length_nil] at c2 ⊢; omega⟩
        | xaig =>
          simp only [sem_bind] at h
          obtain ⟨⟨soloR, pairsR⟩, hpu, ⟨r, nextS, nextP⟩, hlev, hrec⟩ := h
          have u1 := sem_pairUp _ _ _ _ _ hpu
          have x1 := sem_xaigLevel hlev
          obtain ⟨_, cu⟩ := hpu.cost
          obtain ⟨_, cx⟩ := hlev.cost
          obtain ⟨u2, u3, _⟩ := shape_pairUp _ _ _ _ _ _ cu
          obtain ⟨x2, x3, x4, _⟩ := shape_xaigLevel cx
          simp only [List.length_reverse, List.length_map, cnt_reverse, pcnt_reverse] at u1 u2 u3 x1 x2 x3 x4
          exact ⟨r, nextS, nextP, hrec, nofun, by omega, by rw [length_insertS, length_insertP]; omega⟩
      obtain ⟨inv', iS, iP, hv⟩ := wloop_step (v := v) inv hne rfl hts htp hval hlen
      exact ⟨r, _, _, hne, hrec, inv', fun e => by rw [(hp e).1, (hp e).2]; rfl, iS, iP, hv⟩

theorem sem_weightedLoop {v : Label → Bool} {b : Basis} {inf : Nat} :
    ∀ (fuel : Nat) (single : List (Nat × Label)) (pairs : List (Nat × Label × Label)) (res out : List (Nat × Label)),
      Sem (weightedLoop b inf fuel single pairs res) v out → WInv inf single pairs res → (b = .aig → pairs = []) →
      wsum v out = wsum v res + wsum v single + pwsum v pairs ∧ (out.map (·.1)).Pairwise (· < ·) := by
  intro fuel
  induction fuel with
  | zero => intro single pairs res out h; unfold weightedLoop at h; exact absurd h sem_fail
  | succ fuel ih =>
    intro single pairs res out h inv haig
    rcases sem_weightedLoop_succ h inv haig with ⟨rfl, rfl, rfl⟩ | ⟨r, s', p', _, hrec, inv', haig', _, _, hval⟩
    · exact ⟨by simp [wsum_nil, pwsum_nil], inv.rr⟩
    · obtain ⟨i1, i2⟩ := ih _ _ _ _ hrec inv' haig'
      refine ⟨?_, i2⟩
      rw [i1, wsum_append, wsum_cons, wsum_nil]
      simp only at hval ⊢
      omega

theorem sem_addSumWeighted {v : Label → Bool} {ins out : List (Nat × Label)} {basis : BasisArg}
    (h : Sem (addSumWeighted ins basis) v out) :
    wsum v out = wsum v ins ∧ (out.map (·.1)).Pairwise (· < ·) := by
  unfold addSumWeighted at h
  split at h
  · exact absurd h sem_fail
  · split at h
    · exact absurd h sem_fail
    · obtain ⟨a, b⟩ := sem_weightedLoop _ _ _ _ _ h (winv_init ins) (fun _ => rfl)
      exact ⟨by rw [a, wsum_nil, wsum_sortBy, pwsum_nil]; simp, b⟩

end Cirbo
