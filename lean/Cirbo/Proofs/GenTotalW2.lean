import Cirbo.Proofs.GenTotalWeighted
import Cirbo.Proofs.GenPow2
/-!
# Totality of the weighted sums and of `add_sum_pow2_m1`

`add_sum_pow2_m1` counts chunks of 31, 15, 7 and 3 labels and feeds the lowest bit of every count back: every count has
two bits or more, and the columns returned are as the multipliers built on them index them (`Pow2Cols`).
-/
namespace Cirbo

theorem turns_sortBy (ins : List (Nat × Label)) (inf : Nat) : Turns inf (inf + 1) 0 (·.1) (sortBy ltSingle ins) :=
  ⟨(sortBy_facts ins).1, fun _ _ => Nat.zero_le _, Nat.zero_le _, Nat.le_refl _⟩

theorem labels_sortBy (ins : List (Nat × Label)) : ∀ l ∈ (sortBy ltSingle ins).map (·.2), l ∈ ins.map (·.2) := by
  simp only [List.mem_map, (sortBy_facts ins).2.2]; exact fun _ => id

/-- the code raises `ValueError` on an empty list and on an unknown basis name -/
theorem yields_addSumWeightedNaive {ins : List (Nat × Label)} {basis : BasisArg} {b : Basis} (hb : basis.resolve = .ok b)
    (hne : ins ≠ []) : YieldsL (ins.map (·.2)) (addSumWeightedNaive ins basis) (fun r => r.map (·.2)) := by
  unfold addSumWeightedNaive
  rw [hb]
  have he : ins.isEmpty = false := by cases ins with | nil => exact absurd rfl hne | cons _ _ => rfl
  simp only [he, Bool.false_eq_true, if_false]
  exact (yields_weightedNaiveLoop b _ _ _ [] 0 (turns_sortBy ins _)).sub (by have := labels_sortBy ins; lmem [List.map_nil])

theorem yields_addSumWeighted {ins : List (Nat × Label)} {basis : BasisArg} {b : Basis} (hb : basis.resolve = .ok b)
    (hne : ins ≠ []) : YieldsL (ins.map (·.2)) (addSumWeighted ins basis) (fun r => r.map (·.2)) := by
  unfold addSumWeighted
  rw [hb]
  have he : ins.isEmpty = false := by cases ins with | nil => exact absurd rfl hne | cons _ _ => rfl
  simp only [he, Bool.false_eq_true, if_false]
  have := labels_sortBy ins
  cases b with
  | aig =>
    rw [weightedLoop_aig_eq]
    exact (yields_weightedNaiveLoop .aig _ _ _ [] 0 (turns_sortBy ins _)).sub (by lmem [List.map_nil])
  | xaig =>
    exact (yields_weightedLoop _ _ _ [] [] 0 (turns_sortBy ins _) ⟨List.Pairwise.nil, nofun, Nat.zero_le _, Nat.le_refl _⟩).sub
      (by lmem [List.map_nil, sa_pl_nil])

theorem pow2Chunk_exit {basis : BasisArg} {i fuel : Nat} {labels : List Label} {out : List (List Label)}
    (h : labels.length < i) : pow2Chunk basis i fuel labels out = pure (labels, out) := by
  cases fuel <;> simp only [pow2Chunk, ge_iff_le, Nat.not_le.mpr h, if_false]

/-- how many labels a chunk loop leaves is said by `sem_pow2Chunk` -/
theorem yields_pow2Chunk {basis : BasisArg} {b : Basis} (hb : basis.resolve = .ok b) (i : Nat) (hi : 3 ≤ i) :
    ∀ (fuel : Nat) (labels : List Label) (out : List (List Label)), labels.length ≤ fuel → (∀ row ∈ out, 2 ≤ row.length) →
    Yields (labels ++ out.flatten) (pow2Chunk basis i fuel labels out) (fun r => r.1 ++ r.2.flatten)
      (fun r => ∀ row ∈ r.2, 2 ≤ row.length)
  | 0, labels, out, hf, ho => by rw [pow2Chunk_exit (by omega)]; exact .ret (by lmem) ho
  | n + 1, labels, out, hf, ho => by
    by_cases hge : i ≤ labels.length
    · unfold pow2Chunk
      simp only [ge_iff_le, hge, if_true]
      refine (yields_addSumNBits (ins := labels.take i) false hb).bind
        (fun l h => List.mem_append_left _ (List.mem_of_mem_take h)) fun r hr => ?_
      have hlen : 2 ≤ r.length := by rw [hr, List.length_take, Nat.min_eq_left hge]; exact two_le_sa_bitlen (by omega)
      match r, hlen with
      | r0 :: rt, hlen =>
        have hd : ∀ l ∈ labels.drop i, l ∈ labels := fun _ => List.mem_of_mem_drop
        refine (yields_pow2Chunk hb i hi n (labels.drop i ++ [r0]) (out ++ [r0 :: rt])
          (by simp only [List.length_append, List.length_drop, List.length_singleton]; omega) ?_).sub
          (by lmem [List.flatten_append, List.flatten_cons, List.flatten_nil])
        intro row hrow
        rcases List.mem_append.mp hrow with h | h
        · exact ho row h
        · rw [List.mem_singleton.mp h]; exact hlen
    · rw [pow2Chunk_exit (Nat.lt_of_not_le hge)]; exact .ret (by lmem) ho

theorem yields_pow2Pass {basis : BasisArg} {b : Basis} (hb : basis.resolve = .ok b) (labels : List Label)
    (out : List (List Label)) (ho : ∀ row ∈ out, 2 ≤ row.length) :
    Yields (labels ++ out.flatten) (pow2Pass basis labels out) (fun r => r.1 ++ r.2.flatten)
      (fun r => ∀ row ∈ r.2, 2 ≤ row.length) := by
  unfold pow2Pass
  refine (yields_pow2Chunk hb 31 (by omega) _ labels out (Nat.le_refl _) ho).bind (by lmem) fun r1 h1 => ?_
  refine (yields_pow2Chunk hb 15 (by omega) _ r1.1 r1.2 (Nat.le_refl _) h1).bind (by lmem) fun r2 h2 => ?_
  refine (yields_pow2Chunk hb 7 (by omega) _ r2.1 r2.2 (Nat.le_refl _) h2).bind (by lmem) fun r3 h3 => ?_
  exact (yields_pow2Chunk hb 3 (by omega) _ r3.1 r3.2 (Nat.le_refl _) h3).sub (by lmem)

/-- the columns of `add_sum_pow2_m1` as the column loops need them: they read `out[j][0][0]` and `out[j][i - j]` -/
def Pow2Cols (o : List (List Label)) : Prop := ∃ z rest, o = [z] :: rest ∧ ∀ c ∈ rest, c ≠ []

theorem pow2Cols_single (x : Label) : Pow2Cols [[x]] := ⟨x, [], rfl, fun _ h => nomatch h⟩

theorem yields_pow2Last {b : Basis} {l1 : List Label} {o1 : List (List Label)} (a1 : l1.length ≤ 2)
    (a2 : ∀ row ∈ o1, 2 ≤ row.length) (a3 : o1 = [] → l1.length = 2) :
    Yields (l1 ++ o1.flatten) (match l1 with
      | [a, c] => do
        let r ← (match b with | .aig => addSum2Aig [a, c] | .xaig => addSum2 [a, c])
        pure ([r.headD ""], o1 ++ [r])
      | _ => pure (l1, o1)) (fun r => r.2.flatten) (fun r => r.2 ≠ [] ∧ ∀ row ∈ r.2, 2 ≤ row.length) := by
  match l1, a1, a3 with
  | [], _, a3 => exact .ret (by lmem) ⟨fun e => by simpa using a3 e, a2⟩
  | [_], _, a3 => exact .ret (by lmem) ⟨fun e => by simpa using a3 e, a2⟩
  | [a, c], _, _ =>
    have hblk : Yields [a, c] (match b with | Basis.aig => addSum2Aig [a, c] | Basis.xaig => addSum2 [a, c]) id
        (fun r => r.length = 2) := by
      cases b with
      | aig => exact block_addSum2Aig [a, c] rfl
      | xaig => exact block_addSum2 [a, c] rfl
    refine hblk.bind (by lmem) fun r hr => .ret (by lmem [List.flatten_append, List.flatten_cons, List.flatten_nil]) ⟨by simp, ?_⟩
    intro row hrow
    rcases List.mem_append.mp hrow with h | h
    · exact a2 row h
    · rw [List.mem_singleton.mp h]; exact Nat.le_of_eq hr.symm

/-- that a pass leaves at most two labels, and a count unless it got fewer than three labels, is `sem_pow2Pass` -/
theorem yields_addSumPow2M1 {ins : List Label} (be : Bool) {basis : BasisArg} {b : Basis} (hb : basis.resolve = .ok b)
    (hne : ins ≠ []) :
    Yields ins (addSumPow2M1 ins be basis) (fun r => r.flatten) (fun r => Pow2Cols r ∧ (2 ≤ ins.length → 2 ≤ r.length)) := by
  unfold addSumPow2M1
  match ins, hne with
  | [x], _ =>
    simp only [hb]
    exact .ret (by lmem [List.flatten_cons, List.flatten_nil]) ⟨pow2Cols_single x, fun h => by simp at h⟩
  | x :: y :: ys, _ =>
    simp only [hb]
    have h1 : Yields (x :: y :: ys) (if (x :: y :: ys).length > 2 then pow2Pass (BasisArg.enum b) (x :: y :: ys) []
        else pure (x :: y :: ys, [])) (fun r => r.1 ++ r.2.flatten)
        (fun r => r.1.length ≤ 2 ∧ (∀ row ∈ r.2, 2 ≤ row.length) ∧ (r.2 = [] → r.1.length = 2)) := by
      split
      · rename_i hlen
        refine ((yields_pow2Pass (b := b) rfl (x :: y :: ys) [] nofun).sub (by lmem [List.flatten_nil])).shapeR
          fun r a hr => ?_
        obtain ⟨v, e⟩ := hr.sem
        obtain ⟨i1, hl⟩ := sem_pow2Pass e (P2Inv.init v (List.cons_ne_nil x (y :: ys)))
        exact ⟨by omega, a, fun e => by rw [i1.same e] at hl; omega⟩
      · rename_i hlen
        have hys : ys = [] := List.eq_nil_of_length_eq_zero (by simp only [List.length_cons] at hlen; omega)
        subst hys
        exact .ret (by lmem [List.flatten_nil]) ⟨Nat.le_refl _, nofun, fun _ => rfl⟩
    refine h1.bind (fun _ => id) ?_
    rintro ⟨l1, o1⟩ ⟨a1, a2, a3⟩
    refine (yields_pow2Last (b := b) a1 a2 a3).bind (by lmem) ?_
    rintro ⟨_, o2⟩ ⟨b1, b2⟩
    dsimp only at b1 b2 ⊢
    obtain ⟨mx, hmx⟩ : ∃ mx, (o2.map (fun x => x.length)).foldl max 0 = mx + 1 := by
      obtain ⟨row, hrow⟩ := List.exists_mem_of_ne_nil _ b1
      have h2 := b2 row hrow
      have := (List.le_foldl_max (o2.map (fun x => x.length)) 0).2 row.length (List.mem_map_of_mem hrow)
      exact ⟨(o2.map (fun x => x.length)).foldl max 0 - 1, by omega⟩
    obtain ⟨c0, c1, rest, z, e1, e2⟩ := transposeRagged_two o2 mx b1 b2
    have hcol : ∀ col ∈ c0 :: c1 :: rest, col ≠ [] ∧ ∀ l ∈ col, l ∈ o2.flatten := by
      intro col hcol
      rw [← e1] at hcol
      refine ⟨transposeRagged_ne_nil _ _ col hcol, fun l hl => ?_⟩
      obtain ⟨row, hrow, h⟩ := mem_transposeRagged _ _ col hcol l hl
      exact List.mem_flatten.mpr ⟨row, hrow, h⟩
    rw [hmx, e1]
    simp only [e2]
    refine .ret ?_ ⟨⟨z, (c1 :: rest).map (fun col => revIf col be), by cases be <;> simp [revIf], ?_⟩, fun _ => by simp⟩
    · intro l h
      obtain ⟨col', hcol', hl'⟩ := List.mem_flatten.mp h
      obtain ⟨col, hc, rfl⟩ := List.mem_map.mp hcol'
      have hl'' := mem_revIf.mp hl'
      refine List.mem_append_right _ ?_
      rcases List.mem_cons.mp hc with rfl | hc
      · rw [List.mem_singleton.mp hl'']
        exact (hcol c0 (by simp)).2 _ (List.mem_of_getLast? e2)
      · exact (hcol col (List.mem_cons_of_mem _ hc)).2 l hl''
    · intro c hc
      obtain ⟨col, hcol', rfl⟩ := List.mem_map.mp hc
      exact revIf_ne_nil (hcol col (List.mem_cons_of_mem _ hcol')).1

end Cirbo
