import Cirbo.Proofs.EvalLazy
import Cirbo.Proofs.OpenNode
/-!
# The loop of `evaluate_circuit` stays within its step budget, and on a well-formed circuit the call returns the
valuation restricted to the gates it visited (C01, C15)

A stack entry costs 2 until its gate has been examined (its missing operands pushed) and 1 afterwards;
a gate not yet examined holds twice its operand count in reserve, which pays for what it pushes.
-/
namespace Cirbo
open GateType

/-! In the definitions below `X` marks the gates already examined. -/

def entryCost (X : Label → Bool) (l : Label) : Nat := if X l then 1 else 2
def stackCost (X : Label → Bool) (s : List Label) : Nat := (s.map (entryCost X)).sum
/-- the reserve: twice the operand count of the gates of `ls` not examined yet -/
def arW (c : Circuit) (X : Label → Bool) (ls : List Label) : Nat :=
  (ls.map (fun l => if X l then 0 else 2 * (c.opsOf l).length)).sum
def lazyPot (c : Circuit) (X : Label → Bool) (s : List Label) : Nat := stackCost X s + arW c X c.labels

def addX (X : Label → Bool) (k : Label) : Label → Bool := fun l => if l = k then true else X l

/-- invariant of the lazy loop on the examined gates: an examined gate has all its operands evaluated, or
it is open -/
def ExaminedInv (c : Circuit) (X : Label → Bool) (s : List Label) (d : Asg) : Prop :=
  ∀ u, X u = true → (∀ o ∈ c.opsOf u, d.contains o = true) ∨ OpenNode c.opsOf (d.contains · = true) s u

theorem stackCost_append (X : Label → Bool) (a b : List Label) :
    stackCost X (a ++ b) = stackCost X a + stackCost X b := by
  simp [stackCost, List.map_append, List.sum_append]

theorem stackCost_le_two (X : Label → Bool) (s : List Label) : stackCost X s ≤ 2 * s.length := by
  induction s with
  | nil => simp [stackCost]
  | cons x t ih =>
    simp only [stackCost, List.map_cons, List.sum_cons, List.length_cons] at ih ⊢
    have : entryCost X x ≤ 2 := by unfold entryCost; split <;> omega
    omega

theorem stackCost_addX_le (X : Label → Bool) (k : Label) (s : List Label) :
    stackCost (addX X k) s ≤ stackCost X s := by
  induction s with
  | nil => simp [stackCost]
  | cons x t ih =>
    simp only [stackCost, List.map_cons, List.sum_cons] at ih ⊢
    have : entryCost (addX X k) x ≤ entryCost X x := by
      unfold entryCost addX
      by_cases h : x = k <;> simp [h] <;> split <;> omega
    omega

theorem arW_addX (c : Circuit) {X : Label → Bool} {k : Label} (hk : X k = false) {ls : List Label} (hm : k ∈ ls) :
    arW c (addX X k) ls + 2 * (c.opsOf k).length ≤ arW c X ls := by
  have := sum_map_zero_at (k := k) (w := fun l => if X l then 0 else 2 * (c.opsOf l).length)
    (w' := fun l => if addX X k l then 0 else 2 * (c.opsOf l).length) (by simp [addX])
    (fun l hl => by simp [addX, hl]) ls
  have := Nat.le_mul_of_pos_left (2 * (c.opsOf k).length) (List.count_pos_iff.mpr hm)
  simp only [hk, Bool.false_eq_true, if_false] at *
  unfold arW; omega

theorem lazyStep_pot {c : Circuit} {r : Label → Nat}
    (hrk : ∀ g ∈ c.gates, ∀ o ∈ g.ops, r o < r g.label)
    {X : Label → Bool} {s s' : List Label} {d d' : Asg} (hne : s ≠ [])
    (inv : ExaminedInv c X s d) (hs : lazyStep c s d = .ok (s', d')) :
    ∃ X', ExaminedInv c X' s' d' ∧ lazyPot c X' s' < lazyPot c X s := by
  have hirr := Desc.irrefl (opsOf_lt hrk)
  rcases lazyStep_cases (irrefl_of_rank hrk) s d with
    ⟨rfl, -⟩ | ⟨q, cur, rfl, ⟨-, e⟩ | ⟨g, hg, rfl, hf, ⟨hm, e⟩ | ⟨hm, e⟩⟩⟩
  · exact absurd rfl hne
  · rw [e] at hs; cases hs
  · -- operands are missing: they are pushed, and the gate now counts as examined
    rw [e] at hs; cases hs
    have hops : c.opsOf g.label = g.ops := opsOf_of_find hf
    have hms : ∀ x ∈ missingOps d g.ops, x ∈ c.opsOf g.label := fun x hx => hops ▸ (mem_missingOps.mp hx).1
    -- not examined so far: an examined gate on top of the stack misses no operand
    have hX : X g.label = false := by
      cases hh : X g.label with
      | false => rfl
      | true =>
        refine absurd (missingOps_eq_nil.mpr fun o ho => ?_) hm
        exact (inv _ hh).elim (· o (hops ▸ ho)) (·.top o (hops ▸ ho))
    refine ⟨addX X g.label, fun u hu => ?_, ?_⟩
    · by_cases hut : u = g.label
      · subst hut
        refine .inr (.expand (fun hx => hirr _ (.base (hms _ hx))) hms fun o ho => ?_)
        cases hc : d.contains o with
        | true => exact .inl rfl
        | false => exact .inr (mem_missingOps.mpr ⟨hops ▸ ho, hc⟩)
      · exact (inv u (by simpa [addX, hut] using hu)).imp_right fun h =>
          h.push hut (h.not_mem_succ hut (hirr u) hms) hms fun _ => id
    · have ha := arW_addX c hX (mem_labels_of_mem hg)
      rw [hops] at ha
      have h1 : stackCost X [g.label] = 2 := by simp [stackCost, entryCost, hX]
      have h2 : stackCost (addX X g.label) [g.label] = 1 := by simp [stackCost, entryCost, addX]
      have h3 := stackCost_addX_le X g.label q
      have h4 := stackCost_le_two (addX X g.label) (missingOps d g.ops)
      have h5 : (missingOps d g.ops).length ≤ g.ops.length := List.length_filter_le _ _
      simp only [lazyPot, stackCost_append]
      omega
  · rw [e] at hs
    cases he : evalGate g d with
    | error _ => rw [he] at hs; cases hs
    | ok v =>
      rw [he] at hs; cases hs
      have hall := missingOps_eq_nil.mp hm
      have hgrow : ∀ x, d.contains x = true → (d.set g.label v).contains x = true :=
        fun x hx => by simp [contains_set, hx]
      refine ⟨X, fun u hu => ?_, ?_⟩
      · by_cases hut : u = g.label
        · subst hut
          exact .inl fun o ho => hgrow o (hall o (opsOf_of_find hf ▸ ho))
        · exact (inv u hu).imp (fun h1 o ho => hgrow o (h1 o ho)) (·.pop hut hgrow (by simp [contains_set]))
      · have h1 : 1 ≤ stackCost X [g.label] := by
          simp only [stackCost, List.map_cons, List.map_nil, List.sum_cons, List.sum_nil, entryCost]
          split <;> omega
        simp only [lazyPot, stackCost_append]
        omega

theorem evalGate_error_ne_fuel {g : Gate} {d : Asg} {e : String} (h : evalGate g d = .error e) : e ≠ "fuel" := by
  unfold evalGate at h
  split at h
  · simp only [Except.error.injEq] at h; subst h; decide
  · split at h
    · simp only [Except.error.injEq] at h; subst h; decide
    · split at h
      · simp only [Except.error.injEq] at h; subst h; decide
      · cases h

theorem lazyStep_error_ne_fuel {c : Circuit} (hirr : ∀ g ∈ c.gates, g.label ∉ g.ops) {s : List Label}
    {d : Asg} {e : String} (h : lazyStep c s d = .error e) : e ≠ "fuel" := by
  rcases lazyStep_cases hirr s d with
    ⟨-, e1⟩ | ⟨q, top, -, ⟨-, e1⟩ | ⟨g, -, -, -, ⟨-, e1⟩ | ⟨-, e1⟩⟩⟩ <;> rw [e1] at h
  · cases h
  · cases h; decide
  · cases h
  · cases he : evalGate g d with
    | error e' => rw [he] at h; cases h; exact evalGate_error_ne_fuel he
    | ok r => rw [he] at h; cases h

/-- potential and ghost invariant, as a property of loop states indexed by the remaining budget -/
def Funded (c : Circuit) (n : Nat) (s : List Label) (d : Asg) : Prop :=
  ∃ X, ExaminedInv c X s d ∧ lazyPot c X s < n

theorem Funded.step {c : Circuit} {r : Label → Nat} (hrk : ∀ g ∈ c.gates, ∀ o ∈ g.ops, r o < r g.label)
    {n : Nat} {s s' : List Label} {d d' : Asg} (hF : Funded c (n + 1) s d) (hne : s ≠ [])
    (hs : lazyStep c s d = .ok (s', d')) : Funded c n s' d' := by
  obtain ⟨X, inv, hp⟩ := hF
  obtain ⟨X', inv', hlt⟩ := lazyStep_pot hrk hne inv hs
  exact ⟨X', inv', by omega⟩

theorem lazyLoop_terminates {c : Circuit} {r : Label → Nat}
    (hrk : ∀ g ∈ c.gates, ∀ o ∈ g.ops, r o < r g.label) {fuel : Nat} {s : List Label} {d : Asg}
    (hF : Funded c fuel s d) : lazyLoop c fuel s d ≠ .error "fuel" := by
  intro h
  rcases (lazyLoop_induct (P := Funded c) (fun _ _ _ _ _ hF hne hs => hF.step hrk hne hs)
      fuel s d hF).2 _ h with
    ⟨-, _, _, _, -, h0⟩ | ⟨_, _, _, -, he⟩
  · exact Nat.not_lt_zero _ h0
  · exact lazyStep_error_ne_fuel (irrefl_of_rank hrk) he rfl

theorem arW_none {c : Circuit} (hnd : c.labels.Nodup) :
    arW c (fun _ => false) c.labels = 2 * totalArity c := by
  simp only [arW, Bool.false_eq_true, if_false]
  rw [sum_opsOf_labels hnd (2 * ·.length), totalArity, foldl_add_eq_sum]
  generalize c.gates = gs
  induction gs with
  | nil => simp
  | cons g t ih => simp only [List.map_cons, List.sum_cons, ih]; omega

/-- the model's budget covers the initial potential: an entry is examined once and popped once, and every pushed entry
is an operand occurrence of a gate examined for the first time. The `+ 2` is the model's margin. -/
theorem funded_init {c : Circuit} (hnd : c.labels.Nodup) (need : List Label) (d : Asg) :
    Funded c (2 * (need.length + totalArity c) + 2) need d := by
  refine ⟨fun _ => false, fun u hu => (nomatch hu), ?_⟩
  have h1 := stackCost_le_two (fun _ => false) need
  have h2 := arW_none hnd
  unfold lazyPot
  omega

theorem lazyStep_ok {c : Circuit} (h : WF c) {v : Label → V3}
    {need s : List Label} {d : Asg} (inv : LInv c v need s d) :
    ∃ p, lazyStep c s d = .ok p := by
  obtain ⟨rk, hrk⟩ := h.rank
  rcases lazyStep_cases (irrefl_of_rank hrk) s d with
    ⟨-, e⟩ | ⟨q, top, rfl, ⟨hf, -⟩ | ⟨g, hg, rfl, -, ⟨-, e⟩ | ⟨hm, e⟩⟩⟩
  · exact ⟨_, e⟩
  · obtain ⟨g, hg, rfl⟩ := gate_of_label (inv.stk top (by simp)).1
    rw [find_label h.nodup hg] at hf; cases hf
  · exact ⟨_, e⟩
  · -- no operand is missing and the arity is accepted, so the gate evaluates
    have hty : g.ty ≠ INPUT := fun hty => (inv.stk g.label (by simp)).2 ((mem_inputs_iff h hg).mpr hty)
    have har := h.arity g hg
    rw [if_neg hty] at har
    obtain ⟨r, hr⟩ := Option.isSome_iff_exists.mp
      ((applyOp_isSome_iff g.ty (g.ops.map (valOf d))).trans (by simpa using har))
    rw [e, (evalGate_ok_iff hty).mpr ⟨missingOps_eq_nil.mp hm, hr⟩]
    exact ⟨_, rfl⟩

theorem lazyLoop_run {c : Circuit} (h : WF c) {a v : Label → V3} (hv : IsVal3 c a v) {r : Label → Nat}
    (hrk : ∀ g ∈ c.gates, ∀ o ∈ g.ops, r o < r g.label) {need s : List Label} {fuel : Nat} {d : Asg}
    (inv : LInv c v need s d) (hF : Funded c fuel s d) :
    ∃ dfin, lazyLoop c fuel s d = .ok dfin ∧ LInv c v need [] dfin := by
  have ind := lazyLoop_induct (P := fun n s d => LInv c v need s d ∧ Funded c n s d)
    (fun _ _ _ _ _ hP hne hs => ⟨lazyStep_inv h hv hP.1 hs, hP.2.step hrk hne hs⟩) fuel s d ⟨inv, hF⟩
  cases hl : lazyLoop c fuel s d with
  | ok dfin => exact ⟨dfin, rfl, ((ind.1 dfin hl).choose_spec).1⟩
  | error e =>
    rcases ind.2 e hl with ⟨-, _, _, -, _, -, h0⟩ | ⟨_, _, _, ⟨inv1, -⟩, he⟩
    · exact absurd h0 (Nat.not_lt_zero _)
    · obtain ⟨p, hp⟩ := lazyStep_ok h inv1
      rw [hp] at he; cases he

/-- `d1` is the dictionary the loop returns (the visited gates); the call returns it completed with `Undefined` -/
theorem evalLazy_spec {c : Circuit} (h : WF c) (asg : Asg) (outs : Option (List Label))
    (hasg : ∀ g ∈ c.gates, g.ty ≠ INPUT → asg.get? g.label = none)
    (houts : ∀ o ∈ outs.getD c.outputs, o ∈ c.labels)
    {v : Label → V3} (hv : IsVal3 c (asgFun asg) v) {need : List Label}
    (hneed : (outs.getD c.outputs).filter (fun o => !c.inputs.contains o) = need) :
    ∃ d1 d, lazyLoop c (2 * (need.length + totalArity c) + 2) need (initAsg c asg) = .ok d1 ∧
      evalLazy c asg outs = .ok d ∧
      (∀ l, d.get? l = if l ∈ c.labels then some (valOf d1 l) else d1.get? l) ∧
      (∀ l ∈ c.labels, ∀ x, d1.get? l = some x → x = v l) ∧
      (∀ o ∈ outs.getD c.outputs, d1.contains o = true) := by
  obtain ⟨r, hrk⟩ := h.rank
  obtain ⟨d1, hl, inv⟩ := lazyLoop_run h hv hrk (linv_init h asg outs hasg houts hv hneed)
    (funded_init h.nodup need (initAsg c asg))
  refine ⟨d1, _, hl, by simp only [evalLazy, hneed, hl], foldl_setDefault_get? _ _, inv.val, fun o ho => ?_⟩
  by_cases hi : o ∈ c.inputs
  · exact inv.inp o hi
  · exact (inv.need o (hneed ▸ List.mem_filter.mpr ⟨ho, by simpa using hi⟩)).resolve_left (by simp)

theorem evalLazy_sound {c : Circuit} (h : WF c) (asg : Asg) (outs : Option (List Label))
    (hasg : ∀ g ∈ c.gates, g.ty ≠ INPUT → asg.get? g.label = none)
    (houts : ∀ o ∈ outs.getD c.outputs, o ∈ c.labels)
    {v : Label → V3} (hv : IsVal3 c (asgFun asg) v) {d : Asg}
    (hd : evalLazy c asg outs = .ok d) :
    (∀ g ∈ c.gates, d.get? g.label = some (v g.label) ∨ d.get? g.label = some V3.U) ∧
    (∀ o ∈ outs.getD c.outputs, d.get? o = some (v o)) := by
  obtain ⟨d1, d', -, hd', hget, hval, hout⟩ := evalLazy_spec h asg outs hasg houts hv rfl
  cases hd.symm.trans hd'
  have key : ∀ l ∈ c.labels, ∀ x, d1.get? l = some x → d.get? l = some (v l) := fun l hl x hx => by
    rw [hget, if_pos hl, valOf, hx, hval l hl x hx]; rfl
  constructor
  · intro g hg
    have hgl := mem_labels_of_mem hg
    cases hx : d1.get? g.label with
    | none => exact .inr (by rw [hget, if_pos hgl, valOf, hx]; rfl)
    | some x => exact .inl (key _ hgl x hx)
  · intro o ho
    obtain ⟨x, hx⟩ := Option.isSome_iff_exists.mp (hout o ho)
    exact key o (houts o ho) x hx

end Cirbo
