import Cirbo.Model.Func
import Cirbo.Proofs.Lists
/-!
# `define`: completing a partially defined model
-/
namespace Cirbo
namespace FRep

def entryT (t : List (List (Option Bool))) (o i : Nat) : Option Bool := (t.getD o []).getD i none

theorem defineStep_eq_modify (t : List (List (Option Bool))) (d : (List Bool × Nat) × Bool) :
    defineStep t d = t.modify d.1.2 (fun r => r.modify (canonicalIndex d.1.1) (fun e => if e.isNone then some d.2 else e)) := by
  rw [← List.zipIdx_map_modify]
  refine List.map_congr_left fun ro _ => ?_
  rw [← List.zipIdx_map_modify]
  congr 1
  refine List.map_congr_left fun vi _ => ?_
  cases vi.2 == canonicalIndex d.1.1 <;> rfl

theorem defineStep_length (t : List (List (Option Bool))) (d : (List Bool × Nat) × Bool) :
    (defineStep t d).length = t.length ∧ ∀ o, ((defineStep t d).getD o []).length = (t.getD o []).length := by
  rw [defineStep_eq_modify]
  refine ⟨List.length_modify .., fun o => ?_⟩
  rw [List.getD_modify]
  split
  · exact List.length_modify ..
  · rfl

theorem entry_defineStep (t : List (List (Option Bool))) (d : (List Bool × Nat) × Bool) (o i : Nat) :
    entryT (defineStep t d) o i =
      if o = d.1.2 ∧ i = canonicalIndex d.1.1 ∧ o < t.length ∧ i < (t.getD o []).length ∧ entryT t o i = none
      then some d.2 else entryT t o i := by
  simp only [defineStep_eq_modify, entryT, List.getD_modify]
  by_cases h1 : o = d.1.2 ∧ d.1.2 < t.length
  · rw [if_pos h1, List.getD_modify]
    obtain ⟨rfl, h1⟩ := h1
    by_cases h2 : i = canonicalIndex d.1.1 ∧ canonicalIndex d.1.1 < (t.getD d.1.2 []).length
    · rw [if_pos h2]
      obtain ⟨rfl, h2⟩ := h2
      simp [Option.isNone_iff_eq_none, h1, h2, -List.getD_eq_getElem?_getD]
    · rw [if_neg h2]
      exact (if_neg fun ⟨_, hi, _, hl, _⟩ => h2 ⟨hi, hi ▸ hl⟩).symm
  · rw [if_neg h1]
    exact (if_neg fun ⟨ho, _, hl, _⟩ => h1 ⟨ho, ho ▸ hl⟩).symm

theorem defineTable_shape (defn : List ((List Bool × Nat) × Bool)) : ∀ model : List (List (Option Bool)),
    (defineTable model defn).length = model.length ∧
      ∀ o, ((defineTable model defn).getD o []).length = (model.getD o []).length := by
  induction defn with
  | nil => exact fun _ => ⟨rfl, fun _ => rfl⟩
  | cons d r ih =>
    intro model
    obtain ⟨s1, s2⟩ := defineStep_length model d
    exact ⟨(ih _).1.trans s1, fun o => ((ih _).2 o).trans (s2 o)⟩

/-- a defined entry stays; a don't-care inside the table takes the value of the first item the definition has for its
position (later ones find the entry defined), and stays a don't-care if there is none -/
theorem entry_defineTable (defn : List ((List Bool × Nat) × Bool)) : ∀ (model : List (List (Option Bool))) (o i : Nat),
    entryT (defineTable model defn) o i = (entryT model o i).or
      (if o < model.length ∧ i < (model.getD o []).length
        then (defn.find? (fun d => d.1.2 = o ∧ canonicalIndex d.1.1 = i)).map (·.2) else none) := by
  induction defn with
  | nil => intro model o i; simp [defineTable]
  | cons d r ih =>
    intro model o i
    obtain ⟨s1, s2⟩ := defineStep_length model d
    show entryT (defineTable (defineStep model d) r) o i = _
    rw [ih, entry_defineStep, s1, s2]
    by_cases hm : d.1.2 = o ∧ canonicalIndex d.1.1 = i
    · rw [List.find?_cons_of_pos (by simpa using hm)]
      obtain ⟨rfl, rfl⟩ := hm
      by_cases hb : d.1.2 < model.length ∧ canonicalIndex d.1.1 < (model.getD d.1.2 []).length
      · rw [if_pos hb, if_pos hb]
        cases he : entryT model d.1.2 (canonicalIndex d.1.1) with
        | none => rw [if_pos ⟨rfl, rfl, hb.1, hb.2, rfl⟩]; rfl
        | some b => rw [if_neg fun h => nomatch h.2.2.2.2]; rfl
      · rw [if_neg hb, if_neg hb, if_neg fun h => hb ⟨h.2.2.1, h.2.2.2.1⟩]
    · rw [List.find?_cons_of_neg (by simpa using hm), if_neg fun h => hm ⟨h.1.symm, h.2.1.symm⟩]

end FRep
end Cirbo
