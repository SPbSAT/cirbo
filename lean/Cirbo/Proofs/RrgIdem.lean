import Cirbo.Proofs.PassRrg
/-!
# RemoveRedundantGates is idempotent (C18): the second run reaches the same part of the circuit
-/
namespace Cirbo

theorem childProblem_congr {c c1 : Circuit} (ab : Bool) (st : Label → TState) :
    ∀ ls : List Label, (∀ x ∈ ls, c.hasGate x = c1.hasGate x) → childProblem c ab st ls = childProblem c1 ab st ls
  | [], _ => rfl
  | x :: r, h => by
    unfold childProblem
    rw [h x (List.mem_cons_self ..), childProblem_congr ab st r fun y hy => h y (List.mem_cons_of_mem _ hy)]

theorem trStep_congr {c c1 : Circuit} {bfs ab : Bool} {next next1 : Label → List Label} {s : TrSt}
    (h : ∀ l ∈ s.queue, c.hasGate l = c1.hasGate l ∧ next l = next1 l ∧ ∀ x ∈ next l, c.hasGate x = c1.hasGate x) :
    trStep c bfs ab next s = trStep c1 bfs ab next1 s := by
  rcases queue_cases bfs s.queue with hq | ⟨q, cur, hq⟩
  · rw [trStep_nil hq, trStep_nil hq]
  · obtain ⟨h1, h2, h3⟩ := h cur (hq ▸ mem_withTop.mpr (.inl rfl))
    rw [trStep_top hq, trStep_top hq]
    unfold pushed enterEvs
    rw [← h1, ← h2, ← childProblem_congr ab _ (next cur) h3]

/-- the loop only looks at what it reaches: on a circuit that agrees with `c` there (gate existence,
successors), a run that returns returns the same state, whatever fuel above the potential it is given -/
theorem trLoop_transfer {c c1 : Circuit} {bfs ab : Bool} {next next1 : Label → List Label}
    {q0 : List Label} (hg : ∀ l, Reach next q0 l → c.hasGate l = c1.hasGate l)
    (hn : ∀ l, Reach next q0 l → next l = next1 l) {s' : TrSt} :
    ∀ (fuel : Nat) (s : TrSt), TInv next q0 s → trLoop c bfs ab next fuel s = .ok s' →
      ∀ fuel1, potential c1 next1 s < fuel1 → trLoop c1 bfs ab next1 fuel1 s = .ok s'
  | 0, _, _, h, _, _ => nomatch h
  | fuel+1, s, inv, h, 0, hp => absurd hp (Nat.not_lt_zero _)
  | fuel+1, s, inv, h, fuel1+1, hp => by
    have e : trStep c1 bfs ab next1 s = trStep c bfs ab next s := (trStep_congr fun l hl =>
      have hr := inv.reachQ l hl
      ⟨hg l hr, hn l hr, fun x hx => hg x (.step hr hx)⟩).symm
    unfold trLoop at h ⊢
    rw [e]
    cases hs : trStep c bfs ab next s with
    | finished => rw [hs] at h; exact h
    | error e' => rw [hs] at h; cases h
    | next s1 =>
      rw [hs] at h
      exact trLoop_transfer hg hn fuel s1 (trStep_inv inv hs) h fuel1
        (Nat.lt_of_lt_of_le (trStep_potential (e.trans hs)) (Nat.le_of_lt_succ hp))

theorem traverse_exits_congr {c c1 : Circuit} (q0 : List Label)
    (hg : ∀ l, Reach c.opsOf q0 l → c.hasGate l = c1.hasGate l)
    (hn : ∀ l, Reach c.opsOf q0 l → c.opsOf l = c1.opsOf l)
    {log : List Ev} (h : traverse c false false (some q0) false = .ok log)
    (h0 : c.gates = [] → c1.gates = []) (h1 : c1.gates = [] → exits log = []) :
    ∃ log1, traverse c1 false false (some q0) false = .ok log1 ∧ exits log1 = exits log := by
  by_cases hne1 : c1.gates = []
  · exact ⟨[], by simp [traverse, hne1], (h1 hne1).symm⟩
  obtain ⟨hc, -⟩ | ⟨s, order, -, hl, -, rfl⟩ := traverse_ok_cases h
  · exact absurd (h0 hc) hne1
  simp only [traverseLoop, Bool.false_eq_true, if_false, Option.getD_some] at hl
  have hl1 := trLoop_transfer hg hn _ _ (tinv_init _ _) hl _ (potential_init_lt c1 c1.opsOf q0)
  refine ⟨s.log ++ (c1.labels.filter fun l => s.st l = .unv).map Ev.unvisited ++ [Ev.done], ?_, by
    rw [exits_tail, exits_tail]⟩
  simp [traverse, hne1, hl1]

theorem emplaceAll_congr {c c1 : Circuit} (f : Label → Label) {ls : List Label} (init : Circuit)
    (h : ∀ l ∈ ls, c.find? l = c1.find? l) : emplaceAll c ls f init = emplaceAll c1 ls f init := by
  unfold emplaceAll
  generalize (Except.ok init : R Circuit) = acc
  induction ls generalizing acc with
  | nil => rfl
  | cons l r ih =>
    simp only [List.foldl_cons, h l (List.mem_cons_self ..)]
    exact ih (fun x hx => h x (List.mem_cons_of_mem _ hx)) _

theorem rrg_idem {allow : Bool} {c c1 : Circuit} (hw : WFS c) (h : rrg allow c = .ok c1) :
    rrg allow c1 = .ok c1 := by
  obtain ⟨log, n1, n2, n3, c', ⟨ht, he, h2, h3, h4⟩, hlab1, s⟩ := rrg_run (allow := allow) hw
  cases h.symm.trans (rrg_of_trace ht he h2 h3 h4)
  have hout := s.outputs
  have hic : c1.inputs = c.inputs.filter (fun i => n2.inputs.contains i) := by
    rw [(setOutputs_interface h4).2, (setInputs_interface h3).1]
  have hreach : ∀ l, Reach c.opsOf c.outputs l → l ∈ c1.labels := fun l hl => (s.labels l).mpr (.inl hl)
  have hexits : ∀ l ∈ exits log, l ∈ c1.labels := fun l hl => hreach l (((exits_spec hw ht).2.1 l).mp hl)
  -- so the second traversal has the same exits
  obtain ⟨log1, ht1, hex1⟩ := traverse_exits_congr c.outputs
    (fun l hl => ((hasGate_iff c l).mpr (reach_labels hw hw.outputsOK hl)).trans ((hasGate_iff c1 l).mpr (hreach l hl)).symm)
    (fun l hl => by unfold Circuit.opsOf; rw [s.find? hw (hreach l hl)]) ht
    (fun h0 => List.eq_nil_iff_forall_not_mem.mpr fun g hg => by have := s.sub g hg; rw [h0] at this; cases this)
    (fun h1 => List.eq_nil_iff_forall_not_mem.mpr fun l hl => by
      have := hexits l hl; rw [Circuit.labels, h1] at this; cases this)
  rw [← hout] at ht1
  have he1 : emplaceAll c1 (exits log) id Circuit.empty = .ok n1 := by
    rw [← emplaceAll_congr id _ fun l hl => s.find? hw (hexits l hl)]; exact he
  have hfil2 : c1.inputs.filter (fun i => n2.inputs.contains i) = c.inputs.filter (fun i => n2.inputs.contains i) := by
    rw [hic, List.filter_filter]
    exact List.filter_congr fun i _ => Bool.and_self _
  refine rrg_of_trace ht1 (hex1 ▸ he1) ?_ (hfil2 ▸ h3) (hout ▸ h4)
  cases allow
  · -- the inputs that were missing are inputs of `c1`, and still missing from `n1`
    have hi2 := (addInputs_spec _ _ _ h2).2.1
    rw [← h2, hic, List.filter_filter]
    congr 2
    refine List.filter_congr fun i hi => ?_
    cases hh : n1.hasGate i
    · simp [hi2, List.mem_filter, hi, hh]
    · rfl
  · exact h2

end Cirbo
