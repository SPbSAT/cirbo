import Cirbo.Proofs.GenCostW
/-!
# Gate counts of the XAIG schemes (MDFA): exact cost of a level, the bit counter and the weighted sum
-/
namespace Cirbo

theorem shape_pairUp : ∀ (fuel : Nat) (solo s' : List Label) (pairs p' : List (Label × Label)) (k : Nat),
    Cost (pairUp fuel solo pairs) (s', p') k →
    s'.length + 2 * k = solo.length ∧ p'.length = pairs.length + k ∧ (solo.length ≤ 2 * fuel + 1 → s'.length ≤ 1) := by
  intro fuel
  induction fuel with
  | zero =>
    intro solo s' pairs p' k h
    unfold pairUp at h
    obtain ⟨e, rfl⟩ := cost_pure.mp h
    cases e
    exact ⟨rfl, rfl, id⟩
  | succ f ih =>
    intro solo s' pairs p' k h
    rcases solo with _ | ⟨a, _ | ⟨b, rest⟩⟩
    case cons.cons =>
      simp only [pairUp, cost_bind] at h
      obtain ⟨xy, m1, m2, h1, h2, rfl⟩ := h
      obtain ⟨hs, hp, hf⟩ := ih _ _ _ _ _ h2
      simp only [List.length_cons] at hp ⊢
      rw [cost_emitTT h1]
      exact ⟨by omega, by omega, fun hl => hf (by omega)⟩
    all_goals
      obtain ⟨e, rfl⟩ := cost_pure.mp h
      cases e
      exact ⟨rfl, rfl, fun _ => by simp⟩

/-- `j` blocks ran (8 gates each); the first one, simplified when there is no solo bit (6 gates), makes one -/
theorem shape_mdfaLoop : ∀ (fuel : Nat) (soloR s1 : List Label) (pairsR p1 nextP nP : List (Label × Label)) (k : Nat),
    Cost (mdfaLoop fuel soloR pairsR nextP) (s1, p1, nP) k →
    ∃ j, p1.length + 2 * j = pairsR.length ∧ nP.length = nextP.length + j ∧ s1.length = max soloR.length (min 1 j) ∧
      (pairsR.length ≤ 2 * fuel + 1 → p1.length ≤ 1) ∧ k + 2 * s1.length = 8 * j + 2 * soloR.length := by
  intro fuel
  induction fuel with
  | zero =>
    intro soloR s1 pairsR p1 nextP nP k h
    unfold mdfaLoop at h
    obtain ⟨e, rfl⟩ := cost_pure.mp h
    cases e
    exact ⟨0, rfl, rfl, by omega, id, by omega⟩
  | succ f ih =>
    intro soloR s1 pairsR p1 nextP nP k h
    rcases pairsR with _ | ⟨q1, _ | ⟨q2, prest⟩⟩
    case cons.cons =>
      unfold mdfaLoop at h
      split at h
      all_goals
        simp only [cost_bind] at h
        obtain ⟨r, m1, m2, hblk, ⟨t, m3, m4, ht, hrec, rfl⟩, rfl⟩ := h
        obtain ⟨j, a1, a2, a3, a4, a5⟩ := ih _ _ _ _ _ _ _ hrec
        simp only [List.length_cons, List.length_append, List.length_nil] at a1 a2 a3 a4 a5 ⊢
        first | rw [costs_addMdfa _ _ _ hblk, costs_triple3 _ _ _ ht] | rw [costs_addSimplifiedMdfa _ _ _ hblk, costs_triple3 _ _ _ ht]
        exact ⟨j + 1, by omega⟩
    all_goals
      unfold mdfaLoop at h
      obtain ⟨e, rfl⟩ := cost_pure.mp h
      cases e
      exact ⟨0, rfl, rfl, by omega, fun _ => by simp, by omega⟩

/-- a Stockmeyer block (4 gates) with the solo bit, or 1 gate when there is none -/
theorem shape_lastPair {soloR s2 : List Label} {pairsR : List (Label × Label)} {nextS nS : List Label} {k : Nat}
    (h : Cost (lastPair soloR pairsR nextS) (s2, nS) k) :
    (pairsR.length = 1 ∧ s2.length = max soloR.length 1 ∧ (∃ y, nS = nextS ++ [y]) ∧
      k + 3 * s2.length = 4 + 3 * soloR.length) ∨
    (pairsR.length ≠ 1 ∧ s2 = soloR ∧ nS = nextS ∧ k = 0) := by
  unfold lastPair at h
  split at h
  · left
    split at h
    · simp only [cost_bind, cost_pure] at h
      obtain ⟨r, m1, m2, hblk, ⟨t, m3, m4, ht, ⟨e, rfl⟩, rfl⟩, rfl⟩ := h
      cases e
      rw [costs_addStockmeyer _ _ _ hblk, costs_pair2 _ _ _ ht]
      simp only [List.length_cons, List.length_nil]
      exact ⟨trivial, by omega, ⟨_, rfl⟩, trivial⟩
    · simp only [cost_bind, cost_pure] at h
      obtain ⟨cy, m1, m2, h1, ⟨e, rfl⟩, rfl⟩ := h
      cases e
      rw [cost_emitTT h1]
      exact ⟨rfl, rfl, ⟨_, rfl⟩, rfl⟩
  · rename_i hno
    obtain ⟨e, rfl⟩ := cost_pure.mp h
    cases e
    refine Or.inr ⟨fun h1 => ?_, rfl, rfl, rfl⟩
    match pairsR, h1 with
    | [a], _ => exact hno a rfl

/-- the numbers of a level: `s`, `p` on entry; `s1`, `p1` after `j` MDFA blocks; `s2`, `n0` carries after the last
pair; then `j'` full and `e'` half adders.  On plain numbers, so that `omega` sees nothing else. -/
theorem xaigLevel_shape_arith {s p j p1 s1 s2 n0 k2 j' e' nS : Nat} (a1 : p1 + 2 * j = p) (a3 : s1 = max s (min 1 j))
    (a4 : p1 ≤ 1) (hl : (p1 = 1 ∧ s2 = max s1 1 ∧ n0 = 1 ∧ k2 + 3 * s2 = 4 + 3 * s1) ∨ (p1 ≠ 1 ∧ s2 = s1 ∧ n0 = 0 ∧ k2 = 0))
    (c1 : 2 * j' + e' + 1 = s2) (he : e' ≤ 1) (c2 : nS = n0 + j' + e') : 1 ≤ s + p ∧ nS = s / 2 + p1 := by
  omega

theorem xaigLevel_count_arith {s p j p1 s1 s2 n0 k1 k2 k34 j' e' : Nat} (hs : s ≤ 1) (a1 : p1 + 2 * j = p)
    (a3 : s1 = max s (min 1 j)) (a4 : p1 ≤ 1) (a5 : k1 + 2 * s1 = 8 * j + 2 * s)
    (hl : (p1 = 1 ∧ s2 = max s1 1 ∧ n0 = 1 ∧ k2 + 3 * s2 = 4 + 3 * s1) ∨ (p1 ≠ 1 ∧ s2 = s1 ∧ n0 = 0 ∧ k2 = 0))
    (c1 : 2 * j' + e' + 1 = s2) (c3 : k34 = 5 * j' + 2 * e') :
    k1 + k2 + k34 + (if s = 0 then (if 2 ≤ p then 2 else 3) else 0) = 8 * j + 4 * p1 := by
  -- with at most one solo bit on entry there is at most one after the MDFA loop, hence exactly one before the adders,
  -- which then have nothing to do
  have h1 : s1 ≤ 1 := by rw [a3]; exact Nat.max_le.mpr ⟨hs, Nat.min_le_left 1 j⟩
  have h2 : s2 = 1 ∧ k34 = 0 ∧ k2 + 3 = 4 * p1 + 3 * s1 ∧ (p1 = 0 → s1 = 1) := by
    rcases hl with ⟨e1, e2, _, e4⟩ | ⟨e1, e2, _, e4⟩
    · rw [Nat.max_eq_right h1] at e2; omega
    · omega
  obtain ⟨rfl, rfl, h4, h5⟩ := h2
  clear hl c1 c3
  split
  · rename_i h0; subst h0
    rw [Nat.zero_max] at a3
    split <;> omega
  · obtain rfl : s = 1 := by omega
    rw [Nat.max_eq_left (Nat.min_le_left 1 j)] at a3
    omega

/-- one XAIG level on `s` solo bits and `p` pairs; entered with `s ≤ 1` (as after `pairUp`) it costs `8·(p/2) + 4·(p%2)`
gates, minus 2 when the first block is a simplified MDFA, minus 3 when the level is a lone pair -/
theorem shape_xaigLevel {soloR : List Label} {pairsR : List (Label × Label)} {r : Label} {nextS : List Label}
    {nextP : List (Label × Label)} {k : Nat} (h : Cost (xaigLevel soloR pairsR) (r, nextS, nextP) k) :
    1 ≤ soloR.length + pairsR.length ∧ nextP.length = pairsR.length / 2 ∧
      nextS.length = soloR.length / 2 + pairsR.length % 2 ∧
      (soloR.length ≤ 1 → k + (if soloR.length = 0 then (if 2 ≤ pairsR.length then 2 else 3) else 0) =
        8 * (pairsR.length / 2) + 4 * (pairsR.length % 2)) := by
  unfold xaigLevel at h
  simp only [cost_bind, cost_pure] at h
  obtain ⟨⟨s1, p1, nP⟩, k1, _, h1, ⟨⟨s2, nS0⟩, k2, _, h2, ⟨⟨s3, nS1⟩, k3, _, h3, ⟨⟨s4, nS2⟩, k4, _, h4,
    ⟨x, k5, _, h5, ⟨e, rfl⟩, rfl⟩, rfl⟩, rfl⟩, rfl⟩, rfl⟩ := h
  cases e
  obtain ⟨j, a1, a2, a3, a4, a5⟩ := shape_mdfaLoop _ _ _ _ _ _ _ _ h1
  replace a4 := a4 (Nat.le_succ_of_le (Nat.le_mul_of_pos_left _ Nat.two_pos))
  obtain ⟨_, rfl, j', e', he, c1, c2, c3⟩ := shape_simpleLevel h3 h4 h5
  replace c3 := c3 5 2 costs_addSum3 costs_addSum2
  have hl : (p1.length = 1 ∧ s2.length = max s1.length 1 ∧ nS0.length = 1 ∧ k2 + 3 * s2.length = 4 + 3 * s1.length) ∨
      (p1.length ≠ 1 ∧ s2.length = s1.length ∧ nS0.length = 0 ∧ k2 = 0) :=
    (shape_lastPair h2).imp (fun ⟨b1, b2, ⟨y, e⟩, b4⟩ => ⟨b1, b2, e ▸ rfl, b4⟩)
      (fun ⟨b1, e1, e2, e3⟩ => ⟨b1, e1 ▸ rfl, e2 ▸ rfl, e3⟩)
  obtain ⟨hj, hp1⟩ : j = pairsR.length / 2 ∧ p1.length = pairsR.length % 2 := by omega
  obtain ⟨g1, g2⟩ := xaigLevel_shape_arith a1 a3 a4 hl c1 he c2
  refine ⟨g1, a2.trans ((Nat.zero_add _).trans hj), hp1 ▸ g2, fun hs => ?_⟩
  have := xaigLevel_count_arith hs a1 a3 a4 a5 hl c1 c3
  rw [← hj, ← hp1, ← this]
  omega

/-- a level pays for itself: with a solo bit valued 8 and a pair valued 16 (in half gates), the gates of
the level and what it sends up are covered by what came in, and 4 are left over -/
theorem cost_xaigLevel_potential {soloR : List Label} {pairsR : List (Label × Label)} {r : Label}
    {nextS : List Label} {nextP : List (Label × Label)} {k : Nat} (hs : soloR.length ≤ 1)
    (h : Cost (xaigLevel soloR pairsR) (r, nextS, nextP) k) :
    nextS.length ≤ 1 ∧
    2 * k + 4 + 8 * nextS.length + 16 * nextP.length ≤ 8 * soloR.length + 16 * pairsR.length := by
  obtain ⟨_, a2, a3, a4⟩ := shape_xaigLevel h
  have a4 := a4 hs
  refine ⟨by omega, ?_⟩
  split at a4
  · split at a4 <;> omega
  · omega

/-- `s + 2p` halves at every level; the potential `8·solo + 16·pairs` pays for all gates and leaves 4 per level -/
theorem cost_xaigLevels : ∀ (fuel : Nat) (soloR : List Label) (pairsR : List (Label × Label)) (res r : List Label)
    (k : Nat), Cost (xaigLevels fuel soloR pairsR res) r k →
    r.length = res.length + sa_bitlen (soloR.length + 2 * pairsR.length) ∧
    (soloR.length ≤ 1 →
      2 * k + 4 * sa_bitlen (soloR.length + 2 * pairsR.length) ≤ 8 * soloR.length + 16 * pairsR.length) := by
  intro fuel
  induction fuel with
  | zero => intro soloR pairsR res r k h; unfold xaigLevels at h; exact absurd h cost_fail
  | succ f ih =>
    intro soloR pairsR res r k h
    unfold xaigLevels at h
    split at h
    · rename_i he
      simp only [Bool.and_eq_true, List.isEmpty_iff] at he
      obtain ⟨rfl, rfl⟩ := he
      obtain ⟨rfl, rfl⟩ := cost_pure.mp h
      exact ⟨rfl, fun _ => Nat.le_refl _⟩
    · simp only [cost_bind] at h
      obtain ⟨⟨x, nextS, nextP⟩, k1, k2, h1, h2, rfl⟩ := h
      simp only at h2
      obtain ⟨a1, a2, a3, _⟩ := shape_xaigLevel h1
      obtain ⟨hl, hk⟩ := ih _ _ _ _ _ h2
      simp only [List.length_reverse, List.length_append, List.length_singleton] at hl hk
      have hhalf : nextS.length + 2 * nextP.length = (soloR.length + 2 * pairsR.length) / 2 := by omega
      rw [hhalf] at hl hk
      rw [sa_bitlen_half (n := soloR.length + 2 * pairsR.length) (by omega)]
      refine ⟨by omega, fun hs => ?_⟩
      obtain ⟨b1, b2⟩ := cost_xaigLevel_potential hs h1
      have := hk b1
      omega

/-- at most `4.5n - 2m` gates, as documented -/
theorem cost_addSumNBitsXaig {ins r : List Label} {k : Nat} (h : Cost (addSumNBitsXaig ins) r k) :
    r.length = sa_bitlen ins.length ∧ 2 * k + 4 * r.length ≤ 9 * ins.length := by
  unfold addSumNBitsXaig at h
  simp only [cost_bind] at h
  obtain ⟨⟨soloR, pairsR⟩, k1, k2, h1, h2, rfl⟩ := h
  simp only at h2
  obtain ⟨a1, a2, a3⟩ := shape_pairUp _ _ _ _ _ _ h1
  simp only [List.length_reverse, List.length_nil, Nat.zero_add] at a1 a2 a3
  obtain ⟨hl, hk⟩ := cost_xaigLevels _ _ _ _ _ _ h2
  have := hk (a3 (by omega))
  rw [List.length_nil, Nat.zero_add, show soloR.length + 2 * pairsR.length = ins.length by omega] at hl
  rw [show soloR.length + 2 * pairsR.length = ins.length by omega] at this
  exact ⟨hl, by omega⟩

theorem shape_addSumNBits {ins r : List Label} {basis : BasisArg} {be : Bool} {k : Nat}
    (h : Cost (addSumNBits ins basis be) r k) : r.length = sa_bitlen ins.length := by
  unfold addSumNBits at h
  split at h
  · exact absurd h cost_fail
  · rename_i b hb
    simp only [cost_bind, cost_pure] at h
    obtain ⟨r0, k1, _, h1, ⟨rfl, rfl⟩, rfl⟩ := h
    rw [revIf_length]
    cases b
    · exact (cost_addSumNBitsXaig h1).1.trans (by rw [revIf_length])
    · exact (cost_addSumNBitsAig h1).1.trans (by rw [revIf_length])

/-- the documented bounds: `4.5n - 2m` gates in XAIG, `7n - 3m` in AIG (`n` operands, `m` result bits) -/
theorem cost_addSumNBits {ins r : List Label} {basis : BasisArg} {be : Bool} {k : Nat}
    (h : Cost (addSumNBits ins basis be) r k) :
    ∃ b, basis.resolve = .ok b ∧ (b = .xaig → 2 * k + 4 * r.length ≤ 9 * ins.length) ∧
      (b = .aig → k + 3 * r.length ≤ 7 * ins.length) := by
  unfold addSumNBits at h
  split at h
  · exact absurd h cost_fail
  · rename_i b hb
    simp only [cost_bind, cost_pure] at h
    obtain ⟨r0, k1, _, h1, ⟨rfl, rfl⟩, rfl⟩ := h
    refine ⟨b, hb, ?_, ?_⟩
    · intro e; subst e
      have := (cost_addSumNBitsXaig h1).2
      rw [revIf_length] at this ⊢; omega
    · intro e; subst e
      have := (cost_addSumNBitsAig h1).2
      rw [revIf_length] at this ⊢; omega

/-- a single bit is valued 9 and a pair 16 (in half gates); the 9th half gate
of two singles pays for pairing them, after which the level pays for itself, and 3 are left per level -/
theorem cost_weightedLoop_xaig (inf : Nat) :
    ∀ (fuel : Nat) (single : List (Nat × Label)) (pairs : List (Nat × Label × Label)) (res r : List (Nat × Label))
      (k : Nat), Cost (weightedLoop .xaig inf fuel single pairs res) r k →
      ∃ lv, r.length = res.length + lv ∧ 2 * k + 3 * lv ≤ 9 * single.length + 16 * pairs.length := by
  intro fuel
  induction fuel with
  | zero => intro single pairs res r k h; unfold weightedLoop at h; exact absurd h cost_fail
  | succ f ih =>
    intro single pairs res r k h
    unfold weightedLoop at h
    split at h
    · obtain ⟨rfl, rfl⟩ := cost_pure.mp h
      exact ⟨0, rfl, by omega⟩
    · simp only at h
      split at h
      · obtain ⟨rfl, rfl⟩ := cost_pure.mp h
        exact ⟨0, rfl, by omega⟩
      · simp only [cost_bind] at h
        obtain ⟨⟨soloR, pairsR⟩, k1, _, h1, ⟨⟨x, nextS, nextP⟩, k2, k3, h2, h3, rfl⟩, rfl⟩ := h
        simp only at h2 h3
        obtain ⟨a1, a3, a2⟩ := shape_pairUp _ _ _ _ _ _ h1
        simp only [List.length_reverse, List.length_map] at a1 a2 a3
        replace a2 := a2 (by omega)
        obtain ⟨b1, b2⟩ := cost_xaigLevel_potential (by omega) h2
        obtain ⟨lv, hrl, hk⟩ := ih _ _ _ _ _ h3
        rw [length_insertS, length_insertP] at hk
        have hl1 := takeLevel_length (fun (x : Nat × Label) => x.1) (minLevel single pairs inf) single
        have hl2 := takeLevel_length (fun (x : Nat × Label × Label) => x.1) (minLevel single pairs inf) pairs
        simp only [List.length_append, List.length_singleton] at hrl
        exact ⟨lv + 1, by omega, by omega⟩

/-- `add_sum_n_weighted_bits`: AIG: at most `7n - 4m` gates (documented `7n - 3m`); XAIG: at most
`4.5n - 1.5m` gates — the documented `4.5n - 2m` does NOT hold (`weighted_xaig_documented_bound_fails`) -/
theorem cost_addSumWeighted {ins r : List (Nat × Label)} {basis : BasisArg} {k : Nat}
    (h : Cost (addSumWeighted ins basis) r k) :
    ∃ b, basis.resolve = .ok b ∧
      (b = .xaig → 2 * k + 3 * r.length ≤ 9 * ins.length) ∧ (b = .aig → k + 4 * r.length ≤ 7 * ins.length) := by
  unfold addSumWeighted at h
  split at h
  · exact absurd h cost_fail
  · rename_i b hb
    split at h
    · exact absurd h cost_fail
    · refine ⟨b, hb, ?_, ?_⟩
      · intro e; subst e
        obtain ⟨lv, hl, hk⟩ := cost_weightedLoop_xaig _ _ _ _ _ _ _ h
        rw [(sortBy_facts ins).2.1] at hk
        simp only [List.length_nil, Nat.zero_add, Nat.mul_zero, Nat.add_zero] at hl hk
        omega
      · intro e; subst e
        rw [weightedLoop_aig_eq] at h
        obtain ⟨J3, J2, lv, hk, hl, hJ3, hJ2⟩ := cost_weightedNaiveLoop .aig _ _ _ _ _ _ h
        rw [(sortBy_facts ins).2.1] at hJ3
        simp only [List.length_nil, Nat.zero_add, basisCosts] at hl hk
        omega

end Cirbo
