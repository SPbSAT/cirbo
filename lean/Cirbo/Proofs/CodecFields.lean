import Cirbo.Proofs.EnumGates
import Cirbo.Proofs.BitIO
/-!
# `encode_circuit` as a list of fields (C16)

Every step of the encoder appends a string, or fails with an error, that does not depend on the bits written so far: a
*field*.  The output is the concatenation of the fields up to the first failing one (`encode_fields`).
-/
namespace Cirbo
open GateType

/-- the writer state `w` after the field `f` -/
def thenField (w f : W) : W := match w, f with
  | .error e, _ => .error e
  | .ok _, .error e => .error e
  | .ok pre, .ok bs => .ok (pre ++ bs)

/-- the bits of all the fields, or the first error -/
def cat : List W → W
  | [] => .ok []
  | f :: fs => thenField f (cat fs)

theorem thenField_nil (f : W) : thenField (.ok []) f = f := by
  cases f <;> rfl

theorem thenField_assoc (a b c : W) : thenField (thenField a b) c = thenField a (thenField b c) := by
  cases a <;> cases b <;> cases c <;> simp [thenField]

theorem foldl_thenField {α} {step : W → α → W} {f : α → W} (h : ∀ w a, step w a = thenField w (f a)) :
    ∀ (ls : List α) (w : W), ls.foldl step w = thenField w (cat (ls.map f))
  | [], w => by cases w <;> simp [cat, thenField]
  | a :: t, w => by rw [List.foldl_cons, foldl_thenField h t, h, thenField_assoc]; rfl

theorem cat_append : ∀ (a b : List W), cat (a ++ b) = thenField (cat a) (cat b)
  | [], b => (thenField_nil _).symm
  | f :: a, b => by rw [List.cons_append, cat, cat_append a b, ← thenField_assoc]; rfl

theorem cat_map_ite {α} {f : α → W} {P : α → Prop} [DecidablePred P] {g : α → List Bool} {e : String} :
    ∀ {ls : List α}, (∀ a ∈ ls, f a = if P a then .ok (g a) else .error e) →
      cat (ls.map f) = if ∀ a ∈ ls, P a then .ok (ls.flatMap g) else .error e
  | [], _ => by simp [cat]
  | a :: t, h => by
    rw [List.map_cons, cat, h a List.mem_cons_self, cat_map_ite fun x hx => h x (List.mem_cons_of_mem _ hx)]
    by_cases ht : ∀ x ∈ t, P x
    · by_cases ha : P a <;> simp [ha, eq_true ht, thenField]
    · by_cases ha : P a <;> simp [ha, eq_false ht, thenField]

theorem cat_map_ok {α} {f : α → W} {g : α → List Bool} {ls : List α} (h : ∀ a ∈ ls, f a = .ok (g a)) :
    cat (ls.map f) = .ok (ls.flatMap g) :=
  (cat_map_ite (P := fun _ => True) (e := "") fun a ha => by rw [h a ha, if_pos trivial]).trans
    (if_pos fun _ _ => trivial)

/-- `write_number(k, w)` -/
def numField (k w : Nat) : W := if k < 2 ^ w then .ok (numBits k w) else .error "BitIOError"

theorem wnum_eq (w : W) (k width : Nat) : wnum w k width = thenField w (numField k width) := by
  unfold numField
  cases w with
  | error e => rfl
  | ok pre =>
    by_cases h : k < 2 ^ width
    · simp [wnum, writeNumber_some k width h, h, thenField]
    · simp [wnum, writeNumber_none k width (Nat.le_of_not_lt h), h, thenField]

def idField (ids : List Label) (ws : Nat) (o : Label) : W :=
  if o ∈ ids then numField (ids.idxOf o) ws else .error "Py:KeyError"

/-- the step of the encoder's identifier loops (over a gate's operands, over the outputs), by name -/
def opStep (ids : List Label) (ws : Nat) (w : W) (o : Label) : W := match w with
  | .error e => .error e
  | .ok _ => match idOf ids o with
    | none => .error "Py:KeyError"
    | some i => wnum w i ws

def outStep (ids : List Label) (ws : Nat) (w : W) (o : Label) : W := opStep ids ws w o

theorem opStep_eq (ids : List Label) (ws : Nat) (w : W) (o : Label) :
    opStep ids ws w o = thenField w (idField ids ws o) := by
  cases w with
  | error e => rfl
  | ok pre =>
    by_cases hm : o ∈ ids
    · simp [opStep, idField, idOf, List.idxOf_lt_length_iff.mpr hm, hm, wnum_eq]
    · simp [opStep, idField, idOf, List.idxOf_lt_length_iff, hm, thenField]

/-- nothing for an input, else the type and the operands' identifiers -/
def gateField (ids : List Label) (ws : Nat) (g : Gate) : W :=
  if g.ty = INPUT then .ok [] else
  match Gen.codecTypeId g.ty with
  | none => .error "CircuitEncodingError"
  | some tid =>
    if g.ops.length ≠ Gen.codecArity g.ty then .error "CircuitEncodingError"
    else cat (numField tid Gen.gateTypeBitSize :: g.ops.map (idField ids ws))

theorem encodeGate_eq (ids : List Label) (ws : Nat) (w : W) (g : Gate) :
    encodeGate ids ws w g = thenField w (gateField ids ws g) := by
  cases w with
  | error e => rfl
  | ok pre =>
    unfold encodeGate gateField
    by_cases ht : g.ty = INPUT
    · simp [ht, thenField]
    · cases htid : Gen.codecTypeId g.ty with
      | none => simp [ht, thenField]
      | some tid =>
        by_cases har : g.ops.length = Gen.codecArity g.ty
        · simp only [ht, har, if_false, ne_eq, not_true]
          exact (foldl_thenField (opStep_eq ids ws) _ _).trans (by rw [wnum_eq, thenField_assoc]; rfl)
        · simp [ht, har, thenField]

def labelField (c : Circuit) (ids : List Label) (ws : Nat) (l : Label) : W :=
  match c.find? l with
  | none => .error "GateDoesntExistError"
  | some g => gateField ids ws g

/-- header (word size, numbers of inputs, outputs, other gates), gate records in enumeration order, outputs -/
def fields (c : Circuit) : List W :=
  [numField (wordSize c) 8, numField c.inputs.length (wordSize c), numField c.outputs.length (wordSize c),
    numField (nonInputCount c) (wordSize c)]
  ++ (enumerateGates c).map (labelField c (enumerateGates c) (wordSize c))
  ++ c.outputs.map (idField (enumerateGates c) (wordSize c))

theorem encode_fields (c : Circuit) : encodeCircuit c = match cat (fields c) with
    | .error e => .error e
    | .ok bits => .ok (packBytes bits) := by
  have hg : ∀ (w : W) l, (match w with
      | .error e => .error e
      | .ok _ => match c.find? l with
        | none => .error "GateDoesntExistError"
        | some g => encodeGate (enumerateGates c) (wordSize c) w g)
      = thenField w (labelField c (enumerateGates c) (wordSize c) l) := by
    intro w l
    unfold labelField
    cases w with
    | error e => rfl
    | ok pre => cases c.find? l with
      | none => rfl
      | some g => exact encodeGate_eq _ _ _ g
  unfold encodeCircuit
  refine congrArg (fun w : W => match w with
    | .error e => Except.error e
    | .ok bits => Except.ok (packBytes bits)) ?_
  refine (foldl_thenField (opStep_eq _ _) _ _).trans ((congrArg (thenField · _) (foldl_thenField hg _ _)).trans ?_)
  simp only [wnum_eq, thenField_nil, fields, cat_append, cat, thenField_assoc]

def idsBits (ws : Nat) (is : List Nat) : List Bool := is.flatMap (fun i => numBits i ws)

theorem codecType_table {ty : GateType} {tid : Nat} (h : Gen.codecTypeId ty = some tid) :
    tid < 2 ^ Gen.gateTypeBitSize ∧ (Gen.codecTypeOfId[tid]?).join = some ty ∧ ty ≠ INPUT := by
  cases ty <;> simp [Gen.codecTypeId] at h <;> subst h <;> decide

/-- a gate record: type and operand numbers -/
abbrev Rec := GateType × List Nat

def recBits (ws : Nat) (r : Rec) : List Bool :=
  numBits ((Gen.codecTypeId r.1).getD 0) Gen.gateTypeBitSize ++ idsBits ws r.2

def recsBits (ws : Nat) (R : List Rec) : List Bool := R.flatMap (recBits ws)

def recOf (ids : List Label) (g : Gate) : Rec := (g.ty, g.ops.map (fun o => ids.idxOf o))

def nonInputGates (c : Circuit) (ls : List Label) : List Gate :=
  (ls.filterMap c.find?).filter (fun g => g.ty != INPUT)

/-- what `encode_circuit` writes when every field fits (the inputs' empty records left out) -/
def encBits (c : Circuit) : List Bool :=
  let ws := wordSize c
  let ids := enumerateGates c
  numBits ws 8 ++ (numBits c.inputs.length ws ++ (numBits c.outputs.length ws ++ (numBits (nonInputCount c) ws ++
    (recsBits ws ((nonInputGates c ids).map (recOf ids)) ++ idsBits ws (c.outputs.map fun o => ids.idxOf o)))))

end Cirbo
