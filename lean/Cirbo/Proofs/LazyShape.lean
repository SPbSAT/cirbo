import Cirbo.Proofs.EvalLazy
import Cirbo.Proofs.LazyTerm
/-!
# The demand-driven evaluator visits the same gates whatever the values
-/
namespace Cirbo
open GateType

/-- the two dictionaries have entries for the same labels of the circuit -/
def SameKeys (c : Circuit) (d d' : Asg) : Prop := ∀ l ∈ c.labels, d.contains l = d'.contains l

theorem lazyStep_shape {c : Circuit} (h : WF c)
    {s s1 s1' : List Label} {d d' e1 e1' : Asg} (hk : SameKeys c d d')
    (hs : lazyStep c s d = .ok (s1, e1)) (hs' : lazyStep c s d' = .ok (s1', e1')) :
    s1 = s1' ∧ SameKeys c e1 e1' := by
  obtain ⟨rk, hrk⟩ := h.rank
  rcases lazyStep_cases (irrefl_of_rank hrk) s d with
    ⟨rfl, -⟩ | ⟨q, top, rfl, ⟨-, e⟩ | ⟨g, hg, rfl, hf, -⟩⟩
  · cases hs; cases hs'; exact ⟨rfl, hk⟩
  · rw [e] at hs; cases hs
  · -- the same operands are missing under both dictionaries
    have hmiss : missingOps d' g.ops = missingOps d g.ops :=
      List.filter_congr fun o ho => by rw [hk o (h.closed g hg o ho)]
    rw [lazyStep_snoc (irrefl_of_rank hrk) hf] at hs hs'
    rw [hmiss] at hs'
    split at hs
    · rw [if_pos ‹_›] at hs'
      cases he : evalGate g d with
      | error _ => rw [he] at hs; cases hs
      | ok r =>
        cases he' : evalGate g d' with
        | error _ => rw [he'] at hs'; cases hs'
        | ok r' =>
          rw [he] at hs; rw [he'] at hs'; cases hs; cases hs'
          exact ⟨rfl, fun l hl => by rw [contains_set, contains_set, hk l hl]⟩
    · rw [if_neg ‹_›] at hs'; cases hs; cases hs'
      exact ⟨rfl, hk⟩

theorem lazyLoop_shape {c : Circuit} (h : WF c) {fuel : Nat} {s : List Label} {d d' e e' : Asg}
    (hk : SameKeys c d d') (hl : lazyLoop c fuel s d = .ok e) (hl' : lazyLoop c fuel s d' = .ok e') :
    SameKeys c e e' := by
  -- the run from `d` is followed by a run from a dictionary with the same keys that returns `e'`
  have ind := lazyLoop_induct (c := c)
    (P := fun n s d => ∃ d', SameKeys c d d' ∧ lazyLoop c n s d' = .ok e') (by
      rintro n s d s1 d1 ⟨d', hk, hl'⟩ hne hs
      rw [lazyLoop_succ hne] at hl'
      cases hs' : lazyStep c s d' with
      | error x => rw [hs'] at hl'; cases hl'
      | ok p =>
        rw [hs'] at hl'
        obtain ⟨rfl, hk1⟩ := lazyStep_shape h hk hs hs'
        exact ⟨p.2, hk1, hl'⟩)
  obtain ⟨n, d1, hk1, h1⟩ := (ind fuel s d ⟨d', hk, hl'⟩).1 e hl
  rw [lazyLoop_nil] at h1
  cases h1
  exact hk1

theorem initAsg_sameKeys {c : Circuit} (h : WF c) (asg asg' : Asg)
    (hasg : ∀ g ∈ c.gates, g.ty ≠ INPUT → asg.get? g.label = none)
    (hasg' : ∀ g ∈ c.gates, g.ty ≠ INPUT → asg'.get? g.label = none) :
    SameKeys c (initAsg c asg) (initAsg c asg') := by
  intro l hl
  obtain ⟨g, hg, hgl⟩ := gate_of_label hl
  unfold Dict.contains
  rw [initAsg_get?, initAsg_get?]
  by_cases hty : g.ty = INPUT
  · have : l ∈ c.inputs := hgl ▸ (mem_inputs_iff h hg).mpr hty
    simp [this]
  · have hni : l ∉ c.inputs := hgl ▸ fun hin => hty ((mem_inputs_iff h hg).mp hin)
    simp only [hni, if_false]
    rw [← hgl, hasg g hg hty, hasg' g hg hty]

/-- the same gates are evaluated under both assignments, so every reported value is monotone -/
theorem evalLazy_mono_all {c : Circuit} (h : WF c) (asg asg' : Asg) (outs : Option (List Label))
    (hasg : ∀ g ∈ c.gates, g.ty ≠ INPUT → asg.get? g.label = none)
    (hasg' : ∀ g ∈ c.gates, g.ty ≠ INPUT → asg'.get? g.label = none)
    (houts : ∀ o ∈ outs.getD c.outputs, o ∈ c.labels)
    {v v' : Label → V3} (hv : IsVal3 c (asgFun asg) v) (hv' : IsVal3 c (asgFun asg') v')
    (hle : ∀ l, asgFun asg l ≤ asgFun asg' l)
    {d d' : Asg} (hd : evalLazy c asg outs = .ok d) (hd' : evalLazy c asg' outs = .ok d') :
    ∀ g ∈ c.gates, valOf d g.label ≤ valOf d' g.label := by
  obtain ⟨d1, e, hl, he, hget, hev, -⟩ := evalLazy_spec h asg outs hasg houts hv rfl
  obtain ⟨d1', e', hl', he', hget', hev', -⟩ := evalLazy_spec h asg' outs hasg' houts hv' rfl
  cases hd.symm.trans he
  cases hd'.symm.trans he'
  have hsk := lazyLoop_shape h (initAsg_sameKeys h asg asg' hasg hasg') hl hl'
  intro g hg
  have hlm := mem_labels_of_mem hg
  have hk := hsk g.label hlm
  unfold valOf
  rw [hget, hget', if_pos hlm, if_pos hlm]
  unfold Dict.contains at hk
  cases hx : d1.get? g.label with
  | none => simp [valOf, hx]; exact Or.inl rfl
  | some x =>
    cases hx' : d1'.get? g.label with
    | none => rw [hx, hx'] at hk; simp at hk
    | some x' =>
      simp only [valOf, hx, hx', Option.getD_some]
      rw [hev _ hlm x hx, hev' _ hlm x' hx']
      exact val3_mono h hle hv hv' g hg

end Cirbo
