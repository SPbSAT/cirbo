import Cirbo.Model.Gen3
import Cirbo.Proofs.GenTotal
import Cirbo.Proofs.GenCost
import Cirbo.Proofs.Lists
/-!
# The contract every generator meets

A callee is given the list `K ++ lab a` of everything known to be a gate so far, so that "this operand is a gate" is
membership in a list (`lmem`).  `Yields` binds the state, the pending labels and that list, so that a proof names only
the labels a program reads and returns; it has no rule for a label drawn now and added later, nor for `mark`: only the
generators of `generation.py` do either, and they stay statements about `Ok`.
-/
namespace Cirbo

/-- the labels `P` are pending: pairwise different, each drawn below the counter (and below `16 ^ 32`), none a label of
the circuit yet -/
structure Inv (st : GSt) (P : List Label) : Prop where
  nd : P.Nodup
  pend : ∀ d ∈ P, d ∉ st.c.labels ∧ ∃ j, j < st.ctr ∧ j < 16 ^ 32 ∧ d = newLabel j

theorem Inv.nil (st : GSt) : Inv st [] := ⟨List.nodup_nil, fun d hd => by cases hd⟩

theorem Inv.fresh {st : GSt} {P : List Label} (hinv : Inv st P) {l : Label} {ctr' : Nat} (hl : l ∉ st.c.labels)
    (hlt : st.ctr < ctr') (hle : ctr' ≤ 16 ^ 32) (hj : ∃ j, st.ctr ≤ j ∧ j < ctr' ∧ l = newLabel j) :
    Inv ⟨st.c, ctr'⟩ (l :: P) := by
  obtain ⟨j, hj1, hj2, hj3⟩ := hj
  refine ⟨List.nodup_cons.mpr ⟨fun hm => ?_, hinv.nd⟩, fun d hd => ?_⟩
  · obtain ⟨_, j', hj', hj'2, e⟩ := hinv.pend l hm
    have := newLabel_inj (by omega) hj'2 (hj3.symm.trans e)
    omega
  · rcases List.mem_cons.mp hd with rfl | hd
    · exact ⟨hl, j, hj2, by omega, hj3⟩
    · obtain ⟨a, j', hj', hj'2, e⟩ := hinv.pend d hd
      exact ⟨a, j', Nat.lt_trans hj' hlt, hj'2, e⟩

theorem Inv.tail {st : GSt} {l : Label} {P : List Label} (h : Inv st (l :: P)) : Inv st P :=
  ⟨(List.nodup_cons.mp h.nd).2, fun d hd => h.pend d (List.mem_cons_of_mem _ hd)⟩

/-- `erase`: the label added may be pending (it is, in `emit`) or not -/
theorem Inv.added {st st' : GSt} {P : List Label} {lb : Label} (h : Inv st P)
    (hf : ∀ x, x ∉ st.c.labels → x ≠ lb → x ∉ st'.c.labels) (hc : st'.ctr = st.ctr) : Inv st' (P.erase lb) :=
  ⟨h.nd.erase _, fun d hd => by
    obtain ⟨hne, hdP⟩ := (List.Nodup.mem_erase_iff h.nd).mp hd
    obtain ⟨a, hj⟩ := h.pend d hdP
    exact ⟨hf d a hne, hc ▸ hj⟩⟩

/-- `r` is not one of the labels still to be drawn from this state on -/
def ca_NF (st : GSt) (r : Label) : Prop := ∀ j, st.ctr ≤ j → j < 16 ^ 32 → r ≠ newLabel j

theorem ca_NF_mono {st st' : GSt} {r : Label} (h : st.ctr ≤ st'.ctr) (hr : ca_NF st r) : ca_NF st' r :=
  fun j hj hj2 => hr j (by omega) hj2

theorem ca_NF_pend {st : GSt} {P : List Label} {d : Label} (hinv : Inv st P) (hd : d ∈ P) : ca_NF st d := by
  intro j hj hj2 e
  obtain ⟨_, j', hj', hj'2, e'⟩ := hinv.pend d hd
  have := newLabel_inj hj'2 hj2 (e'.symm.trans e)
  omega

def Kn (st : GSt) (K : List Label) : Prop := ∀ l ∈ K, l ∈ st.c.labels

/-- everything one learns of a drawn label: pending, not a gate, not restricted, none of the labels never drawn again -/
theorem Ok.freshK {α} {r : List Label} {k : Label → Prog α} {st : GSt} {P K : List Label} {Q : α → GSt → Prop}
    (hinv : Inv st P) (hk : Kn st K)
    (h : ∀ l st', st'.c = st.c → st.ctr ≤ st'.ctr → Inv st' (l :: P) → Kn st' K → l ∉ r → (∀ x, ca_NF st x → x ≠ l) →
      Ok (k l) st' Q) : Ok (Prog.fresh r k) st Q := by
  apply Ok.fresh
  intro l ctr' hl hr hlt hle hj
  refine h l ⟨st.c, ctr'⟩ rfl (Nat.le_of_lt hlt) (hinv.fresh hl hlt hle hj) hk hr fun x hx e => ?_
  obtain ⟨j, hj1, hj2, hj3⟩ := hj
  exact hx j hj1 (by omega) (e.trans hj3)

theorem Ok.addK {α} {lb : Label} {ty : GateType} {ops : List Label} {ok : tyOk ty ops.length = true} {k : Prog α} {st : GSt}
    {K : List Label} {Q : α → GSt → Prop} (hk : Kn st K) (hl : lb ∉ st.c.labels) (ho : ∀ o ∈ ops, o ∈ K)
    (h : ∀ st', (∀ x, x ∉ st.c.labels → x ≠ lb → x ∉ st'.c.labels) → st'.ctr = st.ctr → Kn st' (K ++ [lb]) → Ok k st' Q) :
    Ok (Prog.add ⟨lb, ty, ops⟩ ok k) st Q :=
  have e := labels_rawAddGate (g := ⟨lb, ty, ops⟩) hl
  Ok.add (g := ⟨lb, ty, ops⟩) hl (fun o h' => hk o (ho o h')) <|
    h ⟨st.c.rawAddGate ⟨lb, ty, ops⟩, st.ctr⟩
      (fun _ hx hne => e ▸ fun hm => (List.mem_append.mp hm).elim hx fun h' => hne (List.mem_singleton.mp h')) rfl fun l hl => e ▸
      (List.mem_append.mp hl).elim (fun h => List.mem_append_left _ (hk l h)) (List.mem_append_right _)

theorem Ok.markK {α} {l : Label} {k : Prog α} {st : GSt} {K : List Label} {Q : α → GSt → Prop} (hk : Kn st K) (hl : l ∈ K)
    (h : ∀ st', st'.c.labels = st.c.labels → st'.ctr = st.ctr → Kn st' K → Ok k st' Q) : Ok (Prog.mark l k) st Q :=
  Ok.mark (hk l hl) (h _ rfl rfl hk)

/-- `if add_outputs: circuit.mark_as_output(l)` -/
theorem Ok.markIf {α} {ao : Bool} {l : Label} {k : Prog α} {st : GSt} {K : List Label} {Q : α → GSt → Prop}
    (hk : Kn st K) (hl : l ∈ K)
    (h : ∀ st', st'.c.labels = st.c.labels → st'.ctr = st.ctr → Kn st' K → Ok k st' Q) :
    Ok (if ao then Prog.mark l k else k) st Q := by
  cases ao
  · exact h st rfl rfl hk
  · exact Ok.markK hk hl h

theorem Ok.fail_never {α} {e : String} {st : GSt} {Q : α → GSt → Prop} (h : False) : Ok (Prog.fail e : Prog α) st Q := h.elim

/-- pending labels stay pending, known labels stay known, the returned labels are known, the result has the shape `S` -/
def GPost {α} (P K : List Label) (lab : α → List Label) (S : α → Prop) : α → GSt → Prop :=
  fun a st' => Inv st' P ∧ Kn st' (K ++ lab a) ∧ S a

theorem Kn.mono {st : GSt} {K K' : List Label} (h : Kn st K) (hs : ∀ l ∈ K', l ∈ K) : Kn st K' := fun l hl => h l (hs l hl)

theorem Kn.append {st : GSt} {A B : List Label} (ha : Kn st A) (hb : Kn st B) : Kn st (A ++ B) :=
  fun l hl => (List.mem_append.mp hl).elim (ha l) (hb l)

theorem GPost.mono {α} {P K K' : List Label} {lab : α → List Label} {S S' : α → Prop} {a : α} {st : GSt}
    (h : GPost P K' lab S a st) (hK : ∀ l ∈ K, l ∈ K') (hS : S a → S' a) : GPost P K lab S' a st :=
  ⟨h.1, (h.2.1.mono fun l hl => List.mem_append_left _ (hK l hl)).append (h.2.1.mono fun _ => List.mem_append_right _),
    hS h.2.2⟩

/-- fewer labels need stay known, and the shape may be weaker -/
theorem Ok.monoK {α} {p : Prog α} {st : GSt} {P K K' : List Label} {lab : α → List Label} {S S' : α → Prop}
    (h : Ok p st (GPost P K' lab S)) (hK : ∀ l ∈ K, l ∈ K') (hS : ∀ a, S a → S' a) : Ok p st (GPost P K lab S') :=
  h.mono fun a _ g => g.mono hK (hS a)

theorem Ok.lessK {α} {p : Prog α} {st : GSt} {P K K' : List Label} {lab : α → List Label} {S : α → Prop}
    (h : Ok p st (GPost P K' lab S)) (hK : ∀ l ∈ K, l ∈ K') : Ok p st (GPost P K lab S) :=
  h.monoK hK fun _ => id

theorem Ok.shape {α} {p : Prog α} {st : GSt} {P K : List Label} {lab : α → List Label} {S S' : α → Prop}
    (h : Ok p st (GPost P K lab S)) (hS : ∀ a, S a → S' a) : Ok p st (GPost P K lab S') :=
  h.monoK (fun _ => id) hS

theorem okK_emit {ty : GateType} {ops : List Label} {ok : tyOk ty ops.length = true} {st : GSt} {P K : List Label}
    (hinv : Inv st P) (hk : Kn st K) (ho : ∀ o ∈ ops, o ∈ K) :
    Ok (emit ty ops ok) st (GPost P K (fun l => [l]) (fun _ => True)) := by
  unfold emit
  apply Ok.freshK hinv hk
  intro l st1 _ _ hinv1 hk1 _ _
  apply Ok.addK hk1 (hinv1.pend l List.mem_cons_self).1 ho
  intro st2 hf hc hk2
  have hinv2 := hinv1.added hf hc
  rw [List.erase_cons_head] at hinv2
  exact Ok.ret ⟨hinv2, hk2, trivial⟩

theorem okK_emitTT {x y : Label} {op : TT} {st : GSt} {P K : List Label} (hinv : Inv st P) (hk : Kn st K)
    (hop : (Gen.ttType op.1 op.2.1 op.2.2.1 op.2.2.2).isSome = true)
    (hx : x ∈ K) (hy : y ∈ K) : Ok (emitTT x y op) st (GPost P K (fun l => [l]) (fun _ => True)) := by
  unfold emitTT
  split
  · rename_i h; rw [h] at hop; cases hop
  · exact okK_emit hinv hk (by intro o ho; simp only [List.mem_cons, List.not_mem_nil, or_false] at ho; rcases ho with rfl | rfl <;> assumption)

/-- side goals `x ∈ B` and `∀ l ∈ A, l ∈ B` for lists built with `++` and `::`: a member of `A` is found in `B` literally or
through a hypothesis `∀ l ∈ A', l ∈ B'` of the context -/
syntax "lmem" (" [" Lean.Parser.Tactic.simpLemma,* "]")? : tactic
macro_rules
  | `(tactic| lmem) => `(tactic| lmem [])
  | `(tactic| lmem [$ls,*]) => `(tactic| simp +contextual only [or_imp, forall_and, forall_eq, List.mem_append, List.mem_cons,
      List.mem_singleton, List.not_mem_nil, List.mem_reverse, or_false, false_or, true_or, or_true, and_true, true_and, and_self,
      false_implies, implies_true, id, *, $ls,*])

/-- a straight-line block of `add_gate_from_tt` calls: `(i, j, op)` applies `op` to the labels at positions `i` and `j`
(the inputs first, then the results in order); the labels at the positions `out` are returned.  The environment is kept
newest first, so that reading a position of a concrete block is evaluation on a plain list. -/
def slBlock : List (Nat × Nat × TT) → List Nat → List Label → Prog (List Label)
  | [], out, env => pure (out.map fun i => env.getD (env.length - 1 - i) "")
  | (i, j, op) :: is, out, env => do
    let g ← emitTT (env.getD (env.length - 1 - i) "") (env.getD (env.length - 1 - j) "") op
    slBlock is out (g :: env)

/-- the table is well formed for `n` inputs: every position read exists when it is read, every truth table has a gate type -/
def slOk : List (Nat × Nat × TT) → List Nat → Nat → Bool
  | [], out, n => out.all (· < n)
  | (i, j, op) :: is, out, n =>
    i < n && j < n && (Gen.ttType op.1 op.2.1 op.2.2.1 op.2.2.2).isSome && slOk is out (n + 1)

theorem ok_slBlock_from {P : List Label} : ∀ (is : List (Nat × Nat × TT)) (out : List Nat) (env : List Label) (st : GSt)
    (K : List Label), Inv st P → Kn st K → (∀ l ∈ env, l ∈ K) → slOk is out env.length = true →
    Ok (slBlock is out env) st (GPost P K id (fun r => r.length = out.length)) := by
  intro is
  induction is with
  | nil =>
    intro out env st K hinv hk henv hok
    refine Ok.ret ⟨hinv, hk.append fun l hl => ?_, List.length_map _⟩
    obtain ⟨i, hi, rfl⟩ := List.mem_map.mp hl
    exact hk _ (henv _ (List.getD_mem_of_lt _ (by have := of_decide_eq_true (List.all_eq_true.mp hok i hi); omega)))
  | cons ins is ih =>
    intro out env st K hinv hk henv hok
    obtain ⟨i, j, op⟩ := ins
    simp only [slOk, Bool.and_eq_true, decide_eq_true_eq] at hok
    obtain ⟨⟨⟨hi, hj⟩, hop⟩, hrest⟩ := hok
    refine Ok.bind (okK_emitTT hinv hk hop (henv _ (List.getD_mem_of_lt _ (by omega))) (henv _ (List.getD_mem_of_lt _ (by omega))))
      fun g s1 ⟨i1, k1, _⟩ => ?_
    exact (ih out (g :: env) s1 (K ++ [g]) i1 k1 (by lmem) hrest).lessK (by lmem)

theorem ok_slBlock {P : List Label} (is : List (Nat × Nat × TT)) (out : List Nat) (ins : List Label) (st : GSt)
    (K : List Label) (hinv : Inv st P) (hk : Kn st K) (hins : ∀ l ∈ ins, l ∈ K) (hok : slOk is out ins.length = true) :
    Ok (slBlock is out ins.reverse) st (GPost P K id (fun r => r.length = out.length)) :=
  ok_slBlock_from is out ins.reverse st K hinv hk (by lmem) (by rw [List.length_reverse]; exact hok)

/-- `for x in xs: s = f(s, x)`; the invariant may mention the elements still to come -/
theorem ok_foldl {σ β : Type} (f : σ → β → Prog σ) (Φ : List β → σ → GSt → Prop)
    (hstep : ∀ x r s st, Φ (x :: r) s st → Ok (f s x) st (Φ r)) :
    ∀ (xs : List β) (acc : Prog σ) (st : GSt), Ok acc st (Φ xs) →
      Ok (xs.foldl (fun acc x => acc >>= fun s => f s x) acc) st (Φ []) := by
  intro xs
  induction xs with
  | nil => intro acc st h; exact h
  | cons x t ih =>
    intro acc st h
    exact ih _ st (Ok.bind h (fun s st' hs => hstep x t s st' hs))

/-- `for i in xs: s = f(s, i)` with an invariant indexed by the position in `xs` -/
theorem ok_progFold_idx {σ : Type} {f : σ → Nat → Prog σ} :
    ∀ (xs : List Nat) (Φ : Nat → σ → GSt → Prop) (s : σ) (st : GSt), Φ 0 s st →
    (∀ k i s st, xs[k]? = some i → Φ k s st → Ok (f s i) st (Φ (k + 1))) →
    Ok (progFold xs s f) st (Φ xs.length) := by
  intro xs
  induction xs with
  | nil => intro Φ s st h0 _; exact Ok.ret h0
  | cons x r ih =>
    intro Φ s st h0 hstep
    apply Ok.bind (hstep 0 x s st rfl h0)
    intro s1 st1 h1
    exact ih (fun k => Φ (k + 1)) s1 st1 h1 (fun k i s st hk => hstep (k + 1) i s st hk)

/-- the invariant indexed by the indices still to come -/
theorem ok_progFold_rest {σ : Type} {f : σ → Nat → Prog σ} (Φ : List Nat → σ → GSt → Prop) :
    ∀ (xs : List Nat) (s : σ) (st : GSt),
      (∀ i r s st, (∃ pre, pre ++ i :: r = xs) → Φ (i :: r) s st → Ok (f s i) st (Φ r)) → Φ xs s st →
      Ok (progFold xs s f) st (Φ []) := by
  intro xs s st hstep h
  have := ok_progFold_idx (f := f) xs (fun k => Φ (xs.drop k)) s st h fun k i s st hk hJ => by
    obtain ⟨hlt, rfl⟩ := List.getElem?_eq_some_iff.mp hk
    rw [List.drop_eq_getElem_cons hlt] at hJ
    exact hstep _ _ s st ⟨xs.take k, by rw [← List.drop_eq_getElem_cons hlt, List.take_append_drop]⟩ hJ
  rwa [List.drop_length] at this

/-- wherever the labels `I` are gates, `p` returns (or the label space is exhausted); pending labels stay pending,
gates stay gates, the labels `lab a` of the result `a` are gates, and `a` has the shape `S` -/
def Yields {α} (I : List Label) (p : Prog α) (lab : α → List Label) (S : α → Prop) : Prop :=
  ∀ (st : GSt) (P K : List Label), Inv st P → Kn st K → (∀ l ∈ I, l ∈ K) → Ok p st (GPost P K lab S)

abbrev YieldsL {α} (I : List Label) (p : Prog α) (lab : α → List Label) : Prop := Yields I p lab (fun _ => True)

/-- some run of `p` returned `a`.  The rest of a program learns this of its argument (`bindR`), so what `Sem`, `SemF` or
`Cost` prove of the results of `p` need not be carried in `S`. -/
def Ran {α} (p : Prog α) (a : α) : Prop := ∃ st st', p.run st = .ok (a, st')

theorem Ran.cost {α} {p : Prog α} {a : α} (h : Ran p a) : ∃ n, Cost p a n :=
  let ⟨_, _, e⟩ := h; let ⟨n, c, _⟩ := run_cost p e; ⟨n, c⟩

theorem Ran.sem {α} {p : Prog α} {a : α} (h : Ran p a) : ∃ v, Sem p v a :=
  let ⟨_, _, e⟩ := h; let ⟨v, _, s⟩ := run_semF_ext e (fun _ => true); ⟨v, semF_sem s⟩

theorem Ran.semF {α} {p : Prog α} {a : α} (h : Ran p a) : ∃ v, SemF Drawn (fun _ => True) p v a :=
  let ⟨_, _, e⟩ := h; let ⟨v, _, s⟩ := run_semF_ext e (fun _ => true); ⟨v, s.mono (fun _ => id) fun _ g => ⟨g.1, trivial⟩⟩

namespace Yields
variable {α β : Type} {I J : List Label} {p : Prog α} {lab : α → List Label} {S S' : α → Prop}

theorem ret {a : α} (hl : ∀ l ∈ lab a, l ∈ I) (hs : S a) : Yields I (Pure.pure a : Prog α) lab S :=
  fun _ _ _ hinv hk hI => Ok.ret ⟨hinv, hk.append (hk.mono fun l h => hI l (hl l h)), hs⟩

theorem mono (h : Yields I p lab S) (hI : ∀ l ∈ I, l ∈ J) (hS : ∀ a, S a → S' a) : Yields J p lab S' :=
  fun st P K hinv hk hJ => (h st P K hinv hk fun l hl => hJ l (hI l hl)).shape hS

theorem sub (h : Yields I p lab S) (hI : ∀ l ∈ I, l ∈ J) : Yields J p lab S := h.mono hI fun _ => id

theorem shape (h : Yields I p lab S) (hS : ∀ a, S a → S' a) : Yields I p lab S' := h.mono (fun _ => id) hS

theorem bindR {f : α → Prog β} {lab' : β → List Label} {R : β → Prop} (hp : Yields I p lab S) (hI : ∀ l ∈ I, l ∈ J)
    (hf : ∀ a, S a → Ran p a → Yields (J ++ lab a) (f a) lab' R) : Yields J (p >>= f) lab' R := by
  intro st P K hinv hk hJ
  have h1 : Ok p st (fun a st' => GPost P K lab S a st' ∧ Ran p a) := by
    rcases hp st P K hinv hk fun l hl => hJ l (hI l hl) with ⟨a, st', e, g⟩ | e
    · exact Or.inl ⟨a, st', e, g, st, st', e⟩
    · exact Or.inr e
  exact Ok.bind h1 fun a st' ⟨g, r⟩ =>
    (hf a g.2.2 r st' P (K ++ lab a) g.1 g.2.1 (List.mem_append_mono _ hJ)).lessK fun _ => List.mem_append_left _

theorem bind {f : α → Prog β} {lab' : β → List Label} {R : β → Prop} (hp : Yields I p lab S) (hI : ∀ l ∈ I, l ∈ J)
    (hf : ∀ a, S a → Yields (J ++ lab a) (f a) lab' R) : Yields J (p >>= f) lab' R :=
  hp.bindR hI fun a s _ => hf a s

theorem shapeR (h : Yields I p lab S) (hS : ∀ a, S a → Ran p a → S' a) : Yields I p lab S' := by
  intro st P K hinv hk hI
  rcases h st P K hinv hk hI with ⟨a, st', e, g⟩ | e
  · exact Or.inl ⟨a, st', e, g.1, g.2.1, hS a g.2.2 ⟨st, st', e⟩⟩
  · exact Or.inr e

theorem emit {ty : GateType} {ops : List Label} {ok : tyOk ty ops.length = true} (ho : ∀ o ∈ ops, o ∈ I) :
    Yields I (emit ty ops ok) (fun l => [l]) (fun _ => True) :=
  fun _ _ _ hinv hk hI => okK_emit hinv hk fun o h => hI o (ho o h)

theorem emitTT {x y : Label} {op : TT} (hop : (Gen.ttType op.1 op.2.1 op.2.2.1 op.2.2.2).isSome = true)
    (hx : x ∈ I) (hy : y ∈ I) : Yields I (emitTT x y op) (fun l => [l]) (fun _ => True) :=
  fun _ _ _ hinv hk hI => okK_emitTT hinv hk hop (hI x hx) (hI y hy)

/-- `addSum2 [x1, x2]` unfolds by definition to `slBlock table outs [x2, x1]`: a contract stated as
`.slBlock table outs ins rfl` makes the elaborator unify the two, so a wrong table is a type mismatch; the `rfl` is only `slOk`. -/
theorem slBlock (is : List (Nat × Nat × TT)) (out : List Nat) (ins : List Label) (hok : slOk is out ins.length = true) :
    Yields ins (slBlock is out ins.reverse) id (fun r => r.length = out.length) :=
  fun st _ K hinv hk hI => ok_slBlock is out ins st K hinv hk hI hok

theorem emitTT_bind {x y : Label} {op : TT} {f : Label → Prog β} {lab' : β → List Label} {R : β → Prop}
    (hop : (Gen.ttType op.1 op.2.1 op.2.2.1 op.2.2.2).isSome = true) (hx : x ∈ I) (hy : y ∈ I)
    (h : ∀ g, Yields (I ++ [g]) (f g) lab' R) : Yields I (Cirbo.emitTT x y op >>= f) lab' R :=
  (emitTT hop hx hy).bind (fun _ => id) fun g _ => h g

theorem emit_bind {ty : GateType} {ops : List Label} {ok : tyOk ty ops.length = true} {f : Label → Prog β}
    {lab' : β → List Label} {R : β → Prop} (ho : ∀ o ∈ ops, o ∈ I) (h : ∀ g, Yields (I ++ [g]) (f g) lab' R) :
    Yields I (Cirbo.emit ty ops ok >>= f) lab' R :=
  (emit ho).bind (fun _ => id) fun g _ => h g

theorem pair2_bind {l : List Label} {f : Label × Label → Prog β} {lab' : β → List Label} {R : β → Prop}
    (hl : l.length = 2) (h : ∀ x y, l = [x, y] → Yields I (f (x, y)) lab' R) : Yields I (pair2 l >>= f) lab' R :=
  match l, hl with
  | [x, y], _ => h x y rfl

theorem triple3_bind {l : List Label} {f : Label × Label × Label → Prog β} {lab' : β → List Label} {R : β → Prop}
    (hl : l.length = 3) (h : ∀ x y z, l = [x, y, z] → Yields I (f (x, y, z)) lab' R) : Yields I (triple3 l >>= f) lab' R :=
  match l, hl with
  | [x, y, z], _ => h x y z rfl

theorem sumPair_bind {l : List Label} {f : Label × Label → Prog β} {lab' : β → List Label} {R : β → Prop}
    (hl : l.length = 2) (h : ∀ x y, l = [x, y] → Yields I (f (x, y)) lab' R) : Yields I (sumPair l >>= f) lab' R :=
  match l, hl with
  | [x, y], _ => h x y rfl

theorem firstOfRev {nowR : List Label} (hne : nowR ≠ []) : Yields nowR (firstOfRev nowR) (fun x => [x]) (fun _ => True) := by
  unfold Cirbo.firstOfRev
  cases hg : nowR.getLast? with
  | none => exact absurd (List.getLast?_eq_none_iff.mp hg) hne
  | some x => exact ret (fun l hl => List.mem_singleton.mp hl ▸ List.mem_of_getLast? hg) trivial

/-- a shape read off `Sem` witnesses under valuations chosen on `I` -/
theorem shapeV (h : Yields I p lab S)
    (hS : ∀ a, S a → (∀ v0 : Label → Bool, ∃ v, (∀ l ∈ I, v l = v0 l) ∧ Sem p v a) → S' a) : Yields I p lab S' := by
  intro st P K hinv hk hI
  rcases h st P K hinv hk hI with ⟨a, st', e, g⟩ | e
  · refine Or.inl ⟨a, st', e, g.1, g.2.1, hS a g.2.2 fun v0 => ?_⟩
    obtain ⟨v, h1, h2⟩ := run_semF_ext e v0
    exact ⟨v, fun l hl => h1 l (hk l (hI l hl)), semF_sem h2⟩
  · exact Or.inr e

/-- labels and shape read off the `SemF` witness: `H` is any property that the labels read have and that the label of
every gate added has (for a run: "is a gate of the circuit reached") -/
theorem semF {lab' : α → List Label} (h : Yields I p lab S)
    (hw : ∀ a v (H : Label → Prop), (∀ l ∈ I, H l) → S a → SemF Drawn H p v a → (∀ l ∈ lab' a, H l) ∧ S' a) :
    Yields I p lab' S' := by
  intro st P K hinv hk hI
  rcases h st P K hinv hk hI with ⟨a, st', e, g⟩ | e
  · obtain ⟨v, _, w⟩ := run_semF_ext e (fun _ => true)
    obtain ⟨w1, w2⟩ := hw a v (· ∈ st'.c.labels) (fun l hl => g.2.1 l (List.mem_append_left _ (hI l hl))) g.2.2 w
    exact Or.inl ⟨a, st', e, g.1, (g.2.1.mono fun _ => List.mem_append_left _).append w1, w2⟩
  · exact Or.inr e

/-- `for x in xs: s = f(s, x)` -/
theorem foldl {σ β : Type} (f : σ → β → Prog σ) (lab : σ → List Label) (S : σ → Prop) (xs : List β)
    (hstep : ∀ x ∈ xs, ∀ s, S s → Yields (I ++ lab s) (f s x) lab S) (s : σ) (hs : S s) :
    Yields (I ++ lab s) (xs.foldl (fun acc x => acc >>= fun s => f s x) (pure s)) lab S := by
  intro st P K hinv hk hI
  refine (ok_foldl f (fun r s st => Inv st P ∧ Kn st (K ++ lab s) ∧ S s ∧ ∀ x ∈ r, x ∈ xs) ?_ xs (pure s) st
    (Ok.ret ⟨hinv, hk.append (hk.mono fun l hl => hI l (List.mem_append_right _ hl)), hs, fun _ => id⟩)).mono
    fun _ _ h => ⟨h.1, h.2.1, h.2.2.1⟩
  intro x r s st ⟨h1, h2, h3, h4⟩
  exact ((hstep x (h4 x List.mem_cons_self) s h3 st P (K ++ lab s) h1 h2
    (List.mem_append_mono _ fun l hl => hI l (List.mem_append_left _ hl))).lessK fun _ => List.mem_append_left _).mono
    fun _ _ g => ⟨g.1, g.2.1, g.2.2, fun y hy => h4 y (List.mem_cons_of_mem _ hy)⟩

/-- `for i in xs: s = f(s, i)` -/
theorem progFold {σ : Type} {f : σ → Nat → Prog σ} (lab : σ → List Label) (S : σ → Prop) (xs : List Nat)
    (hstep : ∀ i ∈ xs, ∀ s, S s → Yields (I ++ lab s) (f s i) lab S) (s : σ) (hs : S s) :
    Yields (I ++ lab s) (progFold xs s f) lab S := by
  intro st P K hinv hk hI
  have h := ok_progFold_idx (f := f) xs (fun _ s st => Inv st P ∧ Kn st (K ++ lab s) ∧ S s) s st
    ⟨hinv, hk.append (hk.mono fun l hl => hI l (List.mem_append_right _ hl)), hs⟩ fun k i s st hk ⟨h1, h2, h3⟩ =>
      (hstep i (List.mem_of_getElem? hk) s h3 st P (K ++ lab s) h1 h2
        (List.mem_append_mono _ fun l hl => hI l (List.mem_append_left _ hl))).lessK fun _ => List.mem_append_left _
  exact h

/-- `[col[0] for col in c]`, `[o[0][0] for o in out]`: one known label from every element -/
theorem foldl_pick {β : Type} (f : List Label → β → Prog (List Label)) (c : List β)
    (hf : ∀ o ∈ c, ∃ z ∈ I, ∀ l, f l o = pure (l ++ [z])) :
    Yields I (c.foldl (fun acc o => acc >>= fun l => f l o) (pure [])) id (fun r => r.length = c.length) := by
  intro st P K hinv hk hI
  refine (ok_foldl f (fun r l st' => st' = st ∧ (∀ o ∈ r, o ∈ c) ∧ l.length + r.length = c.length ∧ ∀ x ∈ l, x ∈ K)
    ?_ c (pure []) st (Ok.ret ⟨rfl, fun _ h => h, by simp, by simp⟩)).mono ?_
  · intro o r l st' ⟨e, hc, hlen, hl⟩
    obtain ⟨z, hz, hfo⟩ := hf o (hc o (by simp))
    rw [hfo]
    refine Ok.ret ⟨e, fun o' ho' => hc o' (by simp [ho']), ?_, ?_⟩
    · simp only [List.length_append, List.length_cons, List.length_nil] at hlen ⊢; omega
    · intro x hx
      rcases List.mem_append.mp hx with h | h
      · exact hl x h
      · rw [List.mem_singleton.mp h]; exact hI z hz
  · intro r st' ⟨e, _, hlen, hl⟩
    subst e
    exact ⟨hinv, hk.append (hk.mono hl), by simpa using hlen⟩

theorem assoc {γ : Type} {f : α → Prog β} {g : β → Prog γ} {lab' : γ → List Label} {R : γ → Prop}
    (h : Yields I ((p >>= f) >>= g) lab' R) : Yields I (p >>= fun a => f a >>= g) lab' R := by
  intro st P K hinv hk hI
  have e : (p >>= fun a => f a >>= g).run st = ((p >>= f) >>= g).run st := by
    rw [run_bind, run_bind, run_bind]
    cases p.run st with
    | error e => rfl
    | ok r => obtain ⟨a, s⟩ := r; simp only; rw [run_bind]
  have := h st P K hinv hk hI
  unfold Ok at this ⊢
  rwa [e]

end Yields

/-- names a derived list (`c.drop 1 ++ [zero]`) of labels that are gates anyway, so that `generalize` can make it opaque -/
theorem Yields.known {α} {J A : List Label} {p : Prog α} {lab : α → List Label} {S : α → Prop}
    (h : Yields (J ++ A) p lab S) (hA : ∀ l ∈ A, l ∈ J) : Yields J p lab S := h.sub (by lmem)

/-- a label that is drawn and never added stays pending and is forgotten -/
theorem Yields.fresh_unused {α} {I r : List Label} {k : Label → Prog α} {lab : α → List Label} {S : α → Prop}
    (h : ∀ l, Yields I (k l) lab S) : Yields I (Prog.fresh r k) lab S :=
  fun _ P K hinv hk hI => Ok.freshK hinv hk fun l st' _ _ i1 k1 _ _ =>
    (h l st' (l :: P) K i1 k1 hI).mono fun _ _ g => ⟨Inv.tail g.1, g.2⟩

/-- `for i in range(a + len - 1, a - 1, -1)`; labels and shape are indexed by the next index -/
theorem Yields.progFold_desc {σ : Type} {f : σ → Nat → Prog σ} {I : List Label} (lab : Nat → σ → List Label)
    (S : Nat → σ → Prop) (len a : Nat)
    (hstep : ∀ i s, a ≤ i → i < a + len → S (i + 1) s → Yields (I ++ lab (i + 1) s) (f s i) (lab i) (S i))
    (s : σ) (hs : S (a + len) s) :
    Yields (I ++ lab (a + len) s) (Cirbo.progFold (List.range' a len).reverse s f) (lab a) (S a) := by
  intro st P K hinv hk hI
  have h := ok_progFold_idx (f := f) (List.range' a len).reverse
    (fun k s st => Inv st P ∧ Kn st (K ++ lab (a + len - k) s) ∧ S (a + len - k) s) s st
    ⟨hinv, hk.append (hk.mono fun l hl => hI l (List.mem_append_right _ hl)), hs⟩ fun k i s st hk ⟨h1, h2, h3⟩ => by
      obtain ⟨hlt, rfl⟩ := List.getElem?_eq_some_iff.mp hk
      rw [List.length_reverse, List.length_range'] at hlt
      rw [List.getElem_reverse, List.getElem_range', Nat.one_mul, List.length_range']
      rw [show a + len - k = a + (len - 1 - k) + 1 by omega] at h2 h3
      rw [show a + len - (k + 1) = a + (len - 1 - k) by omega]
      exact (hstep _ s (by omega) (by omega) h3 st P _ h1 h2
        (List.mem_append_mono _ fun l hl => hI l (List.mem_append_left _ hl))).lessK fun _ => List.mem_append_left _
  rwa [List.length_reverse, List.length_range', Nat.add_sub_cancel] at h

theorem yields_heads {c : List (List Label)} (hne : ∀ col ∈ c, col ≠ []) :
    Yields c.flatten (heads c) id (fun r => r.length = c.length) :=
  .foldl_pick _ c fun col hcol => match col, hne col hcol, hcol with
    | x :: t, _, hcol => ⟨x, List.mem_flatten.mpr ⟨_, hcol, by simp⟩, fun _ => rfl⟩

/-- `Yields.progFold` in the language of `Ok` -/
theorem ca_ok_progFold {σ : Type} {f : σ → Nat → Prog σ} {P : List Label} (lab : σ → List Label) (S : σ → Prop)
    (xs : List Nat)
    (hstep : ∀ i ∈ xs, ∀ (s : σ) (st : GSt) (K : List Label), Inv st P → Kn st K → (∀ l ∈ lab s, l ∈ K) → S s →
      Ok (f s i) st (GPost P K lab S))
    (s : σ) (st : GSt) (K : List Label) (hinv : Inv st P) (hk : Kn st K) (hl : ∀ l ∈ lab s, l ∈ K) (hs : S s) :
    Ok (progFold xs s f) st (GPost P K lab S) := by
  refine ok_progFold_rest (f := f) (fun _ s st => Inv st P ∧ Kn st (K ++ lab s) ∧ S s) xs s st ?_
    ⟨hinv, hk.append (hk.mono hl), hs⟩
  intro i r s st ⟨pre, e⟩ ⟨h1, h2, h3⟩
  exact (hstep i (by rw [← e]; simp) s st (K ++ lab s) h1 h2 (by lmem) h3).lessK (by lmem)

/-- run from `st`, `p` returns a result of shape `S`, or stops because the 128-bit space of random labels is exhausted (the
one failure no argument check can exclude; see `Model/Gen.lean`): `Ok p st (fun a _ => S a)` spelled out -/
def Returns {α} (p : Prog α) (st : GSt) (S : α → Prop) : Prop :=
  (∃ a st', p.run st = .ok (a, st') ∧ S a) ∨ p.run st = .error "LabelSpaceExhausted"

theorem Ok.returns {α} {p : Prog α} {st : GSt} {Q : α → GSt → Prop} {S : α → Prop} (h : Ok p st Q)
    (hS : ∀ a st', Q a st' → S a) : Returns p st S :=
  h.mono hS

theorem kn_labels (st : GSt) : Kn st st.c.labels := fun _ h => h

theorem Yields.returns {α} {I : List Label} {p : Prog α} {lab : α → List Label} {S : α → Prop} (h : Yields I p lab S)
    {st : GSt} (hI : ∀ l ∈ I, l ∈ st.c.labels) : Returns p st S :=
  (h st [] st.c.labels (Inv.nil st) (kn_labels st) hI).returns fun _ _ g => g.2.2

end Cirbo
