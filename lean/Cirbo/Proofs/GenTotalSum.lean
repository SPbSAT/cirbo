import Cirbo.Proofs.GenContract
import Cirbo.Proofs.GenSum
/-!
# Totality of the bit counters and the two-number adders (`summation.py`)

The programs carry labels only: that no level is empty when its first label is read, and that the fuel suffices,
follows from the counts the cost layer states of every result (`shape_*`, through `Ran.cost`).
-/
namespace Cirbo

/-- the labels of a list of pairs `(x, x ⊕ y)`, flattened -/
def sa_pl (l : List (Label × Label)) : List Label := l.flatMap (fun p => [p.1, p.2])

@[simp] theorem sa_pl_nil : sa_pl [] = [] := rfl

@[simp] theorem sa_pl_cons (p : Label × Label) (l : List (Label × Label)) : sa_pl (p :: l) = p.1 :: p.2 :: sa_pl l := rfl

@[simp] theorem sa_pl_append (a b : List (Label × Label)) : sa_pl (a ++ b) = sa_pl a ++ sa_pl b := by
  simp [sa_pl]

theorem sa_mem_pl {x : Label} {l : List (Label × Label)} : x ∈ sa_pl l ↔ ∃ p ∈ l, x = p.1 ∨ x = p.2 := by
  simp [sa_pl]

theorem sa_mem_pl_reverse {x : Label} {l : List (Label × Label)} : x ∈ sa_pl l.reverse ↔ x ∈ sa_pl l := by
  simp [sa_mem_pl]

theorem yields_addSum2 (x1 x2 : Label) : Yields [x1, x2] (addSum2 [x1, x2]) id (fun a => a.length = 2) :=
  .slBlock [(0, 1, t0110), (0, 1, t0001)] [2, 3] [x1, x2] rfl

theorem yields_addSum3 (x1 x2 x3 : Label) : Yields [x1, x2, x3] (addSum3 [x1, x2, x3]) id (fun a => a.length = 2) :=
  .slBlock [(0, 1, t0110), (1, 2, t0110), (3, 4, t0111), (3, 2, t0110), (5, 6, t0110)] [6, 7] [x1, x2, x3] rfl

theorem yields_addStockmeyer (x1 x2 x23 : Label) :
    Yields [x1, x2, x23] (addStockmeyer [x1, x2, x23]) id (fun a => a.length = 2) :=
  .slBlock [(0, 2, t0110), (1, 2, t0010), (0, 2, t0001), (4, 5, t0110)] [3, 6] [x1, x2, x23] rfl

theorem yields_addMdfa (z x1 xy1 x2 xy2 : Label) :
    Yields [z, x1, xy1, x2, xy2] (addMdfa [z, x1, xy1, x2, xy2]) id (fun a => a.length = 3) :=
  .slBlock [(1, 0, t0110), (2, 5, t0111), (2, 0, t0110), (6, 7, t0110), (3, 7, t0110), (7, 4, t0110), (9, 4, t0010),
    (6, 11, t0110)] [10, 8, 12] [z, x1, xy1, x2, xy2] rfl

theorem yields_addSimplifiedMdfa (x1 xy1 x2 xy2 : Label) :
    Yields [x1, xy1, x2, xy2] (addSimplifiedMdfa [x1, xy1, x2, xy2]) id (fun a => a.length = 3) :=
  .slBlock [(1, 0, t0111), (4, 1, t0110), (2, 1, t0110), (1, 3, t0110), (6, 3, t0010), (4, 8, t0110)] [7, 5, 9]
    [x1, xy1, x2, xy2] rfl

def YBlock (n : Nat) (blk : List Label → Prog (List Label)) : Prop :=
  ∀ ins : List Label, ins.length = n → Yields ins (blk ins) id (fun r => r.length = 2)

theorem block_addSum3 : YBlock 3 addSum3 := fun ins h => match ins, h with | [a, b, c], _ => yields_addSum3 a b c

theorem block_addSum2 : YBlock 2 addSum2 := fun ins h => match ins, h with | [a, b], _ => yields_addSum2 a b

theorem block_addSum3Aig : YBlock 3 addSum3Aig := fun ins h => match ins, h with
  | [x1, x2, x3], _ =>
    .slBlock [(0, 1, t0111), (0, 1, t0001), (3, 4, t0010), (5, 2, t0111), (5, 2, t0001), (6, 7, t0010), (4, 7, t0111)]
      [8, 9] [x1, x2, x3] rfl

theorem block_addSum2Aig : YBlock 2 addSum2Aig := fun ins h => match ins, h with
  | [x1, x2], _ => .slBlock [(0, 1, t0111), (0, 1, t0001), (2, 3, t0010)] [4, 3] [x1, x2] rfl

/-- the model's loop returns silently when its fuel is used up: any fuel; that the callers' fuel leaves at most two bits is
`shape_reduce3` -/
theorem yields_reduce3 {blk3 : List Label → Prog (List Label)} (hb : YBlock 3 blk3) : ∀ (fuel : Nat) (nowR next : List Label),
    YieldsL (nowR ++ next) (reduce3 blk3 fuel nowR next) (fun r => r.1 ++ r.2)
  | fuel + 1, a :: b :: c :: rest, next => by
    unfold reduce3
    refine (hb [a, b, c] rfl).bind (by lmem) fun r hr => .pair2_bind hr ?_
    rintro x y rfl
    exact (yields_reduce3 hb fuel (x :: rest) (next ++ [y])).sub (by lmem)
  | 0, _, _ => by unfold reduce3; exact .ret (by lmem) trivial
  | _ + 1, [], _ | _ + 1, [_], _ | _ + 1, [_, _], _ => by unfold reduce3; exact .ret (by lmem) trivial

theorem yields_reduce2 {blk2 : List Label → Prog (List Label)} (hb : YBlock 2 blk2) : ∀ (nowR next : List Label),
    YieldsL (nowR ++ next) (reduce2 blk2 nowR next) (fun r => r.1 ++ r.2)
  | [], _ | [_], _ => .ret (by lmem) trivial
  | a :: b :: rest, next => by
    unfold reduce2
    refine (hb [a, b] rfl).bind (by lmem) fun r hr => .pair2_bind hr ?_
    rintro x y rfl
    exact .ret (by lmem) trivial

/-- the two reductions of a level leave a bit to read, and fewer carries than there were bits -/
theorem ran_reduce32 {blk3 blk2 : List Label → Prog (List Label)} {fuel : Nat} {nowR next n1 nx1 n2 nx2 : List Label}
    (h3 : Ran (reduce3 blk3 fuel nowR next) (n1, nx1)) (h2 : Ran (reduce2 blk2 n1 nx1) (n2, nx2)) (hne : nowR ≠ []) :
    n2 ≠ [] ∧ nx2.length < next.length + nowR.length := by
  obtain ⟨_, c3⟩ := h3.cost
  obtain ⟨_, c2⟩ := h2.cost
  obtain ⟨ys, rfl, a1, a2, _⟩ := shape_reduce3 c3
  have := List.length_pos_iff.mpr (a2 hne)
  rcases shape_reduce2 c2 with ⟨_, b1, ⟨y, rfl⟩, _⟩ | ⟨_, rfl, rfl, _⟩
  · refine ⟨List.length_pos_iff.mp (by omega), ?_⟩
    simp only [List.length_append, List.length_cons, List.length_nil]; omega
  · exact ⟨a2 hne, by rw [List.length_append]; omega⟩

theorem yields_levelsSimple {blk3 blk2 : List Label → Prog (List Label)} (h3 : YBlock 3 blk3) (h2 : YBlock 2 blk2) :
    ∀ (fuel : Nat) (nowR res : List Label), nowR.length < fuel →
      YieldsL (nowR ++ res) (levelsSimple blk3 blk2 fuel nowR res) id
  | n + 1, nowR, res, hf => by
    unfold levelsSimple
    by_cases hne : nowR = []
    · subst hne
      exact .ret (by lmem) trivial
    · rw [if_neg (fun h => hne (List.isEmpty_iff.mp h))]
      refine (yields_reduce3 h3 nowR.length nowR []).bindR (by lmem) ?_
      rintro ⟨n1, nx1⟩ _ r1
      refine (yields_reduce2 h2 n1 nx1).bindR (by lmem) ?_
      rintro ⟨n2, nx2⟩ _ r2
      obtain ⟨b1, b2⟩ := ran_reduce32 r1 r2 hne
      refine (Yields.firstOfRev b1).bind (by lmem) fun r _ => ?_
      exact (yields_levelsSimple h3 h2 n nx2.reverse (res ++ [r])
        (by rw [List.length_reverse]; simp only [List.length_nil] at b2; omega)).sub (by lmem)

theorem yields_addSumNBitsEasy (ins : List Label) (be : Bool) : YieldsL ins (addSumNBitsEasy ins be) id := by
  unfold addSumNBitsEasy
  exact (yields_levelsSimple block_addSum3 block_addSum2 _ _ [] (by rw [List.length_reverse]; exact Nat.lt_add_one _)).bind
    (by lmem [mem_revIf]) fun res _ => .ret (by lmem [mem_revIf]) trivial

theorem yields_pairUp : ∀ (fuel : Nat) (solo : List Label) (pairs : List (Label × Label)),
    YieldsL (solo ++ sa_pl pairs) (pairUp fuel solo pairs) (fun r => r.1 ++ sa_pl r.2)
  | n + 1, a :: b :: rest, pairs => by
    unfold pairUp
    refine Yields.emitTT_bind (by decide) (by lmem) (by lmem) fun xy => ?_
    exact (yields_pairUp n rest ((a, xy) :: pairs)).sub (by lmem [sa_pl_cons])
  | 0, _, _ | _ + 1, [], _ | _ + 1, [_], _ => .ret (by lmem) trivial

theorem yields_mdfaLoop : ∀ (fuel : Nat) (soloR : List Label) (pairsR nextP : List (Label × Label)),
    YieldsL (soloR ++ sa_pl pairsR ++ sa_pl nextP) (mdfaLoop fuel soloR pairsR nextP) (fun r => r.1 ++ sa_pl r.2.1 ++ sa_pl r.2.2)
  | n + 1, s :: srest, q1 :: q2 :: prest, nextP => by
    unfold mdfaLoop
    refine (yields_addMdfa s q1.1 q1.2 q2.1 q2.2).bind (by lmem [sa_pl_cons]) fun r hr => .triple3_bind hr ?_
    rintro z x1 x1y1 rfl
    exact (yields_mdfaLoop n (z :: srest) prest (nextP ++ [(x1, x1y1)])).sub (by lmem [sa_pl_append, sa_pl_cons, sa_pl_nil])
  | n + 1, [], q1 :: q2 :: prest, nextP => by
    unfold mdfaLoop
    refine (yields_addSimplifiedMdfa q1.1 q1.2 q2.1 q2.2).bind (by lmem [sa_pl_cons]) fun r hr => .triple3_bind hr ?_
    rintro z x1 x1y1 rfl
    exact (yields_mdfaLoop n [z] prest (nextP ++ [(x1, x1y1)])).sub (by lmem [sa_pl_append, sa_pl_cons, sa_pl_nil])
  | 0, _, _, _ | _ + 1, _, [], _ | _ + 1, _, [_], _ => .ret (by lmem) trivial

theorem yields_lastPair : ∀ (soloR : List Label) (pairsR : List (Label × Label)) (nextS : List Label),
    YieldsL (soloR ++ sa_pl pairsR ++ nextS) (lastPair soloR pairsR nextS) (fun r => r.1 ++ r.2)
  | _, [], _ | _, _ :: _ :: _, _ => .ret (by lmem) trivial
  | s :: srest, [p], nextS => by
    unfold lastPair
    refine (yields_addStockmeyer s p.1 p.2).bind (by lmem [sa_pl_cons]) fun r hr => .pair2_bind hr ?_
    rintro x y rfl
    exact .ret (by lmem) trivial
  | [], [p], nextS => by
    unfold lastPair
    exact Yields.emitTT_bind (by decide) (by lmem [sa_pl_cons]) (by lmem [sa_pl_cons]) fun cy =>
      .ret (by lmem [sa_pl_cons]) trivial

theorem yields_xaigLevel {soloR : List Label} {pairsR : List (Label × Label)} (hne : 1 ≤ soloR.length + pairsR.length) :
    YieldsL (soloR ++ sa_pl pairsR) (xaigLevel soloR pairsR) (fun r => r.1 :: r.2.1 ++ sa_pl r.2.2) := by
  unfold xaigLevel
  refine (yields_mdfaLoop pairsR.length soloR pairsR []).bindR (by lmem [sa_pl_nil]) ?_
  rintro ⟨s1, p1, nP⟩ _ r1
  obtain ⟨k1, c1⟩ := r1.cost
  obtain ⟨j, a1, _, a3, a4, _⟩ := shape_mdfaLoop _ _ _ _ _ _ _ _ c1
  replace a4 := a4 (by omega)
  refine (yields_lastPair s1 p1 []).bindR (by lmem) ?_
  rintro ⟨s2, nS0⟩ _ r2
  obtain ⟨k2, c2⟩ := r2.cost
  have b1 : 1 ≤ s2.length := by rcases shape_lastPair c2 with ⟨_, b, _⟩ | ⟨_, rfl, _⟩ <;> omega
  refine (yields_reduce3 block_addSum3 s2.length s2 nS0).bindR (by lmem) ?_
  rintro ⟨s3, nS1⟩ _ r3
  refine (yields_reduce2 block_addSum2 s3 nS1).bindR (by lmem) ?_
  rintro ⟨s4, nS2⟩ _ r4
  exact (Yields.firstOfRev (ran_reduce32 r3 r4 (List.length_pos_iff.mp b1)).1).bind (by lmem) fun r _ => .ret (by lmem) trivial

/-- the weighted count `s + 2p` at least halves at every level (`shape_xaigLevel`), so `fuel > s + 2p` suffices -/
theorem yields_xaigLevels : ∀ (fuel : Nat) (soloR : List Label) (pairsR : List (Label × Label)) (res : List Label),
    soloR.length + 2 * pairsR.length < fuel →
    YieldsL (soloR ++ sa_pl pairsR ++ res) (xaigLevels fuel soloR pairsR res) id
  | n + 1, soloR, pairsR, res, hf => by
    unfold xaigLevels
    by_cases he : soloR = [] ∧ pairsR = []
    · obtain ⟨rfl, rfl⟩ := he
      exact .ret (by lmem) trivial
    · rw [if_neg (by simpa only [Bool.and_eq_true, List.isEmpty_iff] using he)]
      have hpos : 1 ≤ soloR.length + pairsR.length := by
        rcases Decidable.not_and_iff_not_or_not.mp he with h | h <;> have := List.length_pos_iff.mpr h <;> omega
      refine (yields_xaigLevel hpos).bindR (by lmem) ?_
      rintro ⟨r, nextS, nextP⟩ _ r1
      obtain ⟨k, c⟩ := r1.cost
      obtain ⟨_, a1, a2, _⟩ := shape_xaigLevel c
      exact (yields_xaigLevels n nextS.reverse nextP.reverse (res ++ [r])
        (by rw [List.length_reverse, List.length_reverse]; omega)).sub (by lmem [sa_mem_pl_reverse])

theorem yields_addSumNBitsXaig (ins : List Label) : YieldsL ins (addSumNBitsXaig ins) id := by
  unfold addSumNBitsXaig
  refine (yields_pairUp ins.length ins.reverse []).bindR (by lmem [sa_pl_nil]) ?_
  rintro ⟨soloR, pairsR⟩ _ r1
  obtain ⟨k, c⟩ := r1.cost
  obtain ⟨a1, a3, _⟩ := shape_pairUp _ _ _ _ _ _ c
  simp only [List.length_reverse, List.length_nil, Nat.zero_add] at a1 a3
  exact (yields_xaigLevels (ins.length + 2) soloR pairsR [] (by omega)).sub (by lmem)

theorem yields_addSumNBitsAig (ins : List Label) : YieldsL ins (addSumNBitsAig ins) id := by
  unfold addSumNBitsAig
  exact (yields_levelsSimple block_addSum3Aig block_addSum2Aig _ _ []
    (by rw [List.length_reverse]; exact Nat.lt_add_one _)).sub (by lmem)

/-- which basis arguments meet the precondition `basis.resolve = .ok b` of the generators -/
theorem sa_resolve_enum (b : Basis) : (BasisArg.enum b).resolve = .ok b := rfl

theorem sa_resolve_str_xaig {s : String} (h : asciiUpper s = "XAIG") : (BasisArg.str s).resolve = .ok .xaig := by
  simp [BasisArg.resolve, h]

theorem sa_resolve_str_aig {s : String} (h : asciiUpper s = "AIG") : (BasisArg.str s).resolve = .ok .aig := by
  simp [BasisArg.resolve, h]

theorem sa_resolve_ok_iff (basis : BasisArg) : (∃ b, basis.resolve = .ok b) ↔
    (∃ b, basis = .enum b) ∨ (∃ s, basis = .str s ∧ (asciiUpper s = "XAIG" ∨ asciiUpper s = "AIG")) := by
  cases basis with
  | enum b => simp [BasisArg.resolve]
  | str s =>
    simp only [BasisArg.resolve, reduceCtorEq, exists_false, false_or, BasisArg.str.injEq, exists_eq_left']
    by_cases h1 : asciiUpper s = "XAIG"
    · simp [h1]
    · by_cases h2 : asciiUpper s = "AIG"
      · simp [h2]
      · simp [h1, h2]

theorem yields_addSumNBits {ins : List Label} {basis : BasisArg} {b : Basis} (be : Bool) (hb : basis.resolve = .ok b) :
    Yields ins (addSumNBits ins basis be) id (fun r => r.length = sa_bitlen ins.length) := by
  have h : YieldsL ins (addSumNBits ins basis be) id := by
    unfold addSumNBits
    rw [hb]
    have hcore : YieldsL (revIf ins be)
        (match b with | .xaig => addSumNBitsXaig (revIf ins be) | .aig => addSumNBitsAig (revIf ins be)) id := by
      cases b with
      | xaig => exact yields_addSumNBitsXaig _
      | aig => exact yields_addSumNBitsAig _
    exact hcore.bind (by lmem [mem_revIf]) fun r _ => .ret (by lmem [mem_revIf]) trivial
  exact h.shapeR fun r _ hr => let ⟨_, c⟩ := hr.cost; shape_addSumNBits c

/-- no condition on the widths: a longer second operand is just not read -/
theorem yields_sumChain : ∀ (xs ys outs : List Label) (carry : Label),
    YieldsL (xs ++ ys ++ outs ++ [carry]) (sumChain xs ys outs carry) (fun r => r.1 ++ [r.2])
  | [], _, _, _ => .ret (by lmem) trivial
  | x :: xs, ys, outs, carry => by
    unfold sumChain
    have hinp : (∀ l ∈ (match ys with | y :: _ => [carry, x, y] | [] => [carry, x]), l ∈ x :: xs ++ ys ++ outs ++ [carry]) ∧
        sa_bitlen (match ys with | y :: _ => [carry, x, y] | [] => [carry, x]).length = 2 ∧ ∀ l ∈ ys.tail, l ∈ ys := by
      cases ys with
      | nil => exact ⟨by lmem, sa_bitlen_two, by lmem [List.tail_nil]⟩
      | cons y yr => exact ⟨by lmem, sa_bitlen_three, by lmem [List.tail_cons]⟩
    refine (yields_addSumNBits false (sa_resolve_enum .xaig)).bind hinp.1 fun r hr => .sumPair_bind (hr.trans hinp.2.1) ?_
    rintro s c rfl
    exact (yields_sumChain xs ys.tail (outs ++ [s]) c).sub (by lmem [hinp.2.2])

theorem yields_sumTwoCore : ∀ (la lb : List Label), 1 ≤ la.length → 1 ≤ lb.length → YieldsL (la ++ lb) (sumTwoCore la lb) id
  | x :: xs, y :: ys, _, _ => by
    unfold sumTwoCore
    refine (yields_addSumNBits (ins := [x, y]) false (sa_resolve_enum .xaig)).bind (by lmem) fun r hr =>
      .sumPair_bind (hr.trans sa_bitlen_two) ?_
    rintro s0 c0 rfl
    exact (yields_sumChain xs ys [s0] c0).bind (by lmem) fun _ _ => .ret (by lmem) trivial

/-- both operands need a bit (the code reads `a[0]` and `b[0]`); widths may differ -/
theorem yields_addSumTwoNumbers {a b : List Label} (be : Bool) (hna : 1 ≤ a.length) (hnb : 1 ≤ b.length) :
    Yields (a ++ b) (addSumTwoNumbers a b be) id (fun r => r.length = max a.length b.length + 1) := by
  have hna' := (revIf_length a be).symm ▸ hna
  have hnb' := (revIf_length b be).symm ▸ hnb
  have hcore : YieldsL (a ++ b) (if (revIf a be).length < (revIf b be).length then sumTwoCore (revIf b be) (revIf a be)
      else sumTwoCore (revIf a be) (revIf b be)) id := by
    split
    · exact (yields_sumTwoCore _ _ hnb' hna').sub (by lmem [mem_revIf])
    · exact (yields_sumTwoCore _ _ hna' hnb').sub (by lmem [mem_revIf])
  have h : YieldsL (a ++ b) (addSumTwoNumbers a b be) id :=
    hcore.bind (fun _ => id) fun r _ => .ret (by lmem [mem_revIf]) trivial
  exact h.shapeR fun r _ hr => let ⟨_, s⟩ := hr.sem; (sem_addSumTwoNumbers s).2

/-- `shift < n`: `add_sum_two_numbers` reads `b[0]`; `shift > n`: the padding zero is built from `a[0]`; `shift = n`: plain
concatenation, either operand may be empty -/
theorem yields_addSumTwoNumbersWithShift {shift : Nat} {a b : List Label} (be : Bool)
    (hpad : a.length < shift → 1 ≤ a.length) (hov : shift < a.length → 1 ≤ b.length) :
    Yields (a ++ b) (addSumTwoNumbersWithShift shift a b be) id
      (fun r => (a.length ≤ shift → r.length = shift + b.length) ∧
        (shift < a.length → r.length = max a.length (b.length + shift) + 1)) := by
  have h : YieldsL (a ++ b) (addSumTwoNumbersWithShift shift a b be) id := by
    unfold addSumTwoNumbersWithShift
    have ha' : ∀ l ∈ revIf a be, l ∈ a := by lmem [mem_revIf]
    have hla := revIf_length a be
    dsimp only
    generalize revIf a be = a0 at ha' hla ⊢
    by_cases hge : shift ≥ a0.length
    · rw [if_pos hge]
      by_cases hne : shift = a0.length
      · rw [if_neg (by simpa using hne)]
        exact .ret (by lmem [mem_revIf]) trivial
      · rw [if_pos (by simpa using hne)]
        match a0, ha', hla with
        | [], _, hla => have := hpad (by omega); rw [← hla] at this; cases this
        | x :: rest, ha', hla =>
          dsimp only
          exact Yields.emitTT_bind (by decide) (by lmem) (by lmem) fun zero =>
            .ret (by lmem [mem_revIf, List.mem_replicate, and_imp]) trivial
    · rw [if_neg hge]
      refine (yields_addSumTwoNumbers false (by rw [List.length_drop]; omega)
        (by rw [revIf_length]; exact hov (by omega))).bind
        (fun l hl => List.mem_append.mpr ((List.mem_append.mp hl).imp (fun h => ha' l (List.mem_of_mem_drop h)) mem_revIf.mp))
        fun res _ => ?_
      have htake : ∀ l ∈ a0.take shift, l ∈ a := fun l h => ha' l (List.mem_of_mem_take h)
      exact .ret (by lmem [mem_revIf]) trivial
  refine h.shapeR fun r _ hr => ?_
  obtain ⟨_, s⟩ := hr.sem
  have hl := (sem_addSumTwoNumbersWithShift s).2
  split at hl <;> exact ⟨fun _ => by omega, fun _ => by omega⟩

end Cirbo
